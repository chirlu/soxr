import SoxrModel.Chan.Lemmas
/-!
# The multi-channel / mono simulation (C06): `soxr_input`, `soxr_output_no_callback`, `soxr_output`

`Rel Sh c ch S s`: `s` is the state of a 1-channel resampler that mirrors channel `c` of the `ch`-channel state `S`.
Every API-layer function preserves it and delivers, on the mono side, exactly channel `c`'s share (`Mirrors`).  Since the
scalar members (`flushing`, `error`, `fn`, `seed`) agree, both sides take the same branches: each proof rewrites the mono
side's tests and counts into the multi side's and is left with the engine lists and the conversion pass.

Function by function in the order of `soxr.c`: first what the model function computes (no `Rel` in sight), then its
simulation.
-/
namespace Soxr.Chan

variable {σ α β κ : Type} {E : Engine σ α} {mc : Nat → List α → List β × Nat × Nat}

structure Rel (Sh : Shape E κ) (c ch : Nat) (S s : St σ) : Prop where
  hc : c < ch
  len : S.eng.length = ch
  clen : S.clipsBy.length = ch
  uni : Uniform Sh S.eng
  eng : s.eng = S.eng[c]?.toList
  clips : s.clips = S.clipsBy.getD c 0
  flushing : s.flushing = S.flushing
  error : s.error = S.error
  fn : s.fn = S.fn
  seed : s.seed = S.seed

/-- what a 1-channel call returns (state, count, output) next to what the `ch`-channel call returns: states related,
    same count, the output is channel `c` of `ch` outputs -/
structure Mirrors (Sh : Shape E κ) (c ch : Nat) (R r : St σ × Nat × List (List β)) : Prop where
  rel : Rel Sh c ch R.1 r.1
  done : r.2.1 = R.2.1
  out : r.2.2 = [R.2.2.getD c []]
  len : R.2.2.length = ch

section
variable {Sh : Shape E κ} {c ch : Nat} {S s : St σ}

theorem Rel.lt (h : Rel Sh c ch S s) : c < S.eng.length := h.len ▸ h.hc

theorem Rel.eng_eq (h : Rel Sh c ch S s) : s.eng = [S.eng[c]'h.lt] := by
  rw [h.eng, List.getElem?_eq_getElem h.lt]; rfl

theorem Rel.blank (h : Rel Sh c ch S s) (n : Nat) : Mirrors Sh c ch (S, n, (blank ch : List (List β))) (s, n, blank 1) :=
  ⟨h, rfl, by rw [blank_getD]; rfl, blank_length ch⟩

theorem Rel.setFlushing (h : Rel Sh c ch S s) : Rel Sh c ch S.setFlushing s.setFlushing := { h with flushing := rfl }

theorem Rel.setError (h : Rel Sh c ch S s) (e : Err) : Rel Sh c ch (S.setError e) (s.setError e) := { h with error := rfl }

theorem Rel.setFn (h : Rel Sh c ch S s) (v : Option Nat) : Rel Sh c ch { S with fn := v } { s with fn := v } :=
  { h with fn := rfl }

/-- the same per-engine operation on every channel -/
theorem Rel.mapEng (h : Rel Sh c ch S s) (f : σ → σ) (hf : ∀ e e', Sh.sh e = Sh.sh e' → Sh.sh (f e) = Sh.sh (f e')) :
    Rel Sh c ch { S with eng := S.eng.map f } { s with eng := s.eng.map f } :=
  { h with len := by simp [h.len]
           uni := uniform_map Sh _ f h.uni hf
           eng := by simp only [h.eng, List.getElem?_map, Option.toList_map] }

theorem Rel.stopNow (h : Rel Sh c ch S s) (a b : Nat) : stopNow s a b = stopNow S a b := by
  simp only [Chan.stopNow, h.fn, h.flushing]

theorem Rel.goOn (h : Rel Sh c ch S s) (a b : Nat) : goOn s a b = goOn S a b := by
  simp only [Chan.goOn, h.flushing]

/-- `soxr_delay` asks the first engine; the engines are count-uniform -/
theorem Rel.delayOf (h : Rel Sh c ch S s) : delayOf E s = delayOf E S := by
  have hlt := h.lt
  have h0 : 0 < S.eng.length := Nat.zero_lt_of_lt hlt
  have hh : S.eng.head? = some S.eng[0] := by rw [List.head?_eq_getElem?, List.getElem?_eq_getElem h0]
  simp only [Chan.delayOf, h.error, h.eng_eq, hh, List.head?_cons, Option.map_some, Option.getD_some, Sh.delay_sh,
    h.uni _ (List.getElem_mem hlt) _ (List.getElem_mem h0)]

end

theorem input_err (cfg : Cfg α β) (S : St σ) (inb : Option (InBuf β)) (len : Nat) (h : S.error.isSome = true) :
    input E cfg S inb len = (S, 0) := by simp [input, h]

theorem input_null (cfg : Cfg α β) (S : St σ) (len : Nat) (h : S.error = none) (hl : len ≠ 0) :
    input E cfg S none len = ({ S with error := some .nullIn }, 0) := by simp [input, h, hl]

theorem input_eof (cfg : Cfg α β) (S : St σ) (inb : Option (InBuf β)) (h : S.error = none) :
    input E cfg S inb 0 = ({ S with flushing := true }, 0) := by cases inb <;> simp [input, h]

theorem input_feed (cfg : Cfg α β) (S : St σ) (b : InBuf β) (len : Nat) (h : S.error = none) (hl : len ≠ 0) :
    input E cfg S (some b) len = ({ S with eng := feedAll E cfg S.eng b len }, len) := by simp [input, h, hl]

theorem feedOpt_eq_self (cfg : Cfg α β) (eng : List σ) (inb : Option (InBuf β)) (ilen : Nat)
    (h : ∀ k e, feed1 E cfg inb ilen k e = e) : feedOpt E cfg eng inb ilen = eng := by
  apply List.ext_getElem?
  intro i
  simp [feedOpt, List.getElem?_mapIdx, h]

theorem feedOpt_none (cfg : Cfg α β) (eng : List σ) (ilen : Nat) : feedOpt E cfg eng none ilen = eng :=
  feedOpt_eq_self cfg eng none ilen (fun _ _ => rfl)

theorem feedOpt_some (cfg : Cfg α β) (eng : List σ) (b : InBuf β) (ilen : Nat) :
    feedOpt E cfg eng (some b) ilen = feedAll E cfg eng b ilen := rfl

/-- `soxr_input` of `ilen` frames (skipped when `ilen = 0`) is "feed every channel" when no error is latched and an
    engine ignores an empty block -/
theorem input_feedOpt (cfg : Cfg α β) (S : St σ) (inb : Option (InBuf β)) (ilen : Nat) (he : S.error.isSome = false)
    (hnil : ∀ e, E.input e [] = e) (hi : inb = none → ilen = 0) :
    (if ilen ≠ 0 then input E cfg S inb ilen else (S, 0)) = ({ S with eng := feedOpt E cfg S.eng inb ilen }, ilen) := by
  by_cases hz : ilen = 0
  · subst hz
    rw [if_neg (by simp), feedOpt_eq_self]
    intro k e
    cases inb with
    | none => rfl
    | some b => simp [feed1, List.length_eq_zero_iff.mp (decodeIn_length cfg 0 b k), hnil]
  · cases inb with
    | none => exact absurd (hi rfl) hz
    | some b => rw [if_pos hz, input_feed cfg S b ilen (by simpa using he) hz]; rfl

theorem feedAll_proj (cfg : Cfg α β) (eng : List σ) (b : InBuf β) (len n c : Nat) (h : len ≤ n) :
    feedAll E (monoCfgC cfg mc) (eng[c]?.toList) (projIn cfg c n b) len = (feedAll E cfg eng b len)[c]?.toList := by
  unfold feedAll
  rw [List.getElem?_mapIdx]
  cases eng[c]? with
  | none => rfl
  | some x => simp [← decode_proj cfg mc c len n b h, monoCfgC]

section
variable {Sh : Shape E κ} {cfg : Cfg α β} {c : Nat} {S s : St σ}

theorem Rel.feedAll (h : Rel Sh c cfg.ch S s) (b : InBuf β) {len n : Nat} (hn : len ≤ n) :
    Rel Sh c cfg.ch { S with eng := feedAll E cfg S.eng b len }
      { s with eng := feedAll E (monoCfgC cfg mc) s.eng (projIn cfg c n b) len } :=
  { h with len := (feedAll_length ..).trans h.len
           uni := uniform_feedAll Sh cfg S.eng b len h.uni
           eng := h.eng ▸ feedAll_proj cfg S.eng b len n c hn }

theorem Rel.feedOpt (h : Rel Sh c cfg.ch S s) (inb : Option (InBuf β)) {ilen n : Nat} (hn : ilen ≤ n) :
    Rel Sh c cfg.ch { S with eng := feedOpt E cfg S.eng inb ilen }
      { s with eng := feedOpt E (monoCfgC cfg mc) s.eng (inb.map (projIn cfg c n)) ilen } := by
  cases inb with
  | none =>
    rw [Option.map_none, feedOpt_none, feedOpt_none]
    exact h
  | some b =>
    rw [Option.map_some, feedOpt_some, feedOpt_some]
    exact h.feedAll b hn

end

theorem input_sim (Sh : Shape E κ) (cfg : Cfg α β) {c : Nat} {S s : St σ} (h : Rel Sh c cfg.ch S s)
    (inb : Option (InBuf β)) (len n : Nat) (hn : len ≤ n) :
    Rel Sh c cfg.ch (input E cfg S inb len).1 (input E (monoCfgC cfg mc) s (inb.map (projIn cfg c n)) len).1 ∧
    (input E (monoCfgC cfg mc) s (inb.map (projIn cfg c n)) len).2 = (input E cfg S inb len).2 := by
  by_cases he : S.error.isSome = true
  · rw [input_err cfg S inb len he, input_err _ s _ len (h.error ▸ he)]
    exact ⟨h, rfl⟩
  have hE : S.error = none := by simpa using he
  have hE' : s.error = none := h.error.trans hE
  by_cases hl : len = 0
  · subst hl
    rw [input_eof cfg S inb hE, input_eof _ s _ hE']
    exact ⟨{ h with flushing := rfl }, rfl⟩
  cases inb with
  | none =>
    rw [input_null cfg S len hE hl, Option.map_none, input_null _ s len hE' hl]
    exact ⟨{ h with error := rfl }, rfl⟩
  | some b =>
    rw [input_feed cfg S b len hE hl, Option.map_some, input_feed _ s _ len hE' hl]
    exact ⟨h.feedAll b hn, rfl⟩

/-- what every channel delivers in one `soxr_output_no_callback` -/
abbrev chanOuts (E : Engine σ α) (fl : Bool) (len : Nat) (eng : List σ) : List (List α) :=
  eng.map (fun e => (out1 E fl e len).1)

/-- `soxr_output_no_callback` for count-uniform engines: `done` is any channel's count and no source is padded -/
theorem outputNoCb_nf (Sh : Shape E κ) (cfg : Cfg α β) (S : St σ) (len : Nat) (hu : Uniform Sh S.eng) {e : σ} (he : e ∈ S.eng) :
    outputNoCb E cfg S len =
      let cv := convAll cfg.cout S.seed (chanOuts E S.flushing len S.eng)
      ({ S with eng := S.eng.map (fun e => (out1 E S.flushing e len).2), clips := S.clips + cv.2.1.sum, seed := cv.2.2,
                clipsBy := addV S.clipsBy cv.2.1 },
       (out1 E S.flushing e len).1.length, cv.1) := by
  have hall : ∀ e' ∈ S.eng, (out1 E S.flushing e' len).1.length = (out1 E S.flushing e len).1.length :=
    fun e' he' => (out1_shape Sh _ len (hu e' he' e he)).1
  have hlast : lastLen (S.eng.map (fun e => out1 E S.flushing e len)) = (out1 E S.flushing e len).1.length :=
    lastLen_of_all _ _ (List.forall_mem_map.mpr hall) (by simpa using List.ne_nil_of_mem he)
  have hsrc : (S.eng.map (fun e => out1 E S.flushing e len)).map
        (fun r => if cfg.osplit then r.1 else takePad cfg.junk (out1 E S.flushing e len).1.length r.1)
      = chanOuts E S.flushing len S.eng := by
    rw [chanOuts, List.map_map]
    apply List.map_congr_left
    intro e' he'
    show (if cfg.osplit then _ else _) = _
    split
    · rfl
    · exact takePad_eq_self _ (hall e' he')
  simp only [outputNoCb, hlast, hsrc, List.map_map, Function.comp_def]

theorem outputNoCb_sim (Sh : Shape E κ) (cfg : Cfg α β) {c : Nat} (V : ChanConv cfg.cout cfg.ch c mc) {S s : St σ}
    (h : Rel Sh c cfg.ch S s) (len : Nat) :
    Mirrors Sh c cfg.ch (outputNoCb E cfg S len) (outputNoCb E (monoCfgC cfg mc) s len) := by
  have hlt := h.lt
  have hmem := List.getElem_mem hlt
  have hx := List.getElem?_eq_getElem hlt
  -- channel c's view of the shared conversion pass
  have hv := V.view S.seed _ (chanOuts E S.flushing len S.eng) (by simp [chanOuts, h.len])
    (List.forall_mem_map.mpr fun e' he' => (out1_shape Sh _ len (h.uni e' he' _ hmem)).1)
  have hys : (chanOuts E S.flushing len S.eng).getD c [] = (out1 E S.flushing S.eng[c] len).1 := by
    simp [chanOuts, List.getD_eq_getElem?_getD, hx]
  rw [hys] at hv
  have hcl : S.clipsBy.length = (convAll cfg.cout S.seed (chanOuts E S.flushing len S.eng)).2.1.length := by
    simp [(convAll_length ..).2, chanOuts, h.clen, h.len]
  rw [outputNoCb_nf Sh cfg S len h.uni hmem,
    outputNoCb_nf Sh (monoCfgC cfg mc) s len (e := S.eng[c]) (by simp [Uniform, h.eng_eq]) (by simp [h.eng_eq])]
  simp only [h.eng_eq, h.flushing, h.seed, monoCfgC, List.map_cons, List.map_nil, convAll]
  refine ⟨{ h with len := by simp [h.len], clen := (addV_length _ _ hcl).trans h.clen, uni := ?_, eng := ?_, clips := ?_,
                   flushing := rfl, seed := hv.2.2.symm }, rfl, congrArg (fun x => [x]) hv.1.symm, by simp [(convAll_length ..).1, h.len]⟩
  · exact uniform_map Sh S.eng _ h.uni (fun e e' he => (out1_shape Sh _ len he).2)
  · simp [hx]
  · show s.clips + [_].sum = (addV _ _).getD c 0
    rw [addV_getD _ _ _ hcl, h.clips, hv.2.1]
    simp

/-- without an input function `soxr_output` is one round of `soxr_output_no_callback` -/
theorem output_no_fn (cfg : Cfg α β) (S : St σ) (olen : Nat) (rs : List (Nat → FnReply β)) (he : S.error.isSome = false)
    (hf : S.fn = none) (hl : S.eng.length = cfg.ch) : output E cfg S true olen rs = outputNoCb E cfg S olen := by
  have hstop : ∀ a, stopNow (outputNoCb E cfg S olen).1 a olen = true := by
    intro a; simp [stopNow, show (outputNoCb E cfg S olen).1.fn = none from hf]
  have hol : cfg.ch = (outputNoCb E cfg S olen).2.2.length := by simp [outputNoCb, (convAll_length ..).1, hl]
  rw [output, if_neg (by simp [he]), if_neg (by simp), pullLoop.eq_def]
  simp only [hstop, if_true, Nat.zero_add]
  rw [hol, appendCh_blank]

/-- the answers of the input function as the 1-channel resampler sees them -/
def projReplies (cfg : Cfg α β) (c : Nat) (rs : List (Nat → FnReply β)) : List (Nat → FnReply β) :=
  rs.map (fun r req => projReply cfg c (r req))

/-- the accumulated output of the pull loop, mono side -/
theorem appendCh_proj (c : Nat) {acc outs : List (List β)} (h : acc.length = outs.length) :
    appendCh [acc.getD c []] [outs.getD c []] = [(appendCh acc outs).getD c []] := by
  rw [appendCh_getD _ _ _ h]; rfl

theorem pullLoop_sim (Sh : Shape E κ) (cfg : Cfg α β) {c : Nat} (V : ChanConv cfg.cout cfg.ch c mc) (ilen len0 : Nat)
    (rs : List (Nat → FnReply β)) {S s : St σ} (h : Rel Sh c cfg.ch S s) (olen odone0 : Nat) {acc : List (List β)}
    (hacc : acc.length = cfg.ch) :
    Mirrors Sh c cfg.ch (pullLoop E cfg ilen len0 rs S olen odone0 acc)
      (pullLoop E (monoCfgC cfg mc) ilen len0 (projReplies cfg c rs) s olen odone0 [acc.getD c []]) := by
  induction rs generalizing S s olen odone0 acc
  -- the head of an iteration is the same whatever answers are left: deliver, accumulate, test for the `break`
  all_goals
    have M := outputNoCb_sim Sh cfg V h olen
    have hl := hacc.trans M.len.symm
    have hacc' := (appendCh_length _ _ hl).trans hacc
    unfold pullLoop
    simp only [projReplies, List.map_nil, List.map_cons, M.done, M.out, M.rel.stopNow, appendCh_proj c hl]
    split
    · exact ⟨M.rel, rfl, rfl, hacc'⟩
  · have M3 := outputNoCb_sim Sh cfg V M.rel.setFlushing (olen - (outputNoCb E cfg S olen).2.1)
    have hl3 := hacc'.trans M3.len.symm
    simp only [M3.done, M3.out, appendCh_proj c hl3]
    exact ⟨M3.rel, rfl, rfl, (appendCh_length _ _ hl3).trans hacc'⟩
  · rename_i r rs ih _
    cases r ilen with
    | fail => exact ⟨M.rel.setError _, rfl, rfl, hacc'⟩
    | data n b =>
      have hi := (input_sim (mc := mc) Sh cfg M.rel (some b) n n (Nat.le_refl n)).1
      rw [Option.map_some] at hi
      simp only [projReply, hi.goOn]
      split
      · exact ih hi _ _ hacc'
      · exact ⟨hi, rfl, rfl, hacc'⟩

theorem output_sim (Sh : Shape E κ) (cfg : Cfg α β) {c : Nat} (V : ChanConv cfg.cout cfg.ch c mc) {S s : St σ}
    (h : Rel Sh c cfg.ch S s) (op : Bool) (len0 : Nat) (rs : List (Nat → FnReply β)) :
    Mirrors Sh c cfg.ch (output E cfg S op len0 rs) (output E (monoCfgC cfg mc) s op len0 (projReplies cfg c rs)) := by
  unfold output
  rw [show s.error.isSome = S.error.isSome by rw [h.error]]
  split
  · exact h.blank 0
  · split
    · exact (h.setError _).blank 0
    · rw [h.fn, show (blank (monoCfgC cfg mc).ch : List (List β)) = [(blank cfg.ch).getD c []] from (h.blank 0).out]
      exact pullLoop_sim Sh cfg V _ _ rs h _ _ (blank_length _)

end Soxr.Chan
