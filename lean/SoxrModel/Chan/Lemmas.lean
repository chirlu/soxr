import SoxrModel.Chan.Model
/-!
# What the C06 theorems ask of engines and conversions

`Shape`: an engine's counts are functions of the history of LENGTHS, so the engines of one resampler, all fed blocks of the
same lengths, stay in the same count state (`Uniform`).  `convAll` threads one dither seed through all channels:
`ChanConv` is what a single channel sees of that pass — the conversion itself when it does not use the seed (`PureConv`),
`chanView` when its seed advance depends on the number of samples only.  Before them, the list operations of
`Chan/Model.lean` entry by entry.
-/
namespace Soxr.Chan

variable {σ α β κ : Type}

theorem getD_map_of_lt {A B : Type} (f : A → B) (l : List A) (c : Nat) (a : A) (b : B) (h : c < l.length) :
    (l.map f).getD c b = f (l.getD c a) := by
  simp [List.getD_eq_getElem?_getD, List.getElem?_eq_getElem h]

theorem getD_mapIdx_of_lt {A B : Type} (f : Nat → A → B) (l : List A) (c : Nat) (a : A) (b : B) (h : c < l.length) :
    (l.mapIdx f).getD c b = f c (l.getD c a) := by
  simp [List.getD_eq_getElem?_getD, List.getElem?_eq_getElem h]

theorem getElem?_toList_of_lt {A : Type} (l : List A) (c : Nat) (a : A) (h : c < l.length) :
    l[c]?.toList = [l.getD c a] := by
  rw [List.getD_eq_getElem?_getD, List.getElem?_eq_getElem h]
  rfl

/-- entry `c` of a `zipWith` of two equally long lists, read with the default the defaults combine to -/
theorem getD_zipWith {A B C : Type} (f : A → B → C) (a : List A) (b : List B) (c : Nat) (da : A) (db : B)
    (h : a.length = b.length) : (List.zipWith f a b).getD c (f da db) = f (a.getD c da) (b.getD c db) := by
  simp only [List.getD_eq_getElem?_getD, List.getElem?_zipWith]
  by_cases hc : c < a.length
  · rw [List.getElem?_eq_getElem hc, List.getElem?_eq_getElem (h ▸ hc)]; rfl
  · rw [List.getElem?_eq_none (by omega), List.getElem?_eq_none (by omega)]; rfl

theorem lastLen_of_all (rs : List (List α × σ)) (v : Nat) (h : ∀ r ∈ rs, r.1.length = v) (hne : rs ≠ []) :
    lastLen rs = v := by
  unfold lastLen
  rw [List.getLast?_eq_some_getLast hne]
  exact h _ (List.getLast_mem hne)

theorem lastLen_nil : lastLen ([] : List (List α × σ)) = 0 := rfl

theorem lastLen_singleton (r : List α × σ) : lastLen [r] = r.1.length := rfl

theorem lastLen_cons (r : List α × σ) (rs : List (List α × σ)) :
    lastLen (r :: rs) = if rs = [] then r.1.length else lastLen rs := by
  cases rs with
  | nil => rfl
  | cons a as => simp [lastLen, List.getLast?_cons_cons]

theorem convAll_length (cout : Nat → List α → List β × Nat × Nat) (seed : Nat) (ys : List (List α)) :
    (convAll cout seed ys).1.length = ys.length ∧ (convAll cout seed ys).2.1.length = ys.length := by
  induction ys generalizing seed with
  | nil => exact ⟨rfl, rfl⟩
  | cons y ys ih => simp [convAll, ih]

theorem addV_length (a b : List Nat) (h : a.length = b.length) : (addV a b).length = a.length := by
  simp [addV, h]

theorem addV_sum : ∀ (a b : List Nat), a.length = b.length → (addV a b).sum = a.sum + b.sum
  | [], [], _ => rfl
  | x :: xs, y :: ys, h => by
    have := addV_sum xs ys (by simpa using h)
    simp only [addV, List.zipWith_cons_cons, List.sum_cons] at this ⊢
    omega

theorem addV_getD (a b : List Nat) (c : Nat) (h : a.length = b.length) :
    (addV a b).getD c 0 = a.getD c 0 + b.getD c 0 :=
  getD_zipWith (· + ·) a b c 0 0 h

theorem appendCh_length (acc outs : List (List β)) (h : acc.length = outs.length) :
    (appendCh acc outs).length = acc.length := by
  simp [appendCh, h]

theorem appendCh_getD (acc outs : List (List β)) (c : Nat) (h : acc.length = outs.length) :
    (appendCh acc outs).getD c [] = acc.getD c [] ++ outs.getD c [] :=
  getD_zipWith (· ++ ·) acc outs c [] [] h

theorem blank_length (ch : Nat) : (blank ch : List (List β)).length = ch := by simp [blank]

theorem blank_getD (ch c : Nat) : (blank ch : List (List β)).getD c [] = [] := by
  simp only [blank, List.getD_eq_getElem?_getD, List.getElem?_replicate]
  split <;> rfl

/-- appending onto the blank accumulator `soxr_output` starts from -/
theorem appendCh_blank : ∀ (outs : List (List β)), appendCh (blank outs.length) outs = outs
  | [] => rfl
  | a :: as => by simpa [appendCh, blank, List.replicate_succ] using appendCh_blank as

@[simp] theorem decodeIn_length (cfg : Cfg α β) (len : Nat) (b : InBuf β) (c : Nat) : (decodeIn cfg len b c).length = len := by
  cases b <;> simp [decodeIn]

/-- a 1-channel resampler reading the projected block sees exactly what channel `c` of the multi-channel one reads -/
theorem decode_proj (cfg : Cfg α β) (mc : Nat → List α → List β × Nat × Nat) (c m n : Nat) (b : InBuf β) (h : m ≤ n) :
    decodeIn (monoCfgC cfg mc) m (projIn cfg c n b) 0 = decodeIn cfg m b c := by
  cases b with
  | inter flat => exact (deinterleave_one ..).trans (takePad_tab _ _ h)
  | split chans => exact takePad_tab _ _ h

theorem decode_encode (cfg : Cfg α β) (len : Nat) (X : List (List β)) (c : Nat) (hc : c < cfg.ch) :
    decodeIn cfg len (encodeIn cfg len X) c = takePad cfg.dflt len (X.getD c []) := by
  unfold encodeIn
  split
  · rfl
  · exact deinterleave_interleave _ _ _ _ _ hc

/-- a count abstraction of an engine: how many samples an engine delivers, and its delay, are functions of the
    history of LENGTHS only (for the constant-rate engine this is the count model of C03) -/
structure Shape (E : Engine σ α) (κ : Type) where
  sh : σ → κ
  inputK : κ → Nat → κ
  flushK : κ → κ
  processK : κ → Nat → κ
  outLen : κ → Nat → Nat
  outputK : κ → Nat → κ
  setRatioK : κ → Nat → Nat → κ
  delayK : κ → Nat
  input_sh : ∀ e xs, sh (E.input e xs) = inputK (sh e) xs.length
  flush_sh : ∀ e, sh (E.flush e) = flushK (sh e)
  process_sh : ∀ e n, sh (E.process e n) = processK (sh e) n
  output_len : ∀ e n, (E.output e n).1.length = outLen (sh e) n
  output_sh : ∀ e n, sh (E.output e n).2 = outputK (sh e) n
  setRatio_sh : ∀ e r l, sh (E.setRatio e r l) = setRatioK (sh e) r l
  delay_sh : ∀ e, E.delay e = delayK (sh e)

/-- a conversion that neither reads nor advances the dither seed (every output type but dithered int16) -/
structure PureConv (cout : Nat → List α → List β × Nat × Nat) where
  f : List α → List β
  g : List α → Nat
  eq : ∀ seed ys, cout seed ys = (f ys, g ys, seed)
  len : ∀ ys, (f ys).length = ys.length

theorem convAll_pure {cout : Nat → List α → List β × Nat × Nat} (P : PureConv cout) (seed : Nat) (ys : List (List α)) :
    convAll cout seed ys = (ys.map P.f, ys.map P.g, seed) := by
  induction ys generalizing seed with
  | nil => rfl
  | cons y ys ih => simp [convAll, P.eq, ih]

/-- `mc` is what channel `c` of a `ch`-channel resampler gets out of the shared conversion pass: its converted samples, its
    clips and the seed the WHOLE pass leaves behind, as a function of the seed before the pass and channel `c`'s samples —
    whenever all channels carry the same number of samples -/
structure ChanConv (cout : Nat → List α → List β × Nat × Nat) (ch c : Nat) (mc : Nat → List α → List β × Nat × Nat) : Prop where
  view : ∀ (seed d : Nat) (ys : List (List α)), ys.length = ch → (∀ y ∈ ys, y.length = d) →
    (convAll cout seed ys).1.getD c [] = (mc seed (ys.getD c [])).1 ∧
    (convAll cout seed ys).2.1.getD c 0 = (mc seed (ys.getD c [])).2.1 ∧
    (convAll cout seed ys).2.2 = (mc seed (ys.getD c [])).2.2

theorem chanConv_of_pure {cout : Nat → List α → List β × Nat × Nat} (P : PureConv cout) (ch c : Nat) (hc : c < ch) :
    ChanConv cout ch c cout := by
  refine ⟨fun seed d ys hl _ => ?_⟩
  rw [convAll_pure P, P.eq]
  exact ⟨getD_map_of_lt P.f ys c [] [] (hl ▸ hc), getD_map_of_lt P.g ys c [] 0 (hl ▸ hc), rfl⟩

/-- the seed after `k` channels of `d` samples each, when the seed advance depends on the seed and the sample count only -/
def skip (adv : Nat → Nat → Nat) (d : Nat) : Nat → Nat → Nat
  | 0, s => s
  | k + 1, s => skip adv d k (adv s d)

/-- channel `c`'s view of a conversion that draws from one seed stream for all `ch` channels in turn -/
def chanView (cout : Nat → List α → List β × Nat × Nat) (adv : Nat → Nat → Nat) (ch c : Nat) :
    Nat → List α → List β × Nat × Nat :=
  fun seed ys => ((cout (skip adv ys.length c seed) ys).1, (cout (skip adv ys.length c seed) ys).2.1, skip adv ys.length ch seed)

/-- a conversion whose seed advance depends on the seed and the number of samples only: channel `k` converts from the seed
    `k` channels' worth of draws further on -/
theorem convAll_skip (cout : Nat → List α → List β × Nat × Nat) (adv : Nat → Nat → Nat)
    (hadv : ∀ seed ys, (cout seed ys).2.2 = adv seed ys.length) (d : Nat) (ys : List (List α)) (seed : Nat)
    (hd : ∀ y ∈ ys, y.length = d) :
    convAll cout seed ys = (ys.mapIdx fun k y => (cout (skip adv d k seed) y).1,
      ys.mapIdx fun k y => (cout (skip adv d k seed) y).2.1, skip adv d ys.length seed) := by
  induction ys generalizing seed with
  | nil => rfl
  | cons y ys ih =>
    have hs : (cout seed y).2.2 = adv seed d := by rw [hadv, hd y List.mem_cons_self]
    rw [convAll, hs, ih _ fun z hz => hd z (List.mem_cons_of_mem _ hz)]
    simp only [List.mapIdx_cons, List.length_cons, skip]

/-- rint-clip.h with dither (two LCG draws per block of 16 and two for the tail): channel `c` sees `chanView` -/
theorem chanConv_of_seedLen (cout : Nat → List α → List β × Nat × Nat) (adv : Nat → Nat → Nat)
    (hadv : ∀ seed ys, (cout seed ys).2.2 = adv seed ys.length) (ch c : Nat) (hc : c < ch) :
    ChanConv cout ch c (chanView cout adv ch c) := by
  refine ⟨fun seed d ys hl hd => ?_⟩
  have hc' : c < ys.length := hl ▸ hc
  have hlen : (ys.getD c []).length = d := by
    rw [List.getD_eq_getElem?_getD, List.getElem?_eq_getElem hc']
    exact hd _ (List.getElem_mem hc')
  rw [convAll_skip cout adv hadv d ys seed hd]
  simp only [chanView, hlen, hl, and_true]
  exact ⟨getD_mapIdx_of_lt _ ys c [] [] hc', getD_mapIdx_of_lt _ ys c [] 0 hc'⟩

variable {E : Engine σ α}

/-- how much `soxr_output_1ch` delivers, and the count state it leaves, depend on the count state only -/
theorem out1_shape (Sh : Shape E κ) (fl : Bool) {e e' : σ} (len : Nat) (h : Sh.sh e = Sh.sh e') :
    (out1 E fl e len).1.length = (out1 E fl e' len).1.length ∧ Sh.sh (out1 E fl e len).2 = Sh.sh (out1 E fl e' len).2 := by
  have : Sh.sh (if fl then E.flush e else e) = Sh.sh (if fl then E.flush e' else e') := by
    cases fl <;> simp [Sh.flush_sh, h]
  simp only [out1, Sh.output_len, Sh.output_sh, Sh.process_sh, this, and_self]

/-- all engines of a resampler are in the same count state -/
def Uniform (Sh : Shape E κ) (eng : List σ) : Prop := ∀ e ∈ eng, ∀ e' ∈ eng, Sh.sh e = Sh.sh e'

theorem uniform_replicate (Sh : Shape E κ) (n : Nat) (e : σ) : Uniform Sh (List.replicate n e) := by
  intro a ha b hb
  rw [List.eq_of_mem_replicate ha, List.eq_of_mem_replicate hb]

theorem uniform_map (Sh : Shape E κ) (eng : List σ) (f : σ → σ) (hu : Uniform Sh eng)
    (hf : ∀ e e', Sh.sh e = Sh.sh e' → Sh.sh (f e) = Sh.sh (f e')) : Uniform Sh (eng.map f) := by
  intro a ha b hb
  obtain ⟨a', ha', rfl⟩ := List.mem_map.mp ha
  obtain ⟨b', hb', rfl⟩ := List.mem_map.mp hb
  exact hf _ _ (hu a' ha' b' hb')

theorem feedAll_length (cfg : Cfg α β) (eng : List σ) (b : InBuf β) (len : Nat) :
    (feedAll E cfg eng b len).length = eng.length := by
  simp [feedAll]

theorem uniform_feedAll (Sh : Shape E κ) (cfg : Cfg α β) (eng : List σ) (b : InBuf β) (len : Nat)
    (hu : Uniform Sh eng) : Uniform Sh (feedAll E cfg eng b len) := by
  intro a ha a' ha'
  obtain ⟨i, hi, rfl⟩ := List.mem_mapIdx.mp ha
  obtain ⟨j, hj, rfl⟩ := List.mem_mapIdx.mp ha'
  simp only [Sh.input_sh, List.length_map, decodeIn_length, hu _ (List.getElem_mem hi) _ (List.getElem_mem hj)]

end Soxr.Chan
