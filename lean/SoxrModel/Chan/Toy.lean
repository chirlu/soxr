import SoxrModel.Chan.Lemmas
/-!
# A concrete engine and concrete conversions for the executable tie (and for non-vacuity)

`harness/chan/api.c` plugs the SAME toy engine (as C code, through `control_block`) under the real `soxr.c` / `data-io.c`;
the driver `soxr_chan` runs the model over it.  Samples are integers in units of 1/32768 of full scale, so every datatype
conversion of the real code is exact and the caller-visible samples can be compared as integers.

Toy engine: `input` queues samples; `process n` runs rounds while fewer than `n` outputs are queued and input is left
(`m` samples per round, or what is left once flushing): a round consumes `k = min m (#queued)` samples `b` and queues `l`
outputs `scale · b[j mod k]`; `output n` hands over at most `n` queued outputs.  Counts never depend on values.

Conversions (`toyCout`), per output datatype as `data-io.c` / `rint-clip.h` do on integer-valued samples:
float32/float64: identity; int32: ×65536, saturate at ±2³¹ (count); int16: saturate at ±2¹⁵ (count); int16 with dither:
`rint-clip.h`'s LCG (`seed = 1664525·seed + 1013904223` on `unsigned long`), two draws per block of 16 and two for the
tail, `(ran1 >>= 3) & 31` / `(ran2 >>= 3) & 31` per sample, difference/32 added, x87 round-half-even, saturate.
-/
namespace Soxr.Chan.Toy

structure TE where
  inq : List Int
  outq : List Int
  fl : Bool
  m : Nat
  l : Nat
  scale : Nat

def round1 (e : TE) : TE :=
  let k := min (max e.m 1) e.inq.length
  let blk := e.inq.take k
  { e with inq := e.inq.drop k,
           outq := e.outq ++ (List.range e.l).map (fun j => (blk.getD (j % k) 0) * (e.scale : Int)) }

def wants (e : TE) (n : Nat) : Bool := e.outq.length < n && e.inq.length != 0 && (max e.m 1 ≤ e.inq.length || e.fl)

def loop : Nat → TE → Nat → TE
  | 0, e, _ => e
  | fuel + 1, e, n => if wants e n then loop fuel (round1 e) n else e

def engine (m l scale : Nat) : Engine TE Int where
  init := { inq := [], outq := [], fl := false, m := m, l := l, scale := scale }
  input := fun e xs => { e with inq := e.inq ++ xs }
  flush := fun e => { e with fl := true }
  process := fun e n => loop e.inq.length e n
  output := fun e n => (e.outq.take n, { e with outq := e.outq.drop n })
  setRatio := fun e r _ => { e with m := r / 16, l := r % 16 }
  delay := fun e => e.inq.length + e.outq.length + (if e.fl then 1000 else 0)   -- the flush latch shows in soxr_delay

/-! ### the count abstraction of the toy engine -/

structure TK where
  i : Nat
  o : Nat
  fl : Bool
  m : Nat
  l : Nat
  deriving DecidableEq

def sh (e : TE) : TK := { i := e.inq.length, o := e.outq.length, fl := e.fl, m := e.m, l := e.l }

def round1K (k : TK) : TK := { k with i := k.i - min (max k.m 1) k.i, o := k.o + k.l }
def wantsK (k : TK) (n : Nat) : Bool := k.o < n && k.i != 0 && (max k.m 1 ≤ k.i || k.fl)
def loopK : Nat → TK → Nat → TK
  | 0, k, _ => k
  | fuel + 1, k, n => if wantsK k n then loopK fuel (round1K k) n else k

theorem sh_round1 (e : TE) : sh (round1 e) = round1K (sh e) := by
  simp [sh, round1, round1K]

theorem wants_sh (e : TE) (n : Nat) : wants e n = wantsK (sh e) n := rfl

theorem sh_loop (fuel : Nat) (e : TE) (n : Nat) : sh (loop fuel e n) = loopK fuel (sh e) n := by
  induction fuel generalizing e with
  | zero => rfl
  | succ f ih =>
    rw [loop, loopK, wants_sh]
    split
    · rw [ih, sh_round1]
    · rfl

def shape (m l scale : Nat) : Shape (engine m l scale) TK where
  sh := sh
  inputK := fun k n => { k with i := k.i + n }
  flushK := fun k => { k with fl := true }
  processK := fun k n => loopK k.i k n
  outLen := fun k n => min n k.o
  outputK := fun k n => { k with o := k.o - n }
  setRatioK := fun k r _ => { k with m := r / 16, l := r % 16 }
  delayK := fun k => k.i + k.o + (if k.fl then 1000 else 0)
  input_sh := by intro e xs; simp [engine, sh]
  flush_sh := by intro e; simp [engine, sh]
  process_sh := by intro e n; exact sh_loop _ e n
  output_len := by intro e n; simp [engine, sh]
  output_sh := by intro e n; simp [engine, sh]
  setRatio_sh := by intro e r l; simp [engine, sh]
  delay_sh := by intro e; rcases e with ⟨i, o, fl, m, l, sc⟩; cases fl <;> rfl

def lcg (seed : Nat) : Nat := (1664525 * seed + 1013904223) % 2 ^ 64

/-- x87 `fistp` of `t + k/32` (round to nearest, ties to even), `-31 ≤ k ≤ 31` -/
def roundDither (t k : Int) : Int :=
  if k ≥ 17 then t + 1 else if k ≤ -17 then t - 1
  else if k = 16 then (if t % 2 = 0 then t else t + 1)
  else if k = -16 then (if t % 2 = 0 then t else t - 1)
  else t

def sat16 (v : Int) : Int × Nat := if v > 32767 then (32767, 1) else if v < -32768 then (-32768, 1) else (v, 0)

/-- one block (≤ 16 samples) with freshly drawn `ran1`, `ran2` -/
def ditherBlock : List Int → Nat → Nat → List Int × Nat
  | [], _, _ => ([], 0)
  | t :: ts, ran1, ran2 =>
    let r1 := ran1 / 8
    let r2 := ran2 / 8
    let k : Int := ((r1 % 32 : Nat) : Int) - ((r2 % 32 : Nat) : Int)
    let s := sat16 (roundDither t k)
    let rest := ditherBlock ts r1 r2
    (s.1 :: rest.1, s.2 + rest.2)

/-- `lsx_rint16_clip_dither`: blocks of 16 while at least 16 samples remain, then the tail (possibly empty) — each with
    two fresh draws -/
def ditherAll : Nat → List Int → Nat → List Int × Nat × Nat
  | 0, _, seed => ([], 0, seed)
  | fuel + 1, ys, seed =>
    let s1 := lcg seed
    let s2 := lcg s1
    if ys.length < 16 then
      let b := ditherBlock ys (s1 / 8) (s2 / 8)
      (b.1, b.2, s2)
    else
      let b := ditherBlock (ys.take 16) (s1 / 8) (s2 / 8)
      let rest := ditherAll fuel (ys.drop 16) s2
      (b.1 ++ rest.1, b.2 + rest.2.1, rest.2.2)

def sat32 (y : Int) : Int × Nat :=
  if y ≥ 32768 then (2147483647, 1) else if y < -32768 then (-2147483648, 1) else (y * 65536, 0)

/-- one channel through `_soxr_interleave*`; `otype`: 0 float32, 1 float64, 2 int32, 3 int16 -/
def toyCout (otype : Nat) (dither : Bool) (seed : Nat) (ys : List Int) : List Int × Nat × Nat :=
  if otype = 2 then ((ys.map (fun y => (sat32 y).1)), (ys.map (fun y => (sat32 y).2)).sum, seed)
  else if otype = 3 then
    if dither then ditherAll (ys.length / 16 + 1) ys seed
    else ((ys.map (fun y => (sat16 y).1)), (ys.map (fun y => (sat16 y).2)).sum, seed)
  else (ys, 0, seed)

def pureToy (otype : Nat) (dither : Bool) (h : ¬ (otype = 3 ∧ dither = true)) : PureConv (toyCout otype dither) where
  f := fun ys => if otype = 2 then ys.map (fun y => (sat32 y).1) else if otype = 3 then ys.map (fun y => (sat16 y).1) else ys
  g := fun ys => if otype = 2 then (ys.map (fun y => (sat32 y).2)).sum else if otype = 3 then (ys.map (fun y => (sat16 y).2)).sum else 0
  eq := by
    intro seed ys
    unfold toyCout
    by_cases h2 : otype = 2
    · simp [h2]
    · by_cases h3 : otype = 3
      · have hd : dither = false := by
          cases dither
          · rfl
          · exact absurd ⟨h3, rfl⟩ h
        simp [h3, hd]
      · simp [h2, h3]
  len := by
    intro ys
    by_cases h2 : otype = 2
    · simp [h2]
    · by_cases h3 : otype = 3
      · simp [h3]
      · simp [h2, h3]

theorem ditherAll_seed (fuel : Nat) (ys zs : List Int) (seed : Nat) (h : ys.length = zs.length) :
    (ditherAll fuel ys seed).2.2 = (ditherAll fuel zs seed).2.2 := by
  induction fuel generalizing ys zs seed with
  | zero => rfl
  | succ f ih =>
    simp only [ditherAll, h]
    split
    · rfl
    · exact ih _ _ _ (by simp [h])

/-- the dithering conversion advances the seed by a function of (seed, number of samples) only -/
theorem dither_seed_len (seed : Nat) (ys : List Int) :
    (toyCout 3 true seed ys).2.2 = (ditherAll (ys.length / 16 + 1) (List.replicate ys.length 0) seed).2.2 := by
  simp only [toyCout]
  exact ditherAll_seed _ _ _ _ (by simp)

/-- the model configuration of a toy job -/
def cfg (ch : Nat) (isplit osplit : Bool) (otype : Nat) (dither : Bool) (m l : Nat) (vr : Bool) : Cfg Int Int where
  ch := ch
  isplit := isplit
  osplit := osplit
  cin := id
  cout := toyCout otype dither
  iForO := fun olen => (olen * m + l - 1) / l      -- ceil(olen · m/l), exact in double for the sizes used
  hasSetRatio := vr
  sameRatio := fun r => r == m * 16 + l
  dflt := 0
  junk := 0

end Soxr.Chan.Toy
