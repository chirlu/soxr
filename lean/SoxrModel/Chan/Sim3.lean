import SoxrModel.Chan.Sim2
/-!
# C06: one API step and whole runs (multi vs mono); the clip-count invariant `clips = Σ per-channel clips`
-/
namespace Soxr.Chan

variable {σ α β κ : Type} {E : Engine σ α} {mc : Nat → List α → List β × Nat × Nat}

/-- what the caller of the 1-channel resampler sees of a call is channel `c`'s share of what the other caller sees -/
theorem Mirrors.step {Sh : Shape E κ} {c ch : Nat} {R r : St σ × Nat × List (List β)} (M : Mirrors Sh c ch R r)
    {a a' ret ret' : Nat} (ha : a' = a) (hr : ret' = ret) :
    Rel Sh c ch R.1 r.1 ∧ mkObs E r.1 a' r.2.1 ret' r.2.2 = projObs c (mkObs E R.1 a R.2.1 ret R.2.2) := by
  simp only [mkObs, projObs, M.rel.error, M.rel.flushing, M.rel.delayOf, M.done, M.out, ha, hr, M.rel, true_and]

theorem rel_init (Sh : Shape E κ) (ch c seed : Nat) (hc : c < ch) : Rel Sh c ch (initSt E ch seed) (initSt E 1 seed) := by
  refine ⟨hc, by simp [initSt], by simp [initSt], uniform_replicate Sh _ _, ?_, ?_, rfl, rfl, rfl, rfl⟩
  · simp [initSt, hc]
  · simp [initSt, List.getD_eq_getElem?_getD, hc]

/-- one API call: the 1-channel resampler fed channel `c` alone stays in step and sees channel `c`'s share of everything
    the caller of the multi-channel resampler sees -/
theorem step_sim (Sh : Shape E κ) (cfg : Cfg α β) {c : Nat} (V : ChanConv cfg.cout cfg.ch c mc) {S s : St σ}
    (h : Rel Sh c cfg.ch S s) (op : Op β) :
    Rel Sh c cfg.ch (step E cfg S op).1 (step E (monoCfgC cfg mc) s (projOp cfg c op)).1 ∧
    (step E (monoCfgC cfg mc) s (projOp cfg c op)).2 = projObs c (step E cfg S op).2 := by
  cases op with
  | process inb ilen0 fr wi op olen rs =>
    obtain ⟨M, hi⟩ := process_sim Sh cfg V h inb ilen0 fr wi op olen rs
    exact M.step hi (congrArg (fun e : Option Err => if e.isSome then 1 else 0) M.rel.error)
  | output op olen rs => exact (output_sim Sh cfg V h op olen rs).step rfl rfl
  | setInputFn m => exact ((h.setFn _).blank 0).step rfl rfl
  | setRatio r slew =>
    simp only [step, projOp]
    rw [show s.error.isSome = S.error.isSome by rw [h.error], show (monoCfgC cfg mc).hasSetRatio = cfg.hasSetRatio from rfl]
    split
    · exact (h.blank 0).step rfl rfl
    · split
      · have hm := h.mapEng (fun e => E.setRatio e r slew) (fun e e' he => by rw [Sh.setRatio_sh, Sh.setRatio_sh, he])
        exact (hm.blank 0).step rfl rfl
      · exact (h.blank 0).step rfl rfl
  | clear =>
    have h1 : Rel Sh c cfg.ch { (initSt E cfg.ch 0) with fn := S.fn } { (initSt E 1 0) with fn := s.fn } :=
      { rel_init Sh cfg.ch c 0 h.hc with fn := h.fn }
    exact (h1.blank 0).step rfl rfl

theorem run_sim (Sh : Shape E κ) (cfg : Cfg α β) {c : Nat} (V : ChanConv cfg.cout cfg.ch c mc) (ops : List (Op β))
    {S s : St σ} (h : Rel Sh c cfg.ch S s) :
    Rel Sh c cfg.ch (run E cfg S ops).1 (run E (monoCfgC cfg mc) s (ops.map (projOp cfg c))).1 ∧
    (run E (monoCfgC cfg mc) s (ops.map (projOp cfg c))).2 = (run E cfg S ops).2.map (projObs c) := by
  induction ops generalizing S s with
  | nil => exact ⟨h, rfl⟩
  | cons op ops ih =>
    obtain ⟨h1, h2⟩ := step_sim Sh cfg V h op
    obtain ⟨h3, h4⟩ := ih h1
    refine ⟨h3, ?_⟩
    show _ :: _ = _ :: _
    rw [h2, h4]

/-- `clips` is the sum of the per-channel shares (ghost `clipsBy`), whatever the conversion does with the seed; there is one
    share per channel.  A conjunction and not a structure: calls that only touch `flushing`, `error`, `fn` keep it by
    definitional unfolding. -/
def ClipInv (ch : Nat) (S : St σ) : Prop := S.clips = S.clipsBy.sum ∧ S.clipsBy.length = ch ∧ S.eng.length = ch

section
variable {ch : Nat} {S : St σ}

theorem ClipInv.eng (h : ClipInv ch S) {eng : List σ} (he : eng.length = S.eng.length) : ClipInv ch { S with eng := eng } :=
  ⟨h.1, h.2.1, he.trans h.2.2⟩

theorem ClipInv.outputNoCb (h : ClipInv ch S) (cfg : Cfg α β) (len : Nat) : ClipInv ch (outputNoCb E cfg S len).1 := by
  simp only [Chan.outputNoCb]
  generalize hv : (convAll cfg.cout S.seed _).2.1 = v
  have hl : S.clipsBy.length = v.length := by rw [← hv, (convAll_length ..).2]; simp [h.2.1, h.2.2]
  exact ⟨by rw [addV_sum _ _ hl, h.1], (addV_length _ _ hl).trans h.2.1, by simp [h.2.2]⟩

theorem ClipInv.input (h : ClipInv ch S) (cfg : Cfg α β) (inb : Option (InBuf β)) (len : Nat) :
    ClipInv ch (input E cfg S inb len).1 := by
  fun_cases Chan.input E cfg S inb len
  case case5 => exact h.eng (feedAll_length ..)   -- the one exit that touches the engines
  all_goals exact h

theorem ClipInv.pullLoop (h : ClipInv ch S) (cfg : Cfg α β) (ilen len0 : Nat) (rs : List (Nat → FnReply β))
    (olen odone0 : Nat) (acc : List (List β)) : ClipInv ch (pullLoop E cfg ilen len0 rs S olen odone0 acc).1 := by
  fun_induction Chan.pullLoop E cfg ilen len0 rs S olen odone0 acc
  case case2 => exact ClipInv.outputNoCb (S := St.setFlushing _) (h.outputNoCb ..) ..   -- answers used up: second delivery
  case case4 ih => exact ih ((h.outputNoCb ..).input ..)                                -- input taken, next iteration
  case case5 => exact (h.outputNoCb ..).input ..                                        -- input taken, loop ends
  all_goals exact h.outputNoCb ..                                                       -- `break`, or the function failed

theorem ClipInv.output (h : ClipInv ch S) (cfg : Cfg α β) (op : Bool) (len0 : Nat) (rs : List (Nat → FnReply β)) :
    ClipInv ch (output E cfg S op len0 rs).1 := by
  fun_cases Chan.output E cfg S op len0 rs
  case case3 => exact h.pullLoop ..
  all_goals exact h

theorem ClipInv.process (cfg : Cfg α β) (h : ClipInv cfg.ch S) (inb : Option (InBuf β)) (ilen0 : Nat) (fr wi op : Bool)
    (olen : Nat) (rs : List (Nat → FnReply β)) : ClipInv cfg.ch (process E cfg S inb ilen0 fr wi op olen rs).st := by
  have hfl : ClipInv cfg.ch (procFlush cfg S inb ilen0 fr wi olen) := h
  by_cases hn : op = false ∧ inb.isNone
  · rw [process_nobuf hn]
    show ClipInv _ (flushAll E _)
    unfold flushAll
    split
    · exact hfl.eng (List.length_map ..)
    · exact hfl
  cases hE : S.error.isSome
  · by_cases hs : cfg.isplit = true ∧ cfg.osplit = true
    · rw [process_split_eq hs hn hE]
      exact (hfl.eng (by simp [feedOpt, procFlush])).outputNoCb ..
    · rw [process_generic hs hn hE]
      refine ClipInv.output ?_ ..
      split
      · exact hfl.input ..
      · exact hfl
  · rw [process_err hn hE]
    exact hfl

end

theorem clipInv_init (ch seed : Nat) : ClipInv ch (initSt E ch seed) := by
  simp [ClipInv, initSt]

theorem ClipInv.step (cfg : Cfg α β) {S : St σ} (h : ClipInv cfg.ch S) (op : Op β) : ClipInv cfg.ch (step E cfg S op).1 := by
  fun_cases Chan.step E cfg S op
  case case1 => exact h.process ..
  case case2 => exact h.output ..
  case case5 => exact h.eng (List.length_map ..)          -- `set_io_ratio` reaches the engines
  case case7 => exact clipInv_init (E := E) cfg.ch 0      -- `clear`
  all_goals exact h

theorem ClipInv.run (cfg : Cfg α β) (ops : List (Op β)) {S : St σ} (h : ClipInv cfg.ch S) :
    ClipInv cfg.ch (run E cfg S ops).1 := by
  induction ops generalizing S with
  | nil => exact h
  | cons op ops ih => exact ih (h.step cfg op)

end Soxr.Chan
