import SoxrModel.Chan.Sim
/-!
# C06: `soxr_process` — its four exits as equations, the both-split loop in normal form, and the simulation
-/
namespace Soxr.Chan

variable {σ α β κ : Type} {E : Engine σ α} {mc : Nat → List α → List β × Nat × Nat}

/-- the loop as written (input and output of channel `u` interleaved, `odone` overwritten) computes the same as:
    all inputs, then all outputs, then the conversions in channel order -/
theorem splitLoop_nf (cfg : Cfg α β) (fl : Bool) (inb : Option (InBuf β)) (ilen olen : Nat) (eng : List σ) (i seed : Nat) :
    splitLoop E cfg fl inb ilen olen i eng seed =
      let fed := eng.mapIdx (fun k e => feed1 E cfg inb ilen (i + k) e)
      let cv := convAll cfg.cout seed (chanOuts E fl olen fed)
      (fed.map (fun e => (out1 E fl e olen).2), cv.1, cv.2.1, cv.2.2,
        if eng = [] then none else some (lastLen (fed.map (fun e => out1 E fl e olen)))) := by
  induction eng generalizing i seed with
  | nil => rfl
  | cons e es ih =>
    have hidx : ∀ k, i + 1 + k = i + (k + 1) := by omega
    rw [splitLoop, ih]
    cases es <;> simp [convAll, lastLen_cons, hidx]

section
variable {cfg : Cfg α β} {s : St σ} {inb : Option (InBuf β)} {ilen0 : Nat} {fr wi op : Bool} {olen : Nat}
  {rs : List (Nat → FnReply β)}

/-- no buffers at all (commit ab95331) -/
theorem process_nobuf (hn : op = false ∧ inb.isNone) :
    process E cfg s inb ilen0 fr wi op olen rs
      = { st := flushAll E (procFlush cfg s inb ilen0 fr wi olen), idone := procIlen cfg inb ilen0 wi olen, odone := 0,
          out := blank cfg.ch } := by
  rw [process, if_pos hn]

/-- a latched error: `soxr_process` returns at once on either path (commit 27b24c1), after the flush bookkeeping -/
theorem process_err (hn : ¬ (op = false ∧ inb.isNone)) (he : s.error.isSome = true) :
    process E cfg s inb ilen0 fr wi op olen rs
      = { st := procFlush cfg s inb ilen0 fr wi olen, idone := 0, odone := 0, out := blank cfg.ch } := by
  rw [process, if_neg hn, if_pos (show (procFlush cfg s inb ilen0 fr wi olen).error.isSome = true from he)]

/-- the both-split branch: every channel's input, then `soxr_output_no_callback` -/
theorem process_split_eq (hs : cfg.isplit = true ∧ cfg.osplit = true) (hn : ¬ (op = false ∧ inb.isNone))
    (he : s.error.isSome = false) :
    process E cfg s inb ilen0 fr wi op olen rs =
      let ilen := procIlen cfg inb ilen0 wi olen
      let o := outputNoCb E cfg { (procFlush cfg s inb ilen0 fr wi olen) with eng := feedOpt E cfg s.eng inb ilen } olen
      { st := o.1, idone := ilen, odone := o.2.1, out := o.2.2 } := by
  have he' : ¬ (procFlush cfg s inb ilen0 fr wi olen).error.isSome = true := by simp [procFlush, he]
  rw [process, if_neg hn, if_neg he', if_pos hs, splitLoop_nf]
  simp only [outputNoCb, hs, if_true, Nat.zero_add, List.map_map, Function.comp_def]
  by_cases hnil : s.eng = []
  · simp [hnil, feedOpt, procFlush, lastLen, convAll]
  · rw [if_neg (show (procFlush cfg s inb ilen0 fr wi olen).eng ≠ [] from hnil)]
    rfl

/-- the generic branch: `soxr_input`, then `soxr_output` -/
theorem process_generic (hs : ¬ (cfg.isplit = true ∧ cfg.osplit = true)) (hn : ¬ (op = false ∧ inb.isNone))
    (he : s.error.isSome = false) :
    process E cfg s inb ilen0 fr wi op olen rs =
      let ilen := procIlen cfg inb ilen0 wi olen
      let s0 := procFlush cfg s inb ilen0 fr wi olen
      let r1 := if ilen ≠ 0 then input E cfg s0 inb ilen else (s0, 0)
      let r2 := output E cfg r1.1 op olen rs
      { st := r2.1, idone := r1.2, odone := r2.2.1, out := r2.2.2 } := by
  have he' : ¬ (procFlush cfg s inb ilen0 fr wi olen).error.isSome = true := by simp [procFlush, he]
  rw [process, if_neg hn, if_neg he', if_neg hs]

end

theorem procIlen_le (cfg : Cfg α β) (inb : Option (InBuf β)) (ilen0 : Nat) (wi : Bool) (olen : Nat) :
    procIlen cfg inb ilen0 wi olen ≤ ilen0 := by
  unfold procIlen
  split
  · exact Nat.zero_le _
  · split <;> omega

theorem procIlen_proj (cfg : Cfg α β) (c : Nat) (inb : Option (InBuf β)) (ilen0 : Nat) (wi : Bool) (olen : Nat) :
    procIlen (monoCfgC cfg mc) (inb.map (projIn cfg c ilen0)) ilen0 wi olen = procIlen cfg inb ilen0 wi olen := by
  cases inb <;> rfl

section
variable {Sh : Shape E κ} {cfg : Cfg α β} {c : Nat} {S s : St σ}

theorem Rel.flushAll {ch : Nat} (h : Rel Sh c ch S s) : Rel Sh c ch (flushAll E S) (flushAll E s) := by
  have hc : (s.flushing = true ∧ s.error.isSome = false) = (S.flushing = true ∧ S.error.isSome = false) := by
    rw [h.flushing, h.error]
  simp only [Chan.flushAll, hc]
  split
  · exact h.mapEng _ (fun e e' he => by rw [Sh.flush_sh, Sh.flush_sh, he])
  · exact h

theorem Rel.procFlush (h : Rel Sh c cfg.ch S s) (inb : Option (InBuf β)) (ilen0 : Nat) (fr wi : Bool) (olen : Nat) :
    Rel Sh c cfg.ch (procFlush cfg S inb ilen0 fr wi olen)
      (procFlush (monoCfgC cfg mc) s (inb.map (projIn cfg c ilen0)) ilen0 fr wi olen) := by
  refine { h with flushing := ?_ }
  simp only [Chan.procFlush, procIlen_proj, h.flushing]
  cases inb <;> rfl

end

/-- what of a `soxr_process` result `Mirrors` speaks about -/
def ProcRes.tri (r : ProcRes σ β) : St σ × Nat × List (List β) := (r.st, r.odone, r.out)

/-- `soxr_process`, whichever path the layout selects: the 1-channel run mirrors channel `c` -/
theorem process_sim (Sh : Shape E κ) (cfg : Cfg α β) {c : Nat} (V : ChanConv cfg.cout cfg.ch c mc) {S s : St σ}
    (h : Rel Sh c cfg.ch S s) (inb : Option (InBuf β)) (ilen0 : Nat) (fr wi op : Bool) (olen : Nat)
    (rs : List (Nat → FnReply β)) :
    Mirrors Sh c cfg.ch (process E cfg S inb ilen0 fr wi op olen rs).tri
      (process E (monoCfgC cfg mc) s (inb.map (projIn cfg c ilen0)) ilen0 fr wi op olen (projReplies cfg c rs)).tri ∧
    (process E (monoCfgC cfg mc) s (inb.map (projIn cfg c ilen0)) ilen0 fr wi op olen (projReplies cfg c rs)).idone
      = (process E cfg S inb ilen0 fr wi op olen rs).idone := by
  have hnone : (inb.map (projIn cfg c ilen0)).isNone = inb.isNone := by cases inb <;> rfl
  have hfl := h.procFlush (mc := mc) inb ilen0 fr wi olen
  have hle := procIlen_le cfg inb ilen0 wi olen
  by_cases hn : op = false ∧ inb.isNone
  · rw [process_nobuf hn, process_nobuf (hnone ▸ hn), procIlen_proj]
    exact ⟨hfl.flushAll.blank 0, rfl⟩
  cases hE : S.error.isSome
  · by_cases hs : cfg.isplit = true ∧ cfg.osplit = true
    · rw [process_split_eq hs hn hE, process_split_eq (cfg := monoCfgC cfg mc) hs (hnone ▸ hn) (h.error ▸ hE), procIlen_proj]
      exact ⟨outputNoCb_sim Sh cfg V (hfl.feedOpt inb hle) olen, rfl⟩
    · rw [process_generic hs hn hE, process_generic (cfg := monoCfgC cfg mc) hs (hnone ▸ hn) (h.error ▸ hE), procIlen_proj]
      dsimp only
      split
      · have hi := input_sim (mc := mc) Sh cfg hfl inb (procIlen cfg inb ilen0 wi olen) ilen0 hle
        exact ⟨output_sim Sh cfg V hi.1 op olen rs, hi.2⟩
      · exact ⟨output_sim Sh cfg V hfl op olen rs, rfl⟩
  · rw [process_err hn hE, process_err (hnone ▸ hn) (h.error ▸ hE)]
    exact ⟨hfl.blank 0, rfl⟩

end Soxr.Chan
