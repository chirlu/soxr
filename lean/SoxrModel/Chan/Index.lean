/-!
# (De)interleave index algebra of `data-io.c` / `rint-clip.h`, for any channel count `ch` and frame count `n`

Interleaved buffer: sample (frame `f`, channel `c`) lives at flat index `f·ch + c` (`idx`).  Split layout: `channel_ptrs[c][f]`.

`data-io.c` as written:
```
DEINTERLEAVE_FROM:  for (j = 0; j < n; ++j) for (i = 0; i < ch; ++i) dest[i][j] = (T)*src++;
INTERLEAVE_TO:      for (j = 0; j < n; ++j) for (i = 0; i < ch; ++i) *dest++ = (T)src[i][j];
LSX_RINT_CLIP_2:    for (j = 0; j < stride; ++j, ++dest) { src = srcs[j]; for (i < n) dest[stride * i] = conv(src[i]); }
```
The frame-major loops walk the flat buffer with a running pointer: the `k`-th assignment (program order) touches flat
index `k`; `walk ch n` is that program order and `walk_eq` says its `k`-th entry is (frame `k / ch`, channel `k % ch`),
i.e. the running pointer is at `idx ch f c` when the loop variables are `(j, i) = (f, c)`.  The channel-major loop of
`rint-clip.h` writes `dest0 + j + stride·i` = `idx stride i j` outright.

`takePad`, `deinterleave` and `interleave` are all tabulations `(List.range n).map g`; their lemmas are pointwise facts
read off with `getD_tab`, and a tabulation over `n1 + n2` splits with `List.range_add`.

No Mathlib here: the driver `soxr_chan` imports this file.
-/
namespace Soxr.Chan

/-- flat position of (frame `f`, channel `c`) in an interleaved buffer of `ch` channels -/
def idx (ch f c : Nat) : Nat := f * ch + c

/-- program order of the frame-major loops of data-io.c: (frame, channel) pairs -/
def walk (ch n : Nat) : List (Nat × Nat) :=
  (List.range n).flatMap (fun j => (List.range ch).map (fun i => (j, i)))

/-- exactly `n` items of `l`; what lies beyond the end of `l` reads as `d` (memory the model does not own) -/
def takePad {β : Type} (d : β) (n : Nat) (l : List β) : List β := (List.range n).map (fun f => l.getD f d)

/-- `_soxr_deinterleave*`: what channel `c` receives out of a flat buffer of `n` frames -/
def deinterleave {β : Type} (d : β) (ch n : Nat) (buf : List β) (c : Nat) : List β :=
  (List.range n).map (fun f => buf.getD (idx ch f c) d)

/-- `_soxr_interleave*`: the flat buffer of `n` frames written from the per-channel sources `chans` -/
def interleave {β : Type} (d : β) (ch n : Nat) (chans : List (List β)) : List β :=
  (List.range (n * ch)).map (fun k => ((chans.getD (k % ch) []).getD (k / ch) d))

theorem idx_lt {ch n f c : Nat} (hf : f < n) (hc : c < ch) : idx ch f c < n * ch := by
  have : (f + 1) * ch ≤ n * ch := Nat.mul_le_mul_right ch hf
  rw [Nat.add_mul] at this
  unfold idx
  omega

theorem idx_div {ch f c : Nat} (hc : c < ch) : idx ch f c / ch = f := by
  rw [idx, Nat.mul_comm, Nat.mul_add_div (by omega), Nat.div_eq_of_lt hc]
  rfl

theorem idx_mod {ch f c : Nat} (hc : c < ch) : idx ch f c % ch = c := by
  rw [idx, Nat.mul_comm, Nat.mul_add_mod, Nat.mod_eq_of_lt hc]

theorem idx_div_mod (ch k : Nat) : idx ch (k / ch) (k % ch) = k := by
  rw [idx, Nat.mul_comm, Nat.div_add_mod]

theorem idx_inj {ch f c f' c' : Nat} (hc : c < ch) (hc' : c' < ch) (h : idx ch f c = idx ch f' c') : f = f' ∧ c = c' :=
  ⟨by rw [← idx_div (f := f) hc, h, idx_div hc'], by rw [← idx_mod (f := f) hc, h, idx_mod hc']⟩

theorem idx_surj {ch n k : Nat} (hk : k < n * ch) : k / ch < n ∧ k % ch < ch ∧ idx ch (k / ch) (k % ch) = k := by
  have hpos : 0 < ch := Nat.pos_of_ne_zero (fun h => by simp [h] at hk)
  exact ⟨Nat.div_lt_of_lt_mul (Nat.mul_comm n ch ▸ hk), Nat.mod_lt _ hpos, idx_div_mod ch k⟩

/-- the `k`-th assignment of the frame-major loop handles frame `k / ch`, channel `k % ch`: the running pointer
    (`*src++` / `*dest++`) is at `idx ch frame channel` -/
theorem walk_eq (ch n : Nat) : walk ch n = (List.range (n * ch)).map (fun k => (k / ch, k % ch)) := by
  induction n with
  | zero => simp [walk]
  | succ n ih =>
    have hw : walk ch (n + 1) = walk ch n ++ (List.range ch).map (fun i => (n, i)) := by
      simp [walk, List.range_succ, List.flatMap_append]
    rw [hw, ih, Nat.add_mul, Nat.one_mul, List.range_add, List.map_append, List.map_map]
    congr 1
    apply List.map_congr_left
    intro i hi
    have hi := List.mem_range.mp hi
    simp [Nat.mul_comm n ch, Nat.mul_add_div (Nat.zero_lt_of_lt hi), Nat.div_eq_of_lt hi, Nat.mod_eq_of_lt hi]

theorem getD_tab {β : Type} (g : Nat → β) (d : β) {n i : Nat} (h : i < n) : ((List.range n).map g).getD i d = g i := by
  simp [List.getD_eq_getElem?_getD, h]

theorem getD_append_lt {β : Type} (d : β) (l1 l2 : List β) {i : Nat} (h : i < l1.length) :
    (l1 ++ l2).getD i d = l1.getD i d := by
  simp [List.getD_eq_getElem?_getD, List.getElem?_append_left h]

theorem getD_append_add {β : Type} (d : β) (l1 l2 : List β) (i : Nat) :
    (l1 ++ l2).getD (l1.length + i) d = l2.getD i d := by
  simp [List.getD_eq_getElem?_getD, List.getElem?_append_right]

@[simp] theorem takePad_length {β : Type} (d : β) (n : Nat) (l : List β) : (takePad d n l).length = n := by
  simp [takePad]

@[simp] theorem deinterleave_length {β : Type} (d : β) (ch n : Nat) (buf : List β) (c : Nat) :
    (deinterleave d ch n buf c).length = n := by
  simp [deinterleave]

@[simp] theorem interleave_length {β : Type} (d : β) (ch n : Nat) (chans : List (List β)) :
    (interleave d ch n chans).length = n * ch := by
  simp [interleave]

theorem deinterleave_getD {β : Type} (d : β) (ch n : Nat) (buf : List β) (c : Nat) {f : Nat} (hf : f < n) :
    (deinterleave d ch n buf c).getD f d = buf.getD (idx ch f c) d :=
  getD_tab _ d hf

theorem interleave_getD {β : Type} (d : β) (ch n : Nat) (chans : List (List β)) {k : Nat} (hk : k < n * ch) :
    (interleave d ch n chans).getD k d = (chans.getD (k % ch) []).getD (k / ch) d :=
  getD_tab _ d hk

theorem takePad_eq_self {β : Type} (d : β) {n : Nat} {l : List β} (h : l.length = n) : takePad d n l = l := by
  apply List.ext_getElem (by simp [h])
  intro i _ h2
  simp [takePad, List.getD_eq_getElem?_getD, List.getElem?_eq_getElem h2]

/-- the first `m` items of a longer tabulation (`takePad` of a `takePad` or of a `deinterleave`) -/
theorem takePad_tab {β : Type} (d : β) (g : Nat → β) {m n : Nat} (h : m ≤ n) :
    takePad d m ((List.range n).map g) = (List.range m).map g :=
  List.map_congr_left fun _ hf => getD_tab g d (Nat.lt_of_lt_of_le (List.mem_range.mp hf) h)

/-- sources shorter than `n` read as padding -/
theorem deinterleave_interleave {β : Type} (d : β) (ch n : Nat) (chans : List (List β)) (c : Nat) (hc : c < ch) :
    deinterleave d ch n (interleave d ch n chans) c = takePad d n (chans.getD c []) := by
  apply List.map_congr_left
  intro f hf
  rw [interleave_getD d ch n chans (idx_lt (List.mem_range.mp hf) hc), idx_div hc, idx_mod hc]

theorem interleave_deinterleave {β : Type} (d : β) (ch n : Nat) (buf : List β) (h : buf.length = n * ch) :
    interleave d ch n ((List.range ch).map (deinterleave d ch n buf)) = buf := by
  apply List.ext_getElem (by simp [h])
  intro k hk hk'
  obtain ⟨hf, hc, hidx⟩ := idx_surj (interleave_length d .. ▸ hk)
  simp only [interleave, List.getElem_map, List.getElem_range]
  rw [getD_tab _ _ hc, deinterleave_getD d ch n buf _ hf, hidx, List.getD_eq_getElem?_getD, List.getElem?_eq_getElem hk']
  rfl

/-- one channel: the flat buffer is the channel itself (the `ch == 1` shortcuts of data-io.c: `memcpy` / single loop) -/
theorem deinterleave_one {β : Type} (d : β) (n : Nat) (buf : List β) : deinterleave d 1 n buf 0 = takePad d n buf := by
  simp [deinterleave, takePad, idx]

theorem interleave_one {β : Type} (d : β) (n : Nat) (l : List β) : interleave d 1 n [l] = takePad d n l := by
  simp [interleave, takePad, Nat.mod_one]

/-- pointer advance of the pull loop: a chunk of `n2` frames written at flat offset `n1·ch` behind `n1` frames — the
    channel views concatenate -/
theorem deinterleave_append {β : Type} (d : β) (ch n1 n2 : Nat) (b1 b2 : List β) (c : Nat) (hc : c < ch)
    (h : b1.length = n1 * ch) :
    deinterleave d ch (n1 + n2) (b1 ++ b2) c = deinterleave d ch n1 b1 c ++ deinterleave d ch n2 b2 c := by
  unfold deinterleave
  rw [List.range_add, List.map_append, List.map_map]
  congr 1 <;> apply List.map_congr_left <;> intro f hf
  · exact getD_append_lt d b1 b2 (h ▸ idx_lt (List.mem_range.mp hf) hc)
  · have : idx ch (n1 + f) c = b1.length + idx ch f c := by rw [h, idx, idx, Nat.add_mul, Nat.add_assoc]
    show (b1 ++ b2).getD (idx ch (n1 + f) c) d = _
    rw [this, getD_append_add]

/-- the flat buffer written chunk after chunk by the pull loop is the interleaving of the channel-wise concatenations -/
theorem interleave_append {β : Type} (d : β) (ch n1 n2 : Nat) (a b : List (List β))
    (ha : ∀ c, c < ch → (a.getD c []).length = n1) :
    interleave d ch n1 a ++ interleave d ch n2 b
      = interleave d ch (n1 + n2) ((List.range ch).map (fun c => a.getD c [] ++ b.getD c [])) := by
  unfold interleave
  rw [Nat.add_mul, List.range_add, List.map_append, List.map_map]
  congr 1 <;> apply List.map_congr_left <;> intro k hk
  · obtain ⟨hf, hc, -⟩ := idx_surj (List.mem_range.mp hk)
    rw [getD_tab _ _ hc, getD_append_lt _ _ _ (ha _ hc ▸ hf)]
  · obtain ⟨-, hc, -⟩ := idx_surj (List.mem_range.mp hk)
    have hpos : 0 < ch := Nat.zero_lt_of_lt hc
    show _ = ((List.map _ _).getD ((n1 * ch + k) % ch) []).getD ((n1 * ch + k) / ch) d
    rw [Nat.mul_comm n1, Nat.mul_add_mod, Nat.mul_add_div hpos, getD_tab _ _ hc, ← ha _ hc, getD_append_add]

end Soxr.Chan
