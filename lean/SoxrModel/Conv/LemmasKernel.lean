import SoxrModel.Conv.LemmasRound
/-! The kernels of `rint-clip.h` against the per-sample reference `convSample`:
    `RINT_CLIP`, the unrolled block with its flag test and fix-up, `LSX_RINT_CLIP`, `LSX_RINT_CLIP_2`;
    then what the operands `src[i] DITHERING` of a call are, and what it leaves of the seed.
    A lemma named `…_clear` is about a call entered with the sticky x87 invalid flag clear (state `⟨false, n⟩`); with a
    stale flag the kernels do not meet the reference. -/
namespace Soxr.Conv

/-- the operands `src[i] DITHERING` a loop sees, the dither registers shifted from sample to sample. -/
def operands (c : Cfg) : List Val → Ran → List Val
  | [], _ => []
  | x :: xs, r => (operand c x r).1 :: operands c xs (operand c x r).2

/-- per-sample reference results. -/
def refOut (mx : Int) (ds : List Val) : List Int := ds.map fun d => (convSample mx d).1

/-- number of saturated samples. -/
def refClips (mx : Int) (ds : List Val) : Nat := ds.countP fun d => (convSample mx d).2

theorem refOut_append (mx : Int) (a b : List Val) : refOut mx (a ++ b) = refOut mx a ++ refOut mx b := by
  simp [refOut]

theorem refClips_append (mx : Int) (a b : List Val) : refClips mx (a ++ b) = refClips mx a + refClips mx b := by
  simp [refClips, List.countP_append]

theorem refOut_map (mx : Int) (f : Nat → Val) (c : List Nat) :
    refOut mx (c.map f) = c.map fun b => (convSample mx (f b)).1 := by
  simp [refOut, List.map_map, Function.comp_def]

theorem refClips_map (mx : Int) (f : Nat → Val) (c : List Nat) :
    refClips mx (c.map f) = c.countP fun b => (convSample mx (f b)).2 := by
  simp [refClips, List.countP_map, Function.comp_def]

/-- operands of `k` unrolled blocks (registers re-drawn per block): operands, unconverted rest, seed. -/
def blockOperands (c : Cfg) : Nat → List Val → Seed → List Val × List Val × Seed
  | 0, xs, seed => ([], xs, seed)
  | k + 1, xs, seed =>
    let v := vars c seed
    let r := blockOperands c k (xs.drop Gen.unroll) v.2
    (operands c (xs.take Gen.unroll) v.1 ++ r.1, r.2.1, r.2.2)

/-- operands of a whole call of `LSX_RINT_CLIP` and the seed it leaves. -/
def kernelOperands (c : Cfg) (xs : List Val) (seed : Seed) : List Val × Seed :=
  let b := blockOperands c (numBlocks xs.length) xs seed
  let v := vars c b.2.2
  (b.1 ++ operands c b.2.1 v.1, v.2)

/-- operands of `LSX_RINT_CLIP_2`, channel by channel. -/
def kernelOperands2 (c : Cfg) : List (List Val) → Seed → List (List Val) × Seed
  | [], seed => ([], seed)
  | xs :: rest, seed =>
    let a := kernelOperands c xs seed
    let b := kernelOperands2 c rest a.2
    (a.1 :: b.1, b.2)

theorem clipStep_clear (c : Cfg) (h : 0 ≤ c.mx) (d : Val) (n : Nat) :
    clipStep c d ⟨false, n⟩ = ((convSample c.mx d).1, ⟨false, n + if (convSample c.mx d).2 then 1 else 0⟩) := by
  unfold clipStep
  rw [fist_eq]
  by_cases hc : (convSample c.mx d).2 = true
  · simp [hc, convSample_sat_value c.mx h d hc]
  · simp [hc]

theorem rintClipLoop_clear (c : Cfg) (h : 0 ≤ c.mx) (xs : List Val) (r : Ran) (n : Nat) :
    rintClipLoop c xs r ⟨false, n⟩ =
      (refOut c.mx (operands c xs r), ⟨false, n + refClips c.mx (operands c xs r)⟩) := by
  induction xs generalizing r n with
  | nil => rfl
  | cons x xs ih =>
    simp only [rintClipLoop, operands]
    rw [clipStep_clear c h]
    simp only [ih]
    simp only [refOut, refClips, List.map_cons, List.countP_cons]
    congr 2
    omega

/-- `DO_16`: the values `fistp` stored and the disjunction of the invalid exceptions (the flag is sticky). -/
theorem rawLoop_eq (c : Cfg) (xs : List Val) (r : Ran) (fl : Bool) :
    rawLoop c xs r fl =
      ((operands c xs r).map (fun d => (fist c.mx d).1), fl || (operands c xs r).any (fun d => (fist c.mx d).2)) := by
  induction xs generalizing r fl with
  | nil => simp [rawLoop, operands]
  | cons x xs ih =>
    simp only [rawLoop, operands]
    rw [ih]
    simp [Bool.or_assoc]

theorem no_invalid_ref (mx : Int) (ds : List Val) (h : ds.any (fun d => (fist mx d).2) = false) :
    ds.map (fun d => (fist mx d).1) = refOut mx ds ∧ refClips mx ds = 0 := by
  rw [List.any_eq_false] at h
  constructor
  · apply List.map_congr_left
    intro d hd
    have := h d hd
    rw [fist_eq] at this ⊢
    simp at this
    simp [this]
  · unfold refClips
    rw [List.countP_eq_zero]
    intro d hd
    have := h d hd
    rw [fist_eq] at this
    simpa using this

/-- One iteration of the unrolled loop (flag clear on entry) is the reference on its samples: either no `fistp` raised
    invalid, and then nothing saturates; or the block is redone by `RINT_CLIP` from the saved seed. -/
theorem block_clear (c : Cfg) (h : 0 ≤ c.mx) (xs : List Val) (seed : Seed) (n : Nat) :
    block c xs seed ⟨false, n⟩ =
      (refOut c.mx (operands c xs (vars c seed).1), (vars c seed).2,
        ⟨false, n + refClips c.mx (operands c xs (vars c seed).1)⟩) := by
  unfold block
  simp only [rawLoop_eq, Bool.false_or]
  by_cases hany : (operands c xs (vars c seed).1).any (fun d => (fist c.mx d).2) = true
  · simp only [hany, if_true, rintClip, rintClipLoop_clear c h]
  · have hany : (operands c xs (vars c seed).1).any (fun d => (fist c.mx d).2) = false := by simpa using hany
    obtain ⟨h1, h2⟩ := no_invalid_ref c.mx _ hany
    simp [hany, h1, h2]

theorem blocks_clear (c : Cfg) (h : 0 ≤ c.mx) (k : Nat) (xs : List Val) (seed : Seed) (n : Nat) :
    blocks c k xs seed ⟨false, n⟩ =
      (refOut c.mx (blockOperands c k xs seed).1, (blockOperands c k xs seed).2.1, (blockOperands c k xs seed).2.2,
        ⟨false, n + refClips c.mx (blockOperands c k xs seed).1⟩) := by
  induction k generalizing xs seed n with
  | zero => simp [blocks, blockOperands, refOut, refClips]
  | succ k ih =>
    simp only [blocks, blockOperands]
    rw [block_clear c h]
    simp only [ih, refOut_append, refClips_append]
    congr 4
    omega

theorem lsxRintClip_clear (c : Cfg) (h : 0 ≤ c.mx) (xs : List Val) (seed : Seed) (n : Nat) :
    lsxRintClip c xs seed ⟨false, n⟩ =
      (refOut c.mx (kernelOperands c xs seed).1, (kernelOperands c xs seed).2,
        ⟨false, n + refClips c.mx (kernelOperands c xs seed).1⟩) := by
  unfold lsxRintClip kernelOperands
  simp only [blocks_clear c h, rintClip, rintClipLoop_clear c h, refOut_append, refClips_append]
  congr 3
  omega

theorem lsxRintClip2_clear (c : Cfg) (h : 0 ≤ c.mx) (chans : List (List Val)) (seed : Seed) (n : Nat) :
    lsxRintClip2 c chans seed ⟨false, n⟩ =
      ((kernelOperands2 c chans seed).1.map (refOut c.mx), (kernelOperands2 c chans seed).2,
        ⟨false, n + ((kernelOperands2 c chans seed).1.map (refClips c.mx)).sum⟩) := by
  induction chans generalizing seed n with
  | nil => simp [lsxRintClip2, kernelOperands2]
  | cons xs rest ih =>
    simp only [lsxRintClip2, kernelOperands2]
    rw [lsxRintClip_clear c h]
    simp only [ih, List.map_cons, List.sum_cons]
    congr 3
    omega

/-! ## What the operands are: a relation every single `operand` satisfies holds of a whole call -/

/-- pointwise relation of two lists. -/
inductive Rel₂ {α β : Type} (R : α → β → Prop) : List α → List β → Prop
  | nil : Rel₂ R [] []
  | cons {a b as bs} : R a b → Rel₂ R as bs → Rel₂ R (a :: as) (b :: bs)

theorem Rel₂.append {α β : Type} {R : α → β → Prop} {a₁ a₂ : List α} {b₁ b₂ : List β}
    (h₁ : Rel₂ R a₁ b₁) (h₂ : Rel₂ R a₂ b₂) : Rel₂ R (a₁ ++ a₂) (b₁ ++ b₂) := by
  induction h₁ with
  | nil => simpa using h₂
  | cons h _ ih => exact Rel₂.cons h ih

theorem Rel₂.length_eq {α β : Type} {R : α → β → Prop} {a : List α} {b : List β} (h : Rel₂ R a b) :
    a.length = b.length := by
  induction h with
  | nil => rfl
  | cons _ _ ih => simp [ih]

theorem Rel₂.get {α β : Type} {R : α → β → Prop} {a : List α} {b : List β} (h : Rel₂ R a b)
    (i : Nat) (ha : i < a.length) (hb : i < b.length) : R a[i] b[i] := by
  induction h generalizing i with
  | nil => simp at ha
  | cons h0 _ ih =>
    cases i with
    | zero => simpa using h0
    | succ i => simpa using ih i (by simpa using ha) (by simpa using hb)

theorem Rel₂.refl_of {α : Type} {R : α → α → Prop} (hr : ∀ a, R a a) (l : List α) : Rel₂ R l l := by
  induction l with
  | nil => exact Rel₂.nil
  | cons a l ih => exact Rel₂.cons (hr a) ih

theorem Rel₂.eq {α : Type} {a b : List α} (h : Rel₂ Eq a b) : a = b := by
  induction h with
  | nil => rfl
  | cons h _ ih => rw [h, ih]

theorem operands_rel (c : Cfg) (R : Val → Val → Prop) (hR : ∀ x r, R x (operand c x r).1) (xs : List Val) (r : Ran) :
    Rel₂ R xs (operands c xs r) := by
  induction xs generalizing r with
  | nil => exact Rel₂.nil
  | cons x xs ih => exact Rel₂.cons (hR x r) (ih _)

theorem blockOperands_rel (c : Cfg) (R : Val → Val → Prop) (hR : ∀ x r, R x (operand c x r).1)
    (k : Nat) (xs : List Val) (seed : Seed) :
    ∃ pre, xs = pre ++ (blockOperands c k xs seed).2.1 ∧ Rel₂ R pre (blockOperands c k xs seed).1 := by
  induction k generalizing xs seed with
  | zero => exact ⟨[], by simp [blockOperands], Rel₂.nil⟩
  | succ k ih =>
    obtain ⟨pre, h1, h2⟩ := ih (xs.drop Gen.unroll) (vars c seed).2
    refine ⟨xs.take Gen.unroll ++ pre, ?_, ?_⟩
    · simp only [blockOperands]
      rw [List.append_assoc, ← h1, List.take_append_drop]
    · simp only [blockOperands]
      exact Rel₂.append (operands_rel c R hR _ _) h2

theorem kernelOperands_rel (c : Cfg) (R : Val → Val → Prop) (hR : ∀ x r, R x (operand c x r).1)
    (xs : List Val) (seed : Seed) : Rel₂ R xs (kernelOperands c xs seed).1 := by
  unfold kernelOperands
  obtain ⟨pre, h1, h2⟩ := blockOperands_rel c R hR (numBlocks xs.length) xs seed
  have := Rel₂.append h2 (operands_rel c R hR (blockOperands c (numBlocks xs.length) xs seed).2.1
    (vars c (blockOperands c (numBlocks xs.length) xs seed).2.2).1)
  rw [← h1] at this
  exact this

/-! ## The seed: each unrolled block and the tail draw once -/

def iter {α : Type} (f : α → α) : Nat → α → α
  | 0, a => a
  | n + 1, a => iter f n (f a)

theorem iter_succ_out {α : Type} (f : α → α) (k : Nat) (a : α) : iter f (k + 1) a = f (iter f k a) := by
  induction k generalizing a with
  | zero => rfl
  | succ k ih => exact ih (f a)

theorem vars_dith (c : Cfg) (hd : c.dith = true) (seed : Seed) : (vars c seed).2 = lcg (lcg seed) := by
  simp [vars, hd, ditherVars]

theorem vars_nodith (c : Cfg) (hd : c.dith = false) (seed : Seed) : (vars c seed).2 = seed := by
  simp [vars, hd]

theorem blockOperands_seed (c : Cfg) (k : Nat) (xs : List Val) (seed : Seed) :
    (blockOperands c k xs seed).2.2 = iter (fun s => (vars c s).2) k seed := by
  induction k generalizing xs seed with
  | zero => rfl
  | succ k ih => exact ih _ _

theorem kernelOperands_seed_vars (c : Cfg) (xs : List Val) (seed : Seed) :
    (kernelOperands c xs seed).2 = iter (fun s => (vars c s).2) (numBlocks xs.length + 1) seed := by
  rw [iter_succ_out, ← blockOperands_seed c _ xs]; rfl

/-- **the dithered kernel advances the seed by exactly two LCG steps per unrolled block plus two for the tail**
    (also when the tail, or the whole call, is empty). -/
theorem kernelOperands_seed (c : Cfg) (hd : c.dith = true) (xs : List Val) (seed : Seed) :
    (kernelOperands c xs seed).2 = iter (fun s => lcg (lcg s)) (numBlocks xs.length + 1) seed := by
  have : (fun s => (vars c s).2) = fun s => lcg (lcg s) := funext (vars_dith c hd)
  rw [kernelOperands_seed_vars, this]

theorem iter_id {α : Type} (k : Nat) (a : α) : iter (fun s => s) k a = a := by
  induction k with
  | zero => rfl
  | succ k ih => exact ih

theorem kernelOperands_nodith (c : Cfg) (hd : c.dith = false) (xs : List Val) (seed : Seed) :
    kernelOperands c xs seed = (xs, seed) := by
  have hv : (fun s => (vars c s).2) = fun s => s := funext (vars_nodith c hd)
  have h1 := (kernelOperands_rel c Eq (fun x r => by simp [operand, hd]) xs seed).eq
  have h2 := kernelOperands_seed_vars c xs seed
  rw [hv, iter_id] at h2
  exact Prod.ext h1.symm h2

theorem kernelOperands2_nodith (c : Cfg) (hd : c.dith = false) (chans : List (List Val)) (seed : Seed) :
    kernelOperands2 c chans seed = (chans, seed) := by
  induction chans generalizing seed with
  | nil => rfl
  | cons xs rest ih => simp [kernelOperands2, kernelOperands_nodith c hd, ih]

end Soxr.Conv
