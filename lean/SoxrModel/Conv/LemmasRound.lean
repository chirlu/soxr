import SoxrModel.Conv.Model
/-! One sample: `rhe` (round half even of `x / d`) is nearest, ties to even, exact on multiples, monotone, with its
    thresholds; two's-complement words of any width; the reference `convSample` and `fistp` in terms of `rhe`. -/
namespace Soxr.Conv

theorem unit_pos : 0 < unit := Nat.two_pow_pos U

theorem rhe_cases (x : Int) (d : Nat) (hd : 0 < d) :
    ∃ q r : Int, x = q * d + r ∧ 0 ≤ r ∧ r < d ∧ (q + 1) * (d : Int) = q * d + d ∧
      rhe x d = (if 2 * r < d then q else if (d : Int) < 2 * r then q + 1 else if q % 2 = 0 then q else q + 1) :=
  ⟨x / d, x % d, by rw [Int.mul_comm, Int.mul_ediv_add_emod], Int.emod_nonneg _ (by omega),
    Int.emod_lt_of_pos _ (by omega), by rw [Int.add_mul, Int.one_mul], rfl⟩

theorem rhe_spec (x : Int) (d : Nat) (hd : 0 < d) :
    -(d : Int) ≤ 2 * (rhe x d * d - x) ∧ 2 * (rhe x d * d - x) ≤ d ∧
      (2 * (rhe x d * d - x) = d ∨ 2 * (rhe x d * d - x) = -(d : Int) → rhe x d % 2 = 0) := by
  obtain ⟨q, r, hx, h0, h1, e, hr⟩ := rhe_cases x d hd
  rw [hr]
  split
  · omega
  · split
    · rw [e]; omega
    · split
      · omega
      · rw [e]; omega

theorem rhe_near (x : Int) (d : Nat) (hd : 0 < d) :
    -(d : Int) ≤ 2 * (rhe x d * d - x) ∧ 2 * (rhe x d * d - x) ≤ d :=
  ⟨(rhe_spec x d hd).1, (rhe_spec x d hd).2.1⟩

theorem rhe_tie_even (x : Int) (d : Nat) (hd : 0 < d)
    (h : 2 * (rhe x d * d - x) = d ∨ 2 * (rhe x d * d - x) = -(d : Int)) : rhe x d % 2 = 0 :=
  (rhe_spec x d hd).2.2 h

theorem mul_le_of_le (a b : Int) (d : Nat) (h : a ≤ b) : a * (d : Int) ≤ b * d :=
  Int.mul_le_mul_of_nonneg_right h (by omega)

theorem mul_add_le_of_lt (a b : Int) (d : Nat) (h : a < b) : a * (d : Int) + d ≤ b * d := by
  have := mul_le_of_le _ _ d (Int.add_one_le_of_lt h)
  rwa [Int.add_mul, Int.one_mul] at this

theorem rhe_nearest (x : Int) (d : Nat) (hd : 0 < d) (z : Int) :
    (rhe x d * d - x).natAbs ≤ (z * d - x).natAbs := by
  obtain ⟨h1, h2⟩ := rhe_near x d hd
  rcases Int.lt_trichotomy z (rhe x d) with h | h | h
  · have := mul_add_le_of_lt _ _ d h; omega
  · subst h; omega
  · have := mul_add_le_of_lt _ _ d h; omega

theorem rhe_mul (v : Int) (d : Nat) (hd : 0 < d) : rhe (v * d) d = v := by
  have hd' : (d : Int) ≠ 0 := by omega
  simp [rhe, Int.mul_emod_left, Int.mul_ediv_cancel v hd', hd]

/-- `rhe` is monotone in `x`: roundings in the wrong order would be at least `d` apart, each within `d / 2` of its
    argument, which forces `x = y`. -/
theorem rhe_mono (x y : Int) (d : Nat) (hd : 0 < d) (h : x ≤ y) : rhe x d ≤ rhe y d := by
  obtain ⟨a1, a2⟩ := rhe_near x d hd
  obtain ⟨b1, b2⟩ := rhe_near y d hd
  apply Int.not_lt.mp
  intro hlt
  have hm := mul_add_le_of_lt _ _ d hlt
  have hxy : x = y := by omega
  subst hxy; omega

theorem rhe_nonneg (x : Int) (d : Nat) (hd : 0 < d) (hx : 0 ≤ x) : 0 ≤ rhe x d := by
  have := rhe_mono 0 x d hd hx
  rwa [← Int.zero_mul (d : Int), rhe_mul 0 d hd] at this

theorem rhe_nonpos (x : Int) (d : Nat) (hd : 0 < d) (hx : x ≤ 0) : rhe x d ≤ 0 := by
  have := rhe_mono x 0 d hd hx
  rwa [← Int.zero_mul (d : Int), rhe_mul 0 d hd] at this

/-- `rhe x d > m` (for odd `m`) exactly from the half-way point up: the tie `m + 1/2` goes to the even `m + 1`. -/
theorem rhe_gt_iff_odd (x m : Int) (d : Nat) (hd : 0 < d) (hm : m % 2 = 1) :
    m < rhe x d ↔ (2 * m + 1) * (d : Int) ≤ 2 * x := by
  obtain ⟨n1, n2⟩ := rhe_near x d hd
  have e : (2 * m + 1) * (d : Int) = 2 * (m * d) + d := by rw [Int.add_mul, Int.mul_assoc, Int.one_mul]
  rw [e]
  constructor
  · intro h
    have := mul_add_le_of_lt _ _ d h; omega
  · intro h
    apply Int.not_le.mp
    intro hle
    rcases Int.lt_or_eq_of_le hle with h1 | h1
    · have := mul_add_le_of_lt _ _ d h1; omega
    · -- `rhe x d = m` at distance exactly `d / 2`: a tie, which goes to an even integer
      have := rhe_tie_even x d hd (Or.inr (by rw [h1] at n1 ⊢; omega)); omega

/-- `rhe x d < m` (for even `m`) exactly below the half-way point: the tie `m − 1/2` goes to the even `m`. -/
theorem rhe_lt_iff_even (x m : Int) (d : Nat) (hd : 0 < d) (hm : m % 2 = 0) :
    rhe x d < m ↔ 2 * x < (2 * m - 1) * (d : Int) := by
  have := rhe_gt_iff_odd x (m - 1) d hd (by omega)
  rw [show 2 * (m - 1) + 1 = 2 * m - 1 by omega] at this
  omega

theorem rheNat_cast (n d : Nat) (hd : 0 < d) : ((rheNat n d : Nat) : Int) = rhe n d :=
  Int.toNat_of_nonneg (rhe_nonneg _ _ hd (by omega))

theorem rheNat_mul (M d : Nat) (hd : 0 < d) : rheNat (M * d) d = M := by
  rw [rheNat, Int.natCast_mul, rhe_mul _ _ hd, Int.toNat_natCast]

theorem le_rheNat (K n d : Nat) (hd : 0 < d) (h : K * d ≤ n) : K ≤ rheNat n d := by
  have := rhe_mono ((K * d : Nat) : Int) n d hd (by omega)
  rw [Int.natCast_mul, rhe_mul _ _ hd, ← rheNat_cast _ _ hd] at this
  omega

theorem rheNat_near (n d : Nat) (hd : 0 < d) :
    2 * n ≤ 2 * (rheNat n d * d) + d ∧ 2 * (rheNat n d * d) ≤ 2 * n + d := by
  obtain ⟨h1, h2⟩ := rhe_near n d hd
  rw [← rheNat_cast n d hd, ← Int.natCast_mul] at h1 h2
  omega

theorem two_pow_pred (n : Nat) (hn : 0 < n) : 2 ^ n = 2 * 2 ^ (n - 1) := by
  rw [← Nat.pow_succ']; congr 1; omega

theorem toSigned_range (n : Nat) (hn : 0 < n) (b : Nat) :
    -((2 ^ (n - 1) : Nat) : Int) ≤ toSigned n b ∧ toSigned n b < ((2 ^ (n - 1) : Nat) : Int) := by
  have := two_pow_pred n hn
  unfold toSigned; simp only []; split <;> omega

theorem ofSigned_toSigned (n : Nat) (b : Nat) : ofSigned n (toSigned n b) = b % 2 ^ n := by
  have h : ((b % 2 ^ n : Nat) : Int) % ((2 ^ n : Nat) : Int) = (b % 2 ^ n : Nat) := by
    rw [← Int.natCast_emod, Nat.mod_mod]
  unfold ofSigned toSigned; simp only []
  split
  · rw [h, Int.toNat_natCast]
  · rw [Int.sub_emod_right, h, Int.toNat_natCast]

theorem ofSigned_cast (n : Nat) (hn : 0 < n) (v : Int) (h1 : -((2 ^ (n - 1) : Nat) : Int) ≤ v)
    (h2 : v < ((2 ^ (n - 1) : Nat) : Int)) :
    ((ofSigned n v : Nat) : Int) = if 0 ≤ v then v else v + (2 ^ n : Nat) := by
  have hp := two_pow_pred n hn
  unfold ofSigned
  rw [Int.toNat_of_nonneg (Int.emod_nonneg _ (by omega))]
  split
  · exact Int.emod_eq_of_lt (by omega) (by omega)
  · rw [← Int.add_emod_right]; exact Int.emod_eq_of_lt (by omega) (by omega)

theorem toSigned_ofSigned (n : Nat) (hn : 0 < n) (v : Int) (h1 : -((2 ^ (n - 1) : Nat) : Int) ≤ v)
    (h2 : v < ((2 ^ (n - 1) : Nat) : Int)) : toSigned n (ofSigned n v) = v := by
  have hp := two_pow_pred n hn
  have hw := ofSigned_cast n hn v h1 h2
  have hlt : ofSigned n v < 2 ^ n := by split at hw <;> omega
  unfold toSigned; simp only []
  rw [Nat.mod_eq_of_lt hlt]
  split at hw <;> split <;> omega

/-- the three cases of the reference on a finite sample. -/
theorem convSample_fin (mx x : Int) :
    (mx < rhe x unit ∧ convSample mx (.fin x) = (mx, true)) ∨
    (¬ mx < rhe x unit ∧ rhe x unit < -mx - 1 ∧ convSample mx (.fin x) = (-mx - 1, true)) ∨
    (-mx - 1 ≤ rhe x unit ∧ rhe x unit ≤ mx ∧ convSample mx (.fin x) = (rhe x unit, false)) := by
  by_cases h1 : mx < rhe x unit
  · exact .inl ⟨h1, by simp [convSample, h1]⟩
  · by_cases h2 : rhe x unit < -mx - 1
    · exact .inr (.inl ⟨h1, h2, by simp [convSample, h1, h2]⟩)
    · exact .inr (.inr ⟨by omega, by omega, by simp [convSample, h1, h2]⟩)

theorem convSample_int (mx v : Int) (h1 : -mx - 1 ≤ v) (h2 : v ≤ mx) :
    convSample mx (.fin (v * (unit : Int))) = (v, false) := by
  have e := rhe_mul v unit unit_pos
  rcases convSample_fin mx (v * unit) with ⟨h, _⟩ | ⟨_, h, _⟩ | ⟨_, _, h⟩
  · omega
  · omega
  · rw [h, e]

theorem convSample_range (mx : Int) (h : 0 ≤ mx) (v : Val) :
    -mx - 1 ≤ (convSample mx v).1 ∧ (convSample mx v).1 ≤ mx := by
  cases v with
  | fin x => rcases convSample_fin mx x with ⟨_, e⟩ | ⟨_, _, e⟩ | ⟨_, _, e⟩ <;> rw [e] <;> constructor <;> omega
  | inf neg => cases neg <;> constructor <;> simp only [convSample] <;> omega
  | nan => constructor <;> simp only [convSample] <;> omega

theorem convSample_clipped_iff (mx x : Int) :
    (convSample mx (.fin x)).2 = true ↔ (mx < rhe x unit ∨ rhe x unit < -mx - 1) := by
  rcases convSample_fin mx x with ⟨h, e⟩ | ⟨_, h, e⟩ | ⟨h1, h2, e⟩ <;> rw [e]
  · simp [h]
  · simp [h]
  · simp; omega

theorem convSample_unclipped (mx x : Int) (hc : (convSample mx (.fin x)).2 = false) :
    (convSample mx (.fin x)).1 = rhe x unit ∧ -mx - 1 ≤ rhe x unit ∧ rhe x unit ≤ mx := by
  rcases convSample_fin mx x with ⟨_, e⟩ | ⟨_, _, e⟩ | ⟨h1, h2, e⟩ <;> rw [e] at hc ⊢
  · simp at hc
  · simp at hc
  · exact ⟨rfl, h1, h2⟩

theorem convSample_nearest (mx x : Int) (hc : (convSample mx (.fin x)).2 = false) :
    2 * ((convSample mx (.fin x)).1 * (unit : Int) - x).natAbs ≤ unit ∧
    (2 * ((convSample mx (.fin x)).1 * (unit : Int) - x).natAbs = unit → (convSample mx (.fin x)).1 % 2 = 0) := by
  rw [(convSample_unclipped mx x hc).1]
  obtain ⟨n1, n2⟩ := rhe_near x unit unit_pos
  exact ⟨by omega, fun ht => rhe_tie_even x unit unit_pos (by omega)⟩

/-- a saturated sample is the limit on the side of its sign (`rhe` keeps the sign). -/
theorem convSample_sat_value (mx : Int) (h : 0 ≤ mx) (d : Val) (hc : (convSample mx d).2 = true) :
    (convSample mx d).1 = if d.isPos then mx else -mx - 1 := by
  cases d with
  | fin x =>
    rcases convSample_fin mx x with ⟨h1, e⟩ | ⟨_, h2, e⟩ | ⟨_, _, e⟩ <;> rw [e] at hc ⊢
    · have hx : 0 < x := Int.not_le.mp fun hx => by have := rhe_nonpos x unit unit_pos hx; omega
      simp [Val.isPos, hx]
    · have hx : ¬ 0 < x := fun hx => by have := rhe_nonneg x unit unit_pos (Int.le_of_lt hx); omega
      simp [Val.isPos, hx]
    · simp at hc
  | inf neg => cases neg <;> rfl
  | nan => rfl

/-- `fistp` stores the reference result unless the sample saturates; then the integer indefinite, and it raises invalid. -/
theorem fist_eq (mx : Int) (v : Val) :
    fist mx v = (if (convSample mx v).2 then -mx - 1 else (convSample mx v).1, (convSample mx v).2) := by
  cases v with
  | fin x =>
    rcases convSample_fin mx x with ⟨h, e⟩ | ⟨_, h, e⟩ | ⟨h1, h2, e⟩ <;> rw [e, fist]
    · exact if_neg (by omega)
    · exact if_neg (by omega)
    · exact if_pos ⟨h1, h2⟩
  | inf neg => rfl
  | nan => rfl

/-- comparisons that clamp before `fistp` agree with the reference: at or above `RINT_MAX` the reference gives `RINT_MAX`. -/
theorem convSample_of_ge (mx d : Int) (h : 0 ≤ mx) (hd : mx * (unit : Int) ≤ d) : (convSample mx (.fin d)).1 = mx := by
  have := rhe_mono _ _ unit unit_pos hd
  rw [rhe_mul mx unit unit_pos] at this
  rcases convSample_fin mx d with ⟨_, e⟩ | ⟨_, _, e⟩ | ⟨_, _, e⟩ <;> rw [e] <;> simp only [] <;> omega

theorem convSample_of_le (mx d : Int) (h : 0 ≤ mx) (hd : d ≤ (-mx - 1) * (unit : Int)) :
    (convSample mx (.fin d)).1 = -mx - 1 := by
  have := rhe_mono _ _ unit unit_pos hd
  rw [rhe_mul _ unit unit_pos] at this
  rcases convSample_fin mx d with ⟨_, e⟩ | ⟨_, _, e⟩ | ⟨_, _, e⟩ <;> rw [e] <;> simp only [] <;> omega

theorem fist_of_mem (mx d : Int) (h1 : (-mx - 1) * (unit : Int) ≤ d) (h2 : d ≤ mx * (unit : Int)) :
    fist mx (.fin d) = ((convSample mx (.fin d)).1, false) := by
  have a := rhe_mono _ _ unit unit_pos h1
  have b := rhe_mono _ _ unit unit_pos h2
  rw [rhe_mul _ unit unit_pos] at a b
  rcases convSample_fin mx d with ⟨h, _⟩ | ⟨_, h, _⟩ | ⟨_, _, e⟩
  · omega
  · omega
  · rw [e, fist, if_pos ⟨a, b⟩]

/-- clamping by comparison before `fistp` is the reference: `c` is the comparison with `RINT_MAX`, whichever way it goes at
    `RINT_MAX` itself (`>` in `src_float_to_short_array`, `>=` in `src_float_to_int_array`); what reaches `fistp` is in
    range, so the invalid flag stays clear. -/
theorem clamp_fist_eq_ref (mx d : Int) (h : 0 ≤ mx) (c : Prop) [Decidable c] (hc : c → mx * (unit : Int) ≤ d)
    (hn : ¬ c → d ≤ mx * (unit : Int)) :
    (if c then (mx, false) else if d < (-mx - 1) * (unit : Int) then (-mx - 1, false) else fist mx (.fin d))
      = ((convSample mx (.fin d)).1, false) := by
  split
  · rw [convSample_of_ge mx d h (hc ‹_›)]
  · split
    · rw [convSample_of_le mx d h (by omega)]
    · exact fist_of_mem mx d (by omega) (hn ‹_›)

end Soxr.Conv
