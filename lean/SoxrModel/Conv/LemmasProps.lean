import SoxrModel.Conv.LemmasDither
/-! `_soxr_interleave(_f)` as a whole: the index maps, and the integer outputs against the per-sample specification. -/
namespace Soxr.Conv

theorem interleaveLists_single {α : Type} [Inhabited α] (l : List α) : interleaveLists [l] l.length = l := by
  induction l with
  | nil => rfl
  | cons a l ih => simp [interleaveLists, ih]

/-- memory order of the strided kernel: element `i * ch + j` of the output is sample `i` of channel `j`. -/
theorem interleaveLists_get {α : Type} [Inhabited α] (chans : List (List α)) (n : Nat)
    (hlen : ∀ c ∈ chans, c.length = n) (i j : Nat) (hi : i < n) (hj : j < chans.length) :
    (interleaveLists chans n)[i * chans.length + j]? = (chans[j]?).bind (·[i]?) := by
  induction n generalizing chans i with
  | zero => omega
  | succ n ih =>
    -- frame 0 is the heads of the channels, the later frames are the interleaving of their tails
    have hl : (chans.map (·.headD default)).length = chans.length := List.length_map _
    rw [interleaveLists]
    cases i with
    | zero =>
      rw [Nat.zero_mul, Nat.zero_add, List.getElem?_append_left (hl ▸ hj), List.getElem?_map]
      cases hc : chans[j]? with
      | none => rfl
      | some c =>
        have := hlen c (List.mem_of_getElem? hc)
        cases c with
        | nil => cases this
        | cons a c => rfl
    | succ i =>
      have e : (i + 1) * chans.length + j - chans.length = i * (chans.map List.tail).length + j := by
        rw [Nat.succ_mul, List.length_map]; omega
      have htl : ∀ c ∈ chans.map List.tail, c.length = n := fun c hc => by
        obtain ⟨c', hc', rfl⟩ := List.mem_map.mp hc
        rw [List.length_tail, hlen c' hc']; rfl
      rw [List.getElem?_append_right (by rw [hl, Nat.succ_mul]; omega), hl, e,
        ih _ htl i (by omega) (by rwa [List.length_map]), List.getElem?_map]
      cases chans[j]? with
      | none => rfl
      | some c => cases c <;> rfl

/-- per-sample specification of integer output without dither: every sample converted by the reference, in the memory
    order of `n` interleaved frames; the number of saturated samples. -/
def specInt (eng : Fmt) (t : DType) (chans : List (List Nat)) (n : Nat) : List Nat × Nat :=
  ((interleaveLists (chans.map fun c => c.map fun b => (convSample (rintMax t) (eng.decode b)).1) n).map (ofSigned t.bits),
   (chans.map fun c => c.countP fun b => (convSample (rintMax t) (eng.decode b)).2).sum)

theorem rintMax_nonneg (t : DType) : 0 ≤ rintMax t := by cases t <;> decide

/-- **`_soxr_interleave(_f)` to an integer type without dither** (int32 always; int16 under `SOXR_NO_DITHER`), invalid flag
    clear on entry: for every engine precision, channel count, length and input the output is the per-sample reference in
    interleaved order, the clip count is exactly the number of saturated samples, the seed is not touched, the flag is
    clear again — whichever kernel variant (`LSX_RINT_CLIP` for one channel, `LSX_RINT_CLIP_2` otherwise) runs. -/
theorem interleaveInt_nodither (eng : Fmt) (t : DType) (chans : List (List Nat)) (n : Nat)
    (hlen : ∀ c ∈ chans, c.length = n) (dith : Bool) (hd : dith = false ∨ t ≠ .i16) (seed : Seed) :
    interleaveInt eng t chans n dith seed false =
      ⟨(specInt eng t chans n).1, (specInt eng t chans n).2, seed, false⟩ := by
  have hc : (dith && decide (t = .i16)) = false := by rcases hd with h | h <;> simp [h]
  have hmx := rintMax_nonneg t
  have e1 := refOut_map (rintMax t) eng.decode
  have e2 := refClips_map (rintMax t) eng.decode
  unfold interleaveInt specInt
  simp only [hc]
  match chans, hlen with
  | [c0], hlen =>
    -- one channel: `LSX_RINT_CLIP`, whose output is already in memory order
    have e3 := interleaveLists_single (c0.map fun b => (convSample (rintMax t) (eng.decode b)).1)
    rw [List.length_map, hlen c0 (List.mem_singleton_self _)] at e3
    simp only [List.map_cons, List.map_nil, lsxRintClip_clear ⟨rintMax t, false⟩ hmx,
      kernelOperands_nodith ⟨rintMax t, false⟩ rfl, e1, e2, e3, List.sum_cons, List.sum_nil, Nat.zero_add, Nat.add_zero]
  | [], _ => rfl
  | c0 :: c1 :: rest, _ =>
    simp only [List.map_cons, lsxRintClip2_clear ⟨rintMax t, false⟩ hmx, kernelOperands2_nodith ⟨rintMax t, false⟩ rfl,
      List.map_map, e1, e2, Function.comp_def, Nat.zero_add]

/-- … and so `interleave`, which hands the two integer types to `interleaveInt` -/
theorem interleave_nodither (eng : Fmt) (t : DType) (ht : t = .i32 ∨ t = .i16) (chans : List (List Nat)) (n : Nat)
    (hlen : ∀ c ∈ chans, c.length = n) (dith : Bool) (hd : dith = false ∨ t = .i32) (seed : Seed) :
    let r := interleave eng t chans n dith seed false
    r.out = (specInt eng t chans n).1 ∧ r.clips = (specInt eng t chans n).2 ∧ r.seed = seed ∧ r.flag = false := by
  have e : interleave eng t chans n dith seed false = interleaveInt eng t chans n dith seed false := by
    rcases ht with rfl | rfl <;> rfl
  have := interleaveInt_nodither eng t chans n hlen dith (hd.imp_right fun h => by rw [h]; decide) seed
  rw [← e] at this
  simp only [this, and_self]

end Soxr.Conv
