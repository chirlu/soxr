import SoxrModel.Conv.LemmasFloat
/-! The unit-gain path of `soxr.c` at equal rates (`passSample`): every stage — the input cast, the scaling by the
    full-scale ratio, the output cast — is exact wherever the engine's sample format represents the value. -/
set_option exponentiation.threshold 4096
namespace Soxr.Conv

theorem passSample_f32 (eng : Fmt) (i : DType) (b : Nat) :
    passSample eng i .f32 b =
      (interleaveFloat eng f32 (scaleSample eng (scaleLog2 i .f32) (deinterleaveSample eng i b)), false) := rfl

theorem passSample_f64 (eng : Fmt) (i : DType) (b : Nat) :
    passSample eng i .f64 b =
      (interleaveFloat eng f64 (scaleSample eng (scaleLog2 i .f64) (deinterleaveSample eng i b)), false) := rfl

/-- an output sample of the engine's own type is copied; only its width matters. -/
theorem decode_interleaveFloat_self (eng : Fmt) (s : Nat) : eng.decode (interleaveFloat eng eng s) = eng.decode s := by
  rw [interleaveFloat, if_pos rfl, Fmt.decode_mod]

theorem scaleUnits_up (x : Int) (j : Nat) : scaleUnits x (j : Int) = x * ((2 ^ j : Nat) : Int) := by
  rw [scaleUnits, if_pos (Int.natCast_nonneg j), Int.toNat_natCast]

/-- an integer sample `v · 1.0` scaled by `2^j`, `j` of either sign: `v · 2^(U + j)` units, exactly (`1.0 = 2^U` units). -/
theorem scaleUnits_unit (v j : Int) (e : Nat) (he : (U : Int) + j = e) :
    scaleUnits (v * (unit : Int)) j = v * ((2 ^ e : Nat) : Int) := by
  unfold scaleUnits unit
  split
  · rw [Int.mul_assoc, ← Int.natCast_mul, ← Nat.pow_add]; congr 4; omega
  · have hu : 2 ^ U = 2 ^ e * 2 ^ (-j).toNat := by rw [← Nat.pow_add]; congr 1; omega
    rw [hu, Int.natCast_mul, ← Int.mul_assoc]
    exact Int.mul_ediv_cancel _ (by have := Nat.two_pow_pos (-j).toNat; omega)

theorem scaleSample_zero (eng : Fmt) (b : Nat) : scaleSample eng 0 b = b := if_pos rfl

theorem scaleSample_fin (eng : Fmt) (j : Int) (hj : j ≠ 0) (b : Nat) (x : Int) (h : eng.decode b = .fin x) :
    scaleSample eng j b = eng.ofUnits (scaleUnits x j) := by
  rw [scaleSample, if_neg hj, h]

/-- `j = 0` (unit gain: no stage at all) included -/
theorem decode_scaleSample (eng : Fmt) (hw : Fmt.WF eng) (j : Int) (b : Nat) (x : Int) (hdec : eng.decode b = .fin x)
    (hrep : Fmt.Rep eng (scaleUnits x j).natAbs) : eng.decode (scaleSample eng j b) = .fin (scaleUnits x j) := by
  by_cases hj : j = 0
  · rw [hj, scaleSample_zero, hdec, show (0 : Int) = ((0 : Nat) : Int) from rfl, scaleUnits_up, Nat.pow_zero,
      Int.natCast_one, Int.mul_one]
  · rw [scaleSample_fin eng j hj b x hdec]; exact Fmt.decode_ofUnits eng hw _ hrep

/-- an integer sample the significand holds, cast to the engine's format and scaled by `2^j`, is exactly `v · 2^j`
    as long as that stays on the grid and in range of the format. -/
theorem decode_scaled_int (eng : Fmt) (hw : Fmt.WF eng) (v : Int) (hv : v.natAbs < 2 ^ eng.p) (j : Int) (e : Nat)
    (he : (U : Int) + j = e) (hsh : eng.sh ≤ min U e) (ht : eng.p + max U e ≤ eng.topExp) :
    eng.decode (scaleSample eng j (eng.ofInt v)) = .fin (v * ((2 ^ e : Nat) : Int)) := by
  have hs := scaleUnits_unit v j e he
  rw [← hs]
  apply decode_scaleSample eng hw j _ _ (Fmt.decode_ofInt eng hw (by omega) (by omega) v hv)
  rw [hs, natAbs_mul_pow]
  exact Fmt.Rep.mk' eng _ _ hv (by omega) (by omega)

/-- a floating-point sample of the engine's own type scaled up by `2^k`. -/
theorem decode_scaled_float (eng : Fmt) (hw : Fmt.WF eng) (b : Nat) (x : Int) (k : Nat) (hx : eng.decode b = .fin x)
    (hrep : Fmt.Rep eng (x.natAbs * 2 ^ k)) :
    eng.decode (scaleSample eng k (b % 2 ^ eng.bits)) = .fin (x * ((2 ^ k : Nat) : Int)) := by
  rw [← scaleUnits_up]
  apply decode_scaleSample eng hw _ _ _ ((Fmt.decode_mod eng b).trans hx)
  rwa [scaleUnits_up, natAbs_mul_pow]

theorem natAbs_toSigned_lt (n p : Nat) (hn : 0 < n) (hp : n ≤ p) (b : Nat) : (toSigned n b).natAbs < 2 ^ p := by
  have := toSigned_range n hn b
  have := pow_lt_pow (show n - 1 < p by omega)
  omega

/-- int32 samples that fit the 24-bit significand are exact in the float32 engine as well. -/
theorem f32_ofInt_small (v : Int) (h : v.natAbs < 2 ^ 24) : f32.decode (f32.ofInt v) = .fin (v * (unit : Int)) :=
  Fmt.decode_ofInt f32 Fmt.wf32 (by decide) (by decide) v h

/-- an `n`-bit integer through the engine with gain `2^k` into the reference conversion to `n + k` bits:
    exactly `v · 2^k`, nothing saturates. -/
theorem convSample_scaled_int (eng : Fmt) (hw : Fmt.WF eng) (n k : Nat) (hn : 0 < n) (hp : n ≤ eng.p) (hsh : eng.sh ≤ U)
    (ht : eng.p + (U + k) ≤ eng.topExp) (b : Nat) :
    convSample (((2 ^ (n - 1 + k) : Nat) : Int) - 1) (eng.decode (scaleSample eng k (eng.ofInt (toSigned n b))))
      = (toSigned n b * ((2 ^ k : Nat) : Int), false) := by
  have hr := toSigned_range n hn b
  have e : toSigned n b * ((2 ^ (U + k) : Nat) : Int) = toSigned n b * ((2 ^ k : Nat) : Int) * (unit : Int) := by
    rw [Nat.add_comm, Nat.pow_add, Int.natCast_mul, Int.mul_assoc]; rfl
  rw [decode_scaled_int eng hw _ (natAbs_toSigned_lt n _ hn hp b) k (U + k) (Int.natCast_add U k).symm (by omega) (by omega), e]
  have h1 := mul_le_of_le _ _ (2 ^ k) hr.1
  have h2 := mul_add_le_of_lt _ _ (2 ^ k) hr.2
  have hk := Nat.two_pow_pos k
  rw [Int.neg_mul, ← Int.natCast_mul, ← Nat.pow_add] at h1
  rw [← Int.natCast_mul, ← Nat.pow_add] at h2
  exact convSample_int _ _ (by omega) (by omega)

/-- **integer input to integer output of at least its width** (`int16 → int16`, `int32 → int32`, `int16 → int32`) through
    an engine whose significand holds the input: exactly `v · 2^(width difference)`, nothing saturates. -/
theorem pass_int_int (eng : Fmt) (hw : Fmt.WF eng) (i o : DType) (hi : i = .i16 ∨ i = .i32) (ho : o = .i16 ∨ o = .i32)
    (hio : i.bits ≤ o.bits) (hp : i.bits ≤ eng.p) (hsh : eng.sh ≤ U) (ht : eng.p + (U + (o.bits - i.bits)) ≤ eng.topExp)
    (b : Nat) :
    passSample eng i o b = (ofSigned o.bits (toSigned i.bits b * ((2 ^ (o.bits - i.bits) : Nat) : Int)), false) := by
  have core := fun n k hn hp' ht' => convSample_scaled_int eng hw n k hn hp' hsh ht' b
  rcases hi with rfl | rfl <;> rcases ho with rfl | rfl
  · exact congrArg (fun p => (ofSigned 16 p.1, p.2)) (core 16 0 (by decide) hp ht)
  · exact congrArg (fun p => (ofSigned 32 p.1, p.2)) (core 16 16 (by decide) hp ht)
  · exact absurd hio (by decide)
  · exact congrArg (fun p => (ofSigned 32 p.1, p.2)) (core 32 0 (by decide) hp ht)

/-- same integer type in and out: bit-identical. -/
theorem pass_int_same (eng : Fmt) (hw : Fmt.WF eng) (i : DType) (hi : i = .i16 ∨ i = .i32) (hp : i.bits ≤ eng.p)
    (hsh : eng.sh ≤ U) (ht : eng.p + U ≤ eng.topExp) (b : Nat) : passSample eng i i b = (b % 2 ^ i.bits, false) := by
  rw [pass_int_int eng hw i i hi hi (Nat.le_refl _) hp hsh (by rw [Nat.sub_self]; exact ht), Nat.sub_self, Nat.pow_zero,
    Int.natCast_one, Int.mul_one, ofSigned_toSigned]

/-- int16 → float32 (float32 engine): **the output is exactly `v / 32768`**; full scale `-32768` is `-1.0`. -/
theorem full_scale_i16_f32 (b : Nat) :
    f32.decode (passSample f32 .i16 .f32 b).1 = .fin (toSigned 16 b * ((2 ^ (U - 15) : Nat) : Int)) := by
  rw [passSample_f32, decode_interleaveFloat_self]
  exact decode_scaled_int f32 Fmt.wf32 _ (natAbs_toSigned_lt 16 _ (by decide) (by decide) b) (-15) (U - 15)
    (by decide) (by decide) (by decide)

/-- int16 → float64 (float64 engine): exactly `v / 32768`. -/
theorem full_scale_i16_f64 (b : Nat) :
    f64.decode (passSample f64 .i16 .f64 b).1 = .fin (toSigned 16 b * ((2 ^ (U - 15) : Nat) : Int)) := by
  rw [passSample_f64, decode_interleaveFloat_self]
  exact decode_scaled_int f64 Fmt.wf64 _ (natAbs_toSigned_lt 16 _ (by decide) (by decide) b) (-15) (U - 15)
    (by decide) (by decide) (by decide)

/-- int32 → float64 (float64 engine): exactly `v / 2^31`. -/
theorem full_scale_i32_f64 (b : Nat) :
    f64.decode (passSample f64 .i32 .f64 b).1 = .fin (toSigned 32 b * ((2 ^ (U - 31) : Nat) : Int)) := by
  rw [passSample_f64, decode_interleaveFloat_self]
  exact decode_scaled_int f64 Fmt.wf64 _ (natAbs_toSigned_lt 32 _ (by decide) (by decide) b) (-31) (U - 31)
    (by decide) (by decide) (by decide)

/-- **floating-point input of the engine's own type to an integer type** (gain `2^15` / `2^31`): the reference conversion
    of the exact product `x · 2^k`, wherever that product does not overflow the engine's format (float32: `|x| < 2^113`
    for `k = 15`). -/
theorem pass_float_int (eng : Fmt) (hw : Fmt.WF eng) (i o : DType) (hi : i = .f32 ∧ eng = f32 ∨ i = .f64 ∧ eng = f64)
    (ho : o = .i16 ∨ o = .i32) (b : Nat) (x : Int) (hx : eng.decode b = .fin x)
    (hrep : Fmt.Rep eng (x.natAbs * 2 ^ o.fullScaleLog2)) :
    passSample eng i o b =
      (ofSigned o.bits (convSample (rintMax o) (.fin (x * ((2 ^ o.fullScaleLog2 : Nat) : Int)))).1,
       (convSample (rintMax o) (.fin (x * ((2 ^ o.fullScaleLog2 : Nat) : Int)))).2) := by
  have core := fun k hr => decode_scaled_float eng hw b x k hx hr
  rcases hi with ⟨rfl, rfl⟩ | ⟨rfl, rfl⟩ <;> rcases ho with rfl | rfl <;>
    exact congrArg (fun d => (ofSigned _ (convSample _ d).1, (convSample _ d).2)) (core _ hrep)

/-- `v / 2^k` scaled back up by `2^k` is representable wherever `v · 1.0` is. -/
theorem rep_unscaled (eng : Fmt) (v : Int) (k : Nat) (hk : k ≤ U) (hv : v.natAbs < 2 ^ eng.p) (hsh : eng.sh ≤ U)
    (ht : eng.p + U ≤ eng.topExp) : Fmt.Rep eng ((v * ((2 ^ (U - k) : Nat) : Int)).natAbs * 2 ^ k) := by
  rw [natAbs_mul_pow, Nat.mul_assoc, ← Nat.pow_add, Nat.sub_add_cancel hk]
  exact Fmt.Rep.mk' eng _ _ hv hsh ht

/-- a floating-point sample holding `v / full scale` for an integer `v` of the output type comes out as `v`, unsaturated:
    the second half of integer → float → integer. -/
theorem pass_unscaled (eng : Fmt) (hw : Fmt.WF eng) (i o : DType) (hi : i = .f32 ∧ eng = f32 ∨ i = .f64 ∧ eng = f64)
    (ho : o = .i16 ∨ o = .i32) (s : Nat) (v : Int)
    (hs : eng.decode s = .fin (v * ((2 ^ (U - o.fullScaleLog2) : Nat) : Int))) (hv : v.natAbs < 2 ^ eng.p)
    (hsh : eng.sh ≤ U) (ht : eng.p + U ≤ eng.topExp) (h1 : -rintMax o - 1 ≤ v) (h2 : v ≤ rintMax o) :
    passSample eng i o s = (ofSigned o.bits v, false) := by
  have hk : o.fullScaleLog2 ≤ U := by rcases ho with rfl | rfl <;> decide
  rw [pass_float_int eng hw i o hi ho s _ hs (rep_unscaled eng v _ hk hv hsh ht), full_scale_meaning v _ hk,
    convSample_int _ v h1 h2]

/-- int16 → float32 → int16 (float32 engine both times): every `short` comes back, nothing saturates. -/
theorem roundtrip_i16_f32 (b : Nat) :
    passSample f32 .f32 .i16 (passSample f32 .i16 .f32 b).1 = (b % 2 ^ 16, false) := by
  have hr : -32767 - 1 ≤ toSigned 16 b ∧ toSigned 16 b < 32767 + 1 := toSigned_range 16 (by decide) b
  rw [pass_unscaled f32 Fmt.wf32 .f32 .i16 (.inl ⟨rfl, rfl⟩) (.inl rfl) _ _ (full_scale_i16_f32 b)
      (natAbs_toSigned_lt 16 _ (by decide) (by decide) b) (by decide) (by decide) hr.1 (Int.le_of_lt_add_one hr.2)]
  exact congrArg (·, false) (ofSigned_toSigned 16 b)

/-- int32 → float64 → int32 (float64 engine both times): every `int32` comes back, nothing saturates. -/
theorem roundtrip_i32_f64 (b : Nat) :
    passSample f64 .f64 .i32 (passSample f64 .i32 .f64 b).1 = (b % 2 ^ 32, false) := by
  have hr : -2147483647 - 1 ≤ toSigned 32 b ∧ toSigned 32 b < 2147483647 + 1 := toSigned_range 32 (by decide) b
  rw [pass_unscaled f64 Fmt.wf64 .f64 .i32 (.inr ⟨rfl, rfl⟩) (.inr rfl) _ _ (full_scale_i32_f64 b)
      (natAbs_toSigned_lt 32 _ (by decide) (by decide) b) (by decide) (by decide) hr.1 (Int.le_of_lt_add_one hr.2)]
  exact congrArg (·, false) (ofSigned_toSigned 32 b)

/-- float32 → float32 through the float32 engine: bit-identical (NaNs and infinities included). -/
theorem pass_f32_f32_f32 (b : Nat) : passSample f32 .f32 .f32 b = (b % 2 ^ 32, false) := by
  have h : passSample f32 .f32 .f32 b = (b % 2 ^ 32 % 2 ^ 32, false) := rfl
  rw [h, Nat.mod_mod]

/-- float64 → float64 through the float64 engine: bit-identical. -/
theorem pass_f64_f64_f64 (b : Nat) : passSample f64 .f64 .f64 b = (b % 2 ^ 64, false) := by
  have h : passSample f64 .f64 .f64 b = (b % 2 ^ 64 % 2 ^ 64, false) := rfl
  rw [h, Nat.mod_mod]

/-- float32 → (float64 engine) → float32: the value of every finite or infinite pattern comes back unchanged. -/
theorem pass_f32_f32_f64 (b : Nat) (hn : f32.decode b ≠ .nan) :
    f32.decode (passSample f64 .f32 .f32 b).1 = f32.decode b := by
  have hne : ¬ f64 = f32 := by decide
  have h0 : scaleLog2 .f32 .f32 = 0 := rfl
  rw [passSample_f32, h0, scaleSample_zero, deinterleaveSample, if_neg hne, interleaveFloat, if_neg hne]
  exact Fmt.decode_cvt_cvt f32 f64 Fmt.wf32 Fmt.wf64 (by decide) (by decide) (by decide) b hn

end Soxr.Conv
