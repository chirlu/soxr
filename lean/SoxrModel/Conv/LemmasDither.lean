import SoxrModel.Conv.LemmasKernel
/-! The dither: the numerator `k` with `|k| ≤ 31`, the binary64 addition `src + k/32`, the total error bound. -/
set_option exponentiation.threshold 4096
namespace Soxr.Conv

/-- `(int)(((ran1 >>= 3) & 31) - ((ran2 >>= 3) & 31))` is the difference of two 5-bit fields. -/
theorem ditherNext_val (r : Ran) :
    (ditherNext r).1 = (((r.r1 >>> 3).toNat % 32 : Nat) : Int) - (((r.r2 >>> 3).toNat % 32 : Nat) : Int) := by
  unfold ditherNext
  simp only [BitVec.toInt_eq_toNat_cond, BitVec.toNat_setWidth, BitVec.toNat_sub, BitVec.toNat_and]
  rw [show (31#64).toNat = 2 ^ 5 - 1 by decide, Nat.and_two_pow_sub_one_eq_mod, Nat.and_two_pow_sub_one_eq_mod]
  omega

/-- **the dither numerator is at most 31 in magnitude**, whatever the seed. -/
theorem ditherNext_bound (r : Ran) : -31 ≤ (ditherNext r).1 ∧ (ditherNext r).1 ≤ 31 := by
  rw [ditherNext_val]; omega

/-- every operand of a dithered kernel is its sample plus `k/32` (in `double` arithmetic) with `|k| ≤ 31`;
    of an undithered kernel the sample itself. -/
def DithRel (dith : Bool) (x d : Val) : Prop :=
  if dith then ∃ k : Int, -31 ≤ k ∧ k ≤ 31 ∧ d = addDither x k else d = x

theorem operand_rel (c : Cfg) (x : Val) (r : Ran) : DithRel c.dith x (operand c x r).1 := by
  unfold DithRel operand
  cases hd : c.dith with
  | true => exact ⟨(ditherNext r).1, (ditherNext_bound r).1, (ditherNext_bound r).2, by simp⟩
  | false => simp

theorem two_pow_le_of_log2 (N : Nat) (h : N ≠ 0) : 2 ^ N.log2 ≤ N := Nat.log2_self_le h

/-- `round53` either overflows or returns a value within half a spacing `e` of `x`, of magnitude at least `2^52 · e`
    (`e = 0`: below `2^53` units nothing is rounded). -/
theorem round53_spec (x : Int) :
    (∃ neg, round53 x = .inf neg) ∨
    ∃ (y : Int) (e : Nat), round53 x = .fin y ∧ 2 * (y - x).natAbs ≤ e ∧ 2 ^ 52 * e ≤ y.natAbs := by
  unfold round53
  by_cases h53 : x.natAbs < 2 ^ 53
  · exact .inr ⟨x, 0, by simp [h53], by omega, by omega⟩
  · simp only [h53, if_false]
    have hN0 : x.natAbs ≠ 0 := by omega
    have hL : 53 ≤ x.natAbs.log2 := (Nat.le_log2 hN0).mpr (by omega)
    generalize hs : x.natAbs.log2 - 52 = s
    have hd : 0 < 2 ^ s := Nat.two_pow_pos s
    have hM : 2 ^ 52 ≤ rheNat x.natAbs (2 ^ s) := le_rheNat _ _ _ hd (by
      rw [← Nat.pow_add, show 52 + s = x.natAbs.log2 by omega]; exact Nat.log2_self_le hN0)
    have hR := Nat.mul_le_mul_right (2 ^ s) hM
    obtain ⟨n1, n2⟩ := rheNat_near x.natAbs (2 ^ s) hd
    generalize rheNat x.natAbs (2 ^ s) * 2 ^ s = R at hR n1 n2 ⊢
    split
    · exact .inl ⟨_, rfl⟩
    · refine .inr ⟨_, 2 ^ s, rfl, ?_, ?_⟩ <;> split <;> omega

/-- `1/32` in units. -/
def lsb32 : Nat := 2 ^ (U - 5)

/-- **Total error of a dithered, unsaturated sample is below 1.5 LSB**: for every operand `x` and every dither numerator
    `|k| ≤ 31`, if `x + k/32` (rounded to `double`) converts without saturating, the result is within `3/2` of `x`.
    `mx < 2^46` is what the spacing argument at the end needs; both `RINT_MAX` values meet it (`data-io.c` dithers only
    the int16 kernels). -/
theorem dither_error (mx : Int) (hmx : mx < 2 ^ 46) (x k : Int) (hk1 : -31 ≤ k) (hk2 : k ≤ 31)
    (hc : (convSample mx (addDither (.fin x) k)).2 = false) :
    2 * ((convSample mx (addDither (.fin x) k)).1 * (unit : Int) - x).natAbs < 3 * unit := by
  have hE : unit = 32 * lsb32 := Nat.pow_add 2 5 (U - 5)
  have hEpos : 0 < lsb32 := Nat.two_pow_pos _
  have hkE1 : k * (lsb32 : Int) ≤ 31 * lsb32 := mul_le_of_le k 31 lsb32 hk2
  have hkE2 : -31 * (lsb32 : Int) ≤ k * lsb32 := mul_le_of_le (-31) k lsb32 hk1
  change (convSample mx (round53 (x + k * (lsb32 : Nat)))).2 = false at hc
  change 2 * ((convSample mx (round53 (x + k * (lsb32 : Nat)))).1 * (unit : Int) - x).natAbs < 3 * unit
  rcases round53_spec (x + k * (lsb32 : Nat)) with ⟨neg, h⟩ | ⟨y, e, h, hye, hy⟩
  · rw [h] at hc; cases neg <;> cases hc
  · rw [h] at hc ⊢
    obtain ⟨hr, h1, h2⟩ := convSample_unclipped mx y hc
    obtain ⟨n1, n2⟩ := rhe_near y unit unit_pos
    rw [hr]
    -- `|rhe y| ≤ mx + 1 ≤ 2^46` and `y` is within `1/2` of it, so `|y| < 2^47`: 53 significant bits put the spacing of
    -- `y` below `2^47 / 2^52 = 1/32`
    have hy47 : y.natAbs ≤ 2 ^ 47 * unit := by
      have hu1 := mul_le_of_le _ (2 ^ 46) unit (show rhe y unit ≤ 2 ^ 46 by omega)
      have hu2 := mul_le_of_le (-(2 ^ 46)) _ unit (show -(2 ^ 46) ≤ rhe y unit by omega)
      omega
    have he : e ≤ lsb32 := by omega
    -- rounding of the sum `≤ 1/64`, dither `≤ 31/32`, conversion `≤ 1/2` (the magnitudes are no longer needed)
    clear hy hy47 h1 h2 hmx
    omega

end Soxr.Conv
