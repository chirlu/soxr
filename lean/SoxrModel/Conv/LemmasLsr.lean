import SoxrModel.Conv.LemmasFloat
/-! The sample-array helpers of `soxr-lsr.c` (`src_short_to_float_array`, `src_float_to_short_array`,
    `src_int_to_float_array`, `src_float_to_int_array`). -/
set_option exponentiation.threshold 4096
namespace Soxr.Conv

/-- the comparisons-then-`rint16` of `src_float_to_short_array` compute the saturating round-half-even reference of the
    exact product `x · 32768`, and never raise the x87 invalid exception on a finite operand. -/
theorem lsrToShort_eq_ref (x : Int) :
    lsrToShort (.fin x) = ((convSample 32767 (.fin (x * 32768))).1, false) :=
  clamp_fist_eq_ref 32767 (x * 32768) (by decide) _ Int.le_of_lt Int.not_lt.mp

/-- the same for `src_float_to_int_array` (`N = 2^31`, first comparison `>=`). -/
theorem lsrToInt_eq_ref (x : Int) :
    lsrToInt (.fin x) = ((convSample 2147483647 (.fin (x * 2147483648))).1, false) :=
  clamp_fist_eq_ref 2147483647 (x * 2147483648) (by decide) _ id Int.le_of_not_le

/-- `(float)(v · 2^-k)` is exact for every integer the 24-bit significand holds (every `short`; `int`s below `2^24`). -/
theorem lsrToFloat_exact (k : Nat) (hk : k ≤ 149) (v : Int) (hv : v.natAbs < 2 ^ 24) :
    f32.decode (lsrToFloat k v) = .fin (v * ((2 ^ (U - k) : Nat) : Int)) := by
  rw [lsrToFloat, ← Fmt.ofUnits_mul f32 v _ (Nat.two_pow_pos _)]
  apply Fmt.decode_ofUnits f32 Fmt.wf32
  rw [natAbs_mul_pow]
  have : f32.topExp = 1202 := by decide
  exact Fmt.Rep.mk' f32 _ _ hv (by unfold U; show 925 ≤ _; omega) (by unfold U; show 24 + _ ≤ _; omega)

/-- **short → float → short is the identity** (and `fistp` raises nothing). -/
theorem lsr_short_roundtrip (v : Int) (h1 : -32768 ≤ v) (h2 : v ≤ 32767) :
    lsrToShort (f32.decode (lsrToFloat 15 v)) = (v, false) := by
  have e : v * ((2 ^ (U - 15) : Nat) : Int) * 32768 = _ := full_scale_meaning v 15 (by decide)
  rw [lsrToFloat_exact 15 (by decide) v (by omega), lsrToShort_eq_ref, e, convSample_int 32767 v (by omega) (by omega)]

/-- int → float → int is the identity on the integers float32 holds exactly (`|v| < 2^24`). -/
theorem lsr_int_roundtrip (v : Int) (hv : v.natAbs < 2 ^ 24) :
    lsrToInt (f32.decode (lsrToFloat 31 v)) = (v, false) := by
  have e : v * ((2 ^ (U - 31) : Nat) : Int) * 2147483648 = _ := full_scale_meaning v 31 (by decide)
  rw [lsrToFloat_exact 31 (by decide) v hv, lsrToInt_eq_ref, e, convSample_int 2147483647 v (by omega) (by omega)]

end Soxr.Conv
