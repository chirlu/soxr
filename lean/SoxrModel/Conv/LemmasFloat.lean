import SoxrModel.Conv.LemmasRound
/-! `Fmt.roundMag` / `Fmt.decodeMag`: a magnitude the format can represent is encoded exactly (so every conversion of
    `data-io.c` is exact wherever the target can represent the value), and what follows for the integer and float casts. -/
set_option exponentiation.threshold 4096
namespace Soxr.Conv

theorem pow_lt_of_lt {a b : Nat} (h : 2 ^ a < 2 ^ b) : a < b := (Nat.pow_lt_pow_iff_right (by decide)).mp h
theorem pow_le_of_le {a b : Nat} (h : a ≤ b) : 2 ^ a ≤ 2 ^ b := Nat.pow_le_pow_right (by decide) h
theorem pow_lt_pow {a b : Nat} (h : a < b) : 2 ^ a < 2 ^ b := (Nat.pow_lt_pow_iff_right (by decide)).mpr h

theorem mul_pow_lt {M p : Nat} (h : M < 2 ^ p) (s : Nat) : M * 2 ^ s < 2 ^ (p + s) := by
  rw [Nat.pow_add]; exact Nat.mul_lt_mul_of_pos_right h (Nat.two_pow_pos s)

theorem lt_of_mul_pow_lt {M p s : Nat} (h : M * 2 ^ s < 2 ^ (p + s)) : M < 2 ^ p := by
  rw [Nat.pow_add] at h; exact Nat.lt_of_mul_lt_mul_right h

/-- `N < 2^k` puts the leading bit of `N` below `k` (`log2 0 = 0`, so `k > 0` is needed). -/
theorem log2_lt_of_lt {N k : Nat} (hk : 0 < k) (h : N < 2 ^ k) : N.log2 < k := by
  by_cases h0 : N = 0
  · subst h0; exact hk
  · exact (Nat.log2_lt h0).mpr h

theorem natAbs_mul_pow (v : Int) (k : Nat) : (v * ((2 ^ k : Nat) : Int)).natAbs = v.natAbs * 2 ^ k := by
  rw [Int.natAbs_mul, Int.natAbs_natCast]

/-- the values the full-scale statements name: `y = v · 2^(U-k)` is `v / 2^k` (in units: `y · 2^k = v · 1.0`). -/
theorem full_scale_meaning (v : Int) (k : Nat) (hk : k ≤ U) :
    v * ((2 ^ (U - k) : Nat) : Int) * ((2 ^ k : Nat) : Int) = v * (unit : Int) := by
  rw [Int.mul_assoc, ← Int.natCast_mul, ← Nat.pow_add]
  unfold unit
  congr 3; omega

namespace Fmt

/-- exponent (in units) just above the largest finite magnitude: every finite magnitude is below `2^topExp`. -/
def topExp (f : Fmt) : Nat := f.fb + (2 ^ f.w - 2) + f.sh

/-- a well-formed format: at least two significand bits and two exponent bits. -/
structure WF (f : Fmt) : Prop where
  hp : 2 ≤ f.p
  hw : 2 ≤ f.w

theorem wf32 : WF f32 := ⟨by decide, by decide⟩
theorem wf64 : WF f64 := ⟨by decide, by decide⟩

/-- `N` units are representable in `f`: an at most `p`-bit integer times a power of two not below the least subnormal,
    below the overflow threshold. -/
def Rep (f : Fmt) (N : Nat) : Prop := ∃ M s, N = M * 2 ^ s ∧ M < 2 ^ f.p ∧ f.sh ≤ s ∧ N < 2 ^ f.topExp

theorem p_eq (f : Fmt) (h : WF f) : f.p = f.fb + 1 := by unfold fb; have := h.hp; omega

theorem two_le_pow_w (f : Fmt) (h : WF f) : 4 ≤ 2 ^ f.w := pow_le_of_le h.hw

theorem exOf_field (f : Fmt) (e r : Nat) (hr : r < 2 ^ f.fb) : f.exOf (e * 2 ^ f.fb + r) = e := by
  rw [exOf, Nat.mul_comm, Nat.mul_add_div (Nat.two_pow_pos _), Nat.div_eq_of_lt hr]; rfl

theorem frOf_field (f : Fmt) (e r : Nat) (hr : r < 2 ^ f.fb) : f.frOf (e * 2 ^ f.fb + r) = r := by
  rw [frOf, Nat.mul_comm, Nat.mul_add_mod, Nat.mod_eq_of_lt hr]

/-- the encoding `e · 2^fb + M` of `roundMag` (`M` carries the hidden bit of a normal number, and is below it only in the
    lowest binade) decodes to `M · 2^e` least subnormals. -/
theorem decodeMag_encode (f : Fmt) (e M : Nat) (hM : M < 2 * 2 ^ f.fb) (h0 : M < 2 ^ f.fb → e = 0) :
    f.decodeMag (e * 2 ^ f.fb + M) = M * 2 ^ (e + f.sh) := by
  by_cases hsub : M < 2 ^ f.fb
  · rw [h0 hsub, Nat.zero_mul, Nat.zero_add, Nat.zero_add, decodeMag, exOf, frOf, Nat.div_eq_of_lt hsub,
      Nat.mod_eq_of_lt hsub, if_pos rfl]
  · have hfr : M - 2 ^ f.fb < 2 ^ f.fb := by omega
    have e1 : e * 2 ^ f.fb + M = (e + 1) * 2 ^ f.fb + (M - 2 ^ f.fb) := by rw [Nat.add_mul]; omega
    rw [e1, decodeMag, exOf_field _ _ _ hfr, frOf_field _ _ _ hfr, if_neg (by omega), Nat.add_sub_cancel,
      show 2 ^ f.fb + (M - 2 ^ f.fb) = M by omega, Nat.mul_assoc, ← Nat.pow_add]

/-- the spacing `roundMag` picks for a representable magnitude divides it, and leaves a significand of at most `p` bits
    that is short of the hidden bit only at the least spacing. -/
theorem ulpExp_normal (f : Fmt) (h : WF f) (N M s : Nat) (hN : N = M * 2 ^ s) (hM : M < 2 ^ f.p) (hs : f.sh ≤ s) :
    ∃ M', N = M' * 2 ^ f.ulpExp N ∧ M' < 2 ^ f.p ∧ f.sh ≤ f.ulpExp N ∧ (M' < 2 ^ f.fb → f.ulpExp N = f.sh) := by
  have hp := p_eq f h
  have hp2 := h.hp
  have hL : N.log2 < f.p + s := log2_lt_of_lt (by omega) (hN ▸ mul_pow_lt hM s)
  generalize hs' : f.ulpExp N = s'
  have hdef : s' = max (N.log2 + 1 - f.p) f.sh := hs'.symm
  have hNM' : N = M * 2 ^ (s - s') * 2 ^ s' := by
    rw [hN, Nat.mul_assoc, ← Nat.pow_add]; congr 2; omega
  generalize M * 2 ^ (s - s') = M' at hNM'
  refine ⟨M', hNM', ?_, by omega, fun hsub => ?_⟩
  · have : N < 2 ^ (f.p + s') := Nat.lt_of_lt_of_le Nat.lt_log2_self (pow_le_of_le (by omega))
    exact lt_of_mul_pow_lt (hNM' ▸ this)
  · have : N.log2 < f.fb + s' := log2_lt_of_lt (by omega) (hNM' ▸ mul_pow_lt hsub s')
    omega

/-- **exactness of the encoder**: a representable magnitude is encoded without change and without overflow. -/
theorem roundMag_exact (f : Fmt) (h : WF f) (N : Nat) (hN : Rep f N) :
    f.decodeMag (f.roundMag N) = N ∧ f.roundMag N < f.infMag := by
  obtain ⟨M, s, hNM, hM, hs, htop⟩ := hN
  obtain ⟨M', hN', hM', hsh, hsub⟩ := ulpExp_normal f h N M s hNM hM hs
  have hp2 : 2 ^ f.p = 2 * 2 ^ f.fb := by rw [p_eq f h, Nat.pow_succ, Nat.mul_comm]
  have hw := two_le_pow_w f h
  have hr : rheNat N (2 ^ f.ulpExp N) = M' := by
    generalize f.ulpExp N = s' at hN'; subst hN'; exact rheNat_mul _ _ (Nat.two_pow_pos _)
  rw [roundMag]; simp only [hr]
  generalize f.ulpExp N = s' at *
  -- the exponent field stays below all-ones: in a normal binade `2^(fb + s') ≤ N < 2^topExp`
  have hfin : (s' - f.sh) * 2 ^ f.fb + M' < f.infMag := by
    have hex : 2 ^ f.fb ≤ M' → s' - f.sh + 2 ≤ f.expAll := fun hn => by
      have : 2 ^ (f.fb + s') < 2 ^ f.topExp := by
        rw [Nat.pow_add]; exact Nat.lt_of_le_of_lt (Nat.mul_le_mul_right _ hn) (hN' ▸ htop)
      have := pow_lt_of_lt this
      unfold topExp at this; unfold expAll; omega
    by_cases hn : 2 ^ f.fb ≤ M'
    · have := Nat.mul_le_mul_right (2 ^ f.fb) (hex hn)
      rw [Nat.add_mul] at this; unfold infMag; omega
    · have := Nat.mul_le_mul_right (2 ^ f.fb) (show 1 ≤ f.expAll by unfold expAll; omega)
      rw [hsub (by omega), Nat.sub_self, Nat.zero_mul]; unfold infMag; omega
  rw [if_neg (by omega)]
  refine ⟨?_, hfin⟩
  rw [decodeMag_encode f _ _ (by omega) (fun hm => by rw [hsub hm]; omega), hN']
  congr 2; omega

theorem Rep.mk' (f : Fmt) (M s : Nat) (hM : M < 2 ^ f.p) (hs : f.sh ≤ s) (ht : f.p + s ≤ f.topExp) :
    Rep f (M * 2 ^ s) :=
  ⟨M, s, rfl, hM, hs, Nat.lt_of_lt_of_le (mul_pow_lt hM s) (pow_le_of_le ht)⟩

/-- a wider format represents everything a narrower one does. -/
theorem Rep.widen {f g : Fmt} {N : Nat} (hN : Rep f N) (hp : f.p ≤ g.p) (hsh : g.sh ≤ f.sh) (ht : f.topExp ≤ g.topExp) :
    Rep g N := by
  obtain ⟨M, s, h1, h2, h3, h4⟩ := hN
  exact ⟨M, s, h1, Nat.lt_of_lt_of_le h2 (pow_le_of_le hp), by omega, Nat.lt_of_lt_of_le h4 (pow_le_of_le ht)⟩

/-- multiplying by a power of two keeps a value representable as long as it does not overflow: scaling by a full-scale
    factor is exact. -/
theorem Rep.scale {f : Fmt} {N : Nat} (hN : Rep f N) (j : Nat) (ht : N * 2 ^ j < 2 ^ f.topExp) : Rep f (N * 2 ^ j) := by
  obtain ⟨M, s, h1, h2, h3, _⟩ := hN
  exact ⟨M, s + j, by rw [h1, Nat.mul_assoc, ← Nat.pow_add], h2, by omega, ht⟩

/-- dividing by a power of two keeps a value representable as long as it stays on the grid of the format. -/
theorem Rep.unscale {f : Fmt} {N : Nat} (hN : Rep f N) (M s j : Nat) (h1 : N = M * 2 ^ s) (h2 : M < 2 ^ f.p)
    (h3 : f.sh + j ≤ s) : Rep f (N / 2 ^ j) := by
  obtain ⟨_, _, _, _, _, h4⟩ := hN
  obtain ⟨t, rfl⟩ : ∃ t, s = t + j := ⟨s - j, by omega⟩
  have e : N / 2 ^ j = M * 2 ^ t := by
    rw [h1, Nat.pow_add, ← Nat.mul_assoc, Nat.mul_div_cancel _ (Nat.two_pow_pos j)]
  exact ⟨M, t, e, h2, by omega, Nat.lt_of_le_of_lt (Nat.div_le_self _ _) h4⟩

theorem infMag_lt (f : Fmt) (h : WF f) : f.infMag < 2 ^ (f.fb + f.w) := by
  have hw := two_le_pow_w f h
  rw [infMag, expAll, Nat.pow_add, Nat.mul_comm (2 ^ f.fb)]
  exact Nat.mul_lt_mul_of_pos_right (by omega) (Nat.two_pow_pos _)

theorem magOf_lt (f : Fmt) (b : Nat) : f.magOf b < 2 ^ (f.fb + f.w) := Nat.mod_lt _ (Nat.two_pow_pos _)

theorem magOf_sign (f : Fmt) (neg : Bool) (mag : Nat) (h : mag < 2 ^ (f.fb + f.w)) :
    f.magOf (f.signBit neg + mag) = mag ∧ f.negOf (f.signBit neg + mag) = neg := by
  unfold magOf negOf signBit
  cases neg with
  | true =>
    rw [if_pos rfl, Nat.add_mod_left, Nat.mod_eq_of_lt h, Nat.add_div_left _ (Nat.two_pow_pos _), Nat.div_eq_of_lt h]
    exact ⟨rfl, rfl⟩
  | false =>
    rw [if_neg Bool.false_ne_true, Nat.zero_add, Nat.mod_eq_of_lt h, Nat.div_eq_of_lt h]
    exact ⟨rfl, rfl⟩

/-- a magnitude is finite exactly when its exponent field is not all ones. -/
theorem exOf_lt (f : Fmt) (mag : Nat) (h : mag < f.infMag) : f.exOf mag < f.expAll :=
  Nat.div_lt_of_lt_mul (Nat.mul_comm _ _ ▸ h)

theorem finite_of_ex (f : Fmt) (mag : Nat) (h : f.exOf mag ≠ f.expAll) (hm : mag < 2 ^ (f.fb + f.w)) :
    mag < f.infMag := by
  have hlt : f.exOf mag < 2 ^ f.w := Nat.div_lt_of_lt_mul (Nat.pow_add .. ▸ hm)
  have hlt2 : f.exOf mag < f.expAll := by unfold expAll at h ⊢; omega
  exact (Nat.div_lt_iff_lt_mul (Nat.two_pow_pos f.fb)).mp hlt2

theorem decode_sign_mag (f : Fmt) (h : WF f) (neg : Bool) (mag : Nat) (hm : mag < f.infMag) :
    f.decode (f.signBit neg + mag) = .fin (if neg then -(f.decodeMag mag : Int) else (f.decodeMag mag : Int)) := by
  obtain ⟨h1, h2⟩ := magOf_sign f neg mag (Nat.lt_trans hm (infMag_lt f h))
  have hex := exOf_lt f mag hm
  simp only [decode, h1, h2]
  rw [if_neg (by omega)]

theorem decode_sign_inf (f : Fmt) (h : WF f) (neg : Bool) : f.decode (f.signBit neg + f.infMag) = .inf neg := by
  obtain ⟨h1, h2⟩ := magOf_sign f neg f.infMag (infMag_lt f h)
  have e1 := exOf_field f f.expAll 0 (Nat.two_pow_pos _)
  have e2 := frOf_field f f.expAll 0 (Nat.two_pow_pos _)
  rw [Nat.add_zero] at e1 e2
  simp only [decode, h1, h2]
  rw [show f.infMag = f.expAll * 2 ^ f.fb from rfl, e1, e2, if_pos rfl, if_pos rfl]

theorem decode_fin (f : Fmt) {b : Nat} {v : Int} (h : f.decode b = .fin v) :
    f.magOf b < f.infMag ∧ v = if f.negOf b then -(f.decodeMag (f.magOf b) : Int) else f.decodeMag (f.magOf b) := by
  unfold decode at h
  simp only [] at h
  split at h
  · split at h <;> cases h
  · rename_i hex
    exact ⟨finite_of_ex f _ hex (magOf_lt f b), (Val.fin.inj h).symm⟩

theorem decode_inf (f : Fmt) {b : Nat} {s : Bool} (h : f.decode b = .inf s) :
    f.exOf (f.magOf b) = f.expAll ∧ f.frOf (f.magOf b) = 0 ∧ f.negOf b = s := by
  unfold decode at h
  simp only [] at h
  split at h
  · rename_i hex
    split at h
    · rename_i hfr; exact ⟨hex, hfr, Val.inf.inj h⟩
    · cases h
  · cases h

theorem decode_mod (f : Fmt) (b : Nat) : f.decode (b % 2 ^ f.bits) = f.decode b := by
  have h1 : f.magOf (b % 2 ^ f.bits) = f.magOf b := Nat.mod_mod_of_dvd _ (Nat.pow_dvd_pow 2 (by unfold bits; omega))
  have h2 : f.negOf (b % 2 ^ f.bits) = f.negOf b := by
    unfold negOf bits; rw [Nat.pow_succ, Nat.mod_mul_right_div_self, Nat.mod_mod]
  simp only [decode, h1, h2]

theorem decodeMag_rep (f : Fmt) (h : WF f) (mag : Nat) (hm : mag < f.infMag) : Rep f (f.decodeMag mag) := by
  have hp := p_eq f h
  have hw := two_le_pow_w f h
  have hex := exOf_lt f mag hm
  have hfr : f.frOf mag < 2 ^ f.fb := Nat.mod_lt _ (Nat.two_pow_pos _)
  have hp2 : 2 ^ f.p = 2 * 2 ^ f.fb := by rw [hp, Nat.pow_succ, Nat.mul_comm]
  unfold expAll at hex
  unfold decodeMag
  split
  · exact Rep.mk' f _ _ (by omega) (Nat.le_refl _) (by unfold topExp; omega)
  · rw [Nat.mul_assoc, ← Nat.pow_add]
    exact Rep.mk' f _ _ (by omega) (by omega) (by unfold topExp; omega)

theorem natAbs_signed (neg : Bool) (m : Nat) : (if neg then -(m : Int) else m).natAbs = m := by
  cases neg <;> simp

theorem decode_rep (f : Fmt) (h : WF f) {b : Nat} {v : Int} (hv : f.decode b = .fin v) : Rep f v.natAbs := by
  obtain ⟨hm, e⟩ := decode_fin f hv
  rw [e, natAbs_signed]; exact decodeMag_rep f h _ hm

theorem decode_signed (f : Fmt) (h : WF f) (neg : Bool) (N : Nat) (hN : Rep f N) :
    f.decode (f.signBit neg + f.roundMag N) = .fin (if neg then -(N : Int) else N) := by
  obtain ⟨e1, e2⟩ := roundMag_exact f h N hN
  rw [decode_sign_mag f h _ _ e2, e1]

theorem decode_ofUnits (f : Fmt) (h : WF f) (x : Int) (hr : Rep f x.natAbs) : f.decode (f.ofUnits x) = .fin x := by
  rw [ofUnits, decode_signed f h _ _ hr]
  congr 1
  by_cases hneg : x < 0
  · rw [decide_eq_true hneg, if_pos rfl]; omega
  · rw [decide_eq_false hneg, if_neg Bool.false_ne_true]; omega

/-- `v · c` units rounded to the format: the sign of `v` and the magnitude `|v| · c` (what `cvtsi2ss` / `cvtsi2sd` and the
    libsamplerate helpers compute, with `c` the weight of one integer step). -/
theorem ofUnits_mul (f : Fmt) (v : Int) (c : Nat) (hc : 0 < c) :
    f.ofUnits (v * c) = f.signBit (decide (v < 0)) + f.roundMag (v.natAbs * c) := by
  have hc' : (0 : Int) < c := by omega
  have : (v * (c : Int) < 0) = (v < 0) := propext
    ⟨fun h => Int.not_le.mp fun hv => Int.not_le.mpr h (Int.mul_nonneg hv (Int.le_of_lt hc')),
     fun h => Int.mul_neg_of_neg_of_pos h hc'⟩
  rw [ofUnits, Int.natAbs_mul, Int.natAbs_natCast]
  simp only [this]

/-- **an integer the significand can hold converts exactly** (`cvtsi2ss` / `cvtsi2sd`). -/
theorem decode_ofInt (f : Fmt) (h : WF f) (hsh : f.sh ≤ U) (htop : f.p + U ≤ f.topExp) (v : Int)
    (hv : v.natAbs < 2 ^ f.p) : f.decode (f.ofInt v) = .fin (v * (unit : Int)) := by
  rw [ofInt, ← ofUnits_mul f v unit unit_pos]
  apply decode_ofUnits f h
  rw [Int.natAbs_mul, Int.natAbs_natCast]
  exact Rep.mk' f _ _ hv hsh htop

theorem cvt_finite (a b : Fmt) (x : Nat) (hne : a.exOf (a.magOf x) ≠ a.expAll) :
    cvt a b x = b.signBit (a.negOf x) + b.roundMag (a.decodeMag (a.magOf x)) := by
  rw [cvt, if_neg hne]

/-- **the value conversion between formats (`cvtss2sd` / `cvtsd2ss`) is exact wherever the target can represent the
    value**; infinities are kept. -/
theorem decode_cvt_fin (a b : Fmt) (hb : WF b) {x : Nat} {v : Int} (hv : a.decode x = .fin v) (hr : Rep b v.natAbs) :
    b.decode (cvt a b x) = .fin v := by
  obtain ⟨hm, e⟩ := decode_fin a hv
  have hex := exOf_lt a _ hm
  rw [e, natAbs_signed] at hr
  rw [cvt_finite a b x (by omega), decode_signed b hb _ _ hr, e]

theorem decode_cvt_inf (a b : Fmt) (hb : WF b) {x : Nat} {s : Bool} (hs : a.decode x = .inf s) :
    b.decode (cvt a b x) = .inf s := by
  obtain ⟨h1, h2, h3⟩ := decode_inf a hs
  rw [cvt, if_pos h1, if_pos h2, decode_sign_inf b hb, h3]

/-- widening (`cvtss2sd`) is exact for every pattern that is not a NaN. -/
theorem decode_cvt_widen (a b : Fmt) (ha : WF a) (hb : WF b) (hp : a.p ≤ b.p) (hsh : b.sh ≤ a.sh)
    (ht : a.topExp ≤ b.topExp) (x : Nat) (hn : a.decode x ≠ .nan) : b.decode (cvt a b x) = a.decode x := by
  cases hx : a.decode x with
  | fin v => exact decode_cvt_fin a b hb hx ((decode_rep a ha hx).widen hp hsh ht)
  | inf s => exact decode_cvt_inf a b hb hx
  | nan => exact absurd hx hn

theorem decode_cvt_cvt (a b : Fmt) (ha : WF a) (hb : WF b) (hp : a.p ≤ b.p) (hsh : b.sh ≤ a.sh)
    (ht : a.topExp ≤ b.topExp) (x : Nat) (hn : a.decode x ≠ .nan) :
    a.decode (cvt b a (cvt a b x)) = a.decode x := by
  have hw := decode_cvt_widen a b ha hb hp hsh ht x hn
  cases hx : a.decode x with
  | fin v => exact decode_cvt_fin b a ha (hw.trans hx) (decode_rep a ha hx)
  | inf s => exact decode_cvt_inf b a ha (hw.trans hx)
  | nan => exact absurd hx hn

end Fmt
end Soxr.Conv
