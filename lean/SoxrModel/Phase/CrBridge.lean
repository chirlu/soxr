import SoxrModel.Cr.Time
import SoxrModel.Phase.Bridge
/-!
# The stage `dft_stage_init` leaves satisfies what the constant-rate theorems assume of a dft stage

`never_early` (Properties/C03), `delay_gt_neg_one_every_run` (C15), `dft_inv` (Cr/EarlyNat.lean) and the schedule theorems
take, for every dft stage, the dft clause of `StageWF` (Cr/Wf.lean) and `DftShapeOK` (Cr/Time.lean); `tstage_b_exact` /
`dft_b` take `LatOK`.  The compiled driver evaluates them on every exported plan (`cr.wf`, `cr.time`).  Here they are
*derived* from the model of `dft_stage_init` (Phase/Model.lean): `lstageOf` maps the model's output to the
`StageCfg × StageSt × LatInfo` exactly as `harness/cr/trace.c` exports a dft stage (`kind=dft`, `L`, `dftLen`, `numTaps`,
`M = step.integer` — negative for the frequency-domain decimator —, `clk = at.integer`, `remM = 0` (the stage array is
`calloc`ed and `dft_stage_init` does not touch it), `preload → occ`, `isz = input_size`, `postPeak`).

What is proved (`stage_init_wf_shape`), for every phase response, every `L` (power-of-two `L ≥ 8` included, after the
repair of F1), both rate-change modes (`step = M` and the F-domain decimator `step = −M/2`):
all seven conjuncts of the dft clause of `StageWF`, all three of `DftShapeOK`; with the latency split
`post_peak = L·preload + at` (`dft_latency`) for linear phase `LatOK` (`lstage_latOK_linear`; so `(tstage x).b = 0`: the
stage is time-aligned).

What stays a hypothesis, and why — each is a fact about something the model does not compute:
* `hN : num_taps ≤ set_dft_length(num_taps)` and `hD : set_dft_length answers a power of two` — `set_dft_length` is
  `1 << range_limit((int)(log2 n + 2.77), …)`: floating-point `log` (opaque parameter `DftIn.dftLen`);
* `hB : L ≤ block_len ∧ M ≤ block_len` — the sizes of `L`, `M` relative to the block (the planner's `L ≤ 256`, `M ≤ 5`
  against `dft_length ≥ 2^log2_min_dft_size`); for power-of-two `L` the `L` half *follows* from the one numeric fact
  `3·num_taps ≤ 2·set_dft_length(num_taps)` (`dft_stage_init_pow2_sizes` in Properties/C14.lean: then `10·L < block_len`), thanks to the padding loop;
* `hT : the transform returns a length ≡ 1 (mod 4)` (non-linear phase only) — proved for the selection-step model of
  `lsx_fir_to_phase` (`transformed_length_mod4`, `nonlinear_design_mod4` in Properties/C14.lean); a hypothesis here because `DftIn.tpLen` is
  the transform's answer as a plain number;
* `hlin : linear phase with a power-of-two L is called with Fn == L or L ∣ 4` — the two call sites of `_soxr_init`
  (pre-stage `L ≤ 4`, post-stage `Fn = max(postL, postM) = postL`); planner logic upstream of `dft_stage_init`.
No clause of `StageWF` / `DftShapeOK` is left as a whole.
-/
namespace Soxr.Phase
open Soxr.Cr

/-! ## the C macro `lsx_is_power_of_2` (bitwise, `Basic.isPow2`) and the model's `isPow2L` -/

theorem isPow2_spec : ∀ x : Nat, isPow2 x = true → ∃ a, 1 ≤ a ∧ x = 2 ^ a := by
  intro x h
  unfold isPow2 at h
  simp only [Bool.and_eq_true, decide_eq_true_eq, beq_iff_eq] at h
  obtain ⟨a, ha⟩ := (Nat.and_sub_one_eq_zero_iff_isPowerOfTwo (by omega)).mp h.2
  refine ⟨a, Nat.pos_of_ne_zero fun h0 => ?_, ha⟩
  rw [ha, h0] at h; omega

theorem isPow2L_of_isPow2 (x : Nat) (h : isPow2 x = true) : isPow2L x = true := by
  obtain ⟨a, ha1, ha⟩ := isPow2_spec x h
  have h2 : 2 ^ 1 ≤ 2 ^ a := Nat.pow_le_pow_right (by omega) ha1
  exact (isPow2L_iff x).mpr ⟨ha ▸ h2, a, ha⟩

/-- the dft stage as `harness/cr/trace.c` exports it (`cr.stage` line), from the model of `dft_stage_init` -/
def lstageOf (o : DftOut) : LStage :=
  { cfg := (toStage o).cfg, s0 := (toStage o).st, lat := { postPeak := o.postPeak } }

/-- `step.integer`: `M`, or `−M/2` for the F-domain decimator (`M ∈ {2, 4}`, where `2^(M/2) = M`) -/
theorem dft_step_cases (i : DftIn) :
    (dftStageInit i).step = (i.M : Int) ∨
    ((dftStageInit i).step = -((i.M / 2 : Nat) : Int) ∧ i.M.isPowerOfTwo ∧ i.M ∣ 4 ∧ 2 ^ (i.M / 2) = i.M) := by
  have e : (dftStageInit i).step = if ((i.M == 2 || i.M == 4) && i.fsLe1) = true then -((i.M / 2 : Nat) : Int) else (i.M : Int) := rfl
  split at e
  · rename_i hc
    simp only [Bool.and_eq_true, Bool.or_eq_true, beq_iff_eq] at hc
    rcases hc.1 with hm | hm <;> rw [hm] at e ⊢
    · exact Or.inr ⟨e, ⟨1, rfl⟩, ⟨2, rfl⟩, rfl⟩
    · exact Or.inr ⟨e, ⟨2, rfl⟩, ⟨1, rfl⟩, rfl⟩
  · exact Or.inl e

/-- **`StageWF`'s dft clause and `DftShapeOK` for the stage `dft_stage_init` leaves** — every phase response, every `L`,
    both rate-change modes.  The hypotheses are the facts about the opaque floating-point / planner parts listed in the
    header; no clause is left as a whole. -/
theorem stage_init_wf_shape (i : DftIn) (hL : 0 < i.L) (hM : 0 < i.M)
    (hT : i.lin = false → i.tpLen % 4 = 1)
    (b : Nat) (hD : i.dftLen = 2 ^ b) (hN : (dftStageInit i).numTaps ≤ i.dftLen)
    (hB : i.L ≤ (dftStageInit i).blockLen ∧ i.M ≤ (dftStageInit i).blockLen)
    (hlin : i.lin = true → isPow2L i.L = true → i.fnEqL = true ∨ i.L ∣ 4) :
    StageWF (lstageOf (dftStageInit i)).cfg (lstageOf (dftStageInit i)).s0 ∧
    DftShapeOK (lstageOf (dftStageInit i)).cfg (lstageOf (dftStageInit i)).s0 := by
  have hnl : i.lin = false → 1 ≤ i.tpLen := fun hl => by have := hT hl; omega
  have hND : (dftStageInit i).numTaps ≤ (dftStageInit i).dftLen := Nat.le_trans hN (finalDftLen_ge_self _ _)
  have hstep := dft_step_cases i
  -- `dftOutOK`: `step = M` with `M ≤ block_len`, or the F-domain decimator (`step < 0`)
  have hout : dftOutOK (toStage (dftStageInit i)).cfg 0 := by
    show (if 0 < (dftStageInit i).step then ((dftStageInit i).step = 1 ∨
        ((dftStageInit i).step.toNat ≤ (dftStageInit i).blockLen ∧ 0 < (dftStageInit i).step.toNat)) else True)
    rcases hstep with hs | ⟨hs, _⟩ <;> rw [hs]
    · rw [if_pos (by omega), Int.toNat_natCast]; exact Or.inr ⟨hB.2, hM⟩
    · rw [if_neg (by omega)]; trivial
  refine ⟨toStage_wf i hL (dft_numTaps_pos i hnl) hND hB.1 hout, rfl, fun hp => ?_, fun hle => ?_⟩
  · -- power-of-two `L` (as the C macro tests it), or `L = 1`
    show i.L ∣ (dftStageInit i).blockLen
    simp only [Bool.or_eq_true, beq_iff_eq] at hp
    rcases hp with hp | h1
    · have hpl := isPow2L_of_isPow2 i.L hp
      exact (dft_block_aligned i hpl b hD (fun hl => hlin hl hpl) hnl).2.1
    · rw [show i.L = 1 from h1]; exact Nat.one_dvd _
  · -- F-domain decimator: `2^m ∣ block_len`, `m = M / 2`; `M` is a power of two `≤ block_len ≤ dft_length` and
    -- `M ∣ 4 ∣ num_taps - 1`
    change (dftStageInit i).step ≤ 0 at hle
    show 2 ^ (-(dftStageInit i).step).toNat ∣ (dftStageInit i).blockLen
    rcases hstep with hs | ⟨hs, hM2, hM4, hpw⟩
    · omega
    · rw [hs, Int.neg_neg, Int.toNat_natCast, hpw]
      exact pow2_dvd_blockLen i ⟨b, hD⟩ hM2 (Nat.le_trans hB.2 (Nat.sub_le _ _))
        (Nat.dvd_trans hM4 (numTaps_mod4 i hT))

/-- **Linear phase gives `LatOK`** (what `dft_b` / `tstage_b_exact` take as a hypothesis): the filter is centred on a tap,
    and `preload`, `at` split the peak position.  Hence `(tstage x).b = 0`. -/
theorem lstage_latOK_linear (i : DftIn) (hL : 0 < i.L) (hl : i.lin = true) (e : Bool) :
    LatOK e (lstageOf (dftStageInit i)) :=
  ⟨dft_lin_centred i hl, hL, rfl, rfl⟩

/-- **`EarlyOK` for a linear-phase power-of-two stage** (the hypothesis of `never_early`): the peak lies at least `L - 1`
    taps in as soon as the Kaiser estimate asks for two taps. -/
theorem lstage_peak_ge_L (i : DftIn) (hl : i.lin = true) (hp : isPow2L i.L = true) (hf : i.fnEqL = true) (hn : 2 ≤ i.nRaw) :
    i.L ≤ (dftStageInit i).postPeak + 1 := by
  obtain ⟨q, _, hpp, hq⟩ := dft_lin_form i hl hp hf
  rw [hpp]
  exact Nat.le_succ_of_le (Nat.le_mul_of_pos_right _ (hq hn))

end Soxr.Phase
