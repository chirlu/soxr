import SoxrModel.Phase.Model
/-!
# The phase model (`Phase/Model.lean`) in closed form

The selection step reads one window of one array in one of two directions, and `p`, `100 - p` differ in the direction
only (`firToPhaseAt_mirror`): the mirror law is what flipping the direction does (`firToPhase_not`).  `lsx_make_lpf`: the
array after `k` iterations, by induction on `k`.  `dft_stage_init`: its fields for linear and for non-linear phase
(`dft_lin`, `dft_nonlin`), then the divisibility facts behind the block-alignment clause, on core's `Nat.isPowerOfTwo`
(two powers of two divide one another: `pow2_dvd_of_le`).
-/
namespace Soxr.Phase

theorem fold_of_le {d n : Nat} (h : n ≤ 50 * d) : fold d n = n := if_neg (Nat.not_lt.mpr h)

theorem gt50_of_le {d n : Nat} (h : n ≤ 50 * d) : gt50 d n = false := decide_eq_false (Nat.not_lt.mpr h)

/-- the folded phase is the distance to the nearer end of the scale -/
theorem fold_eq_min (d n : Nat) : fold d n = min n (100 * d - n) := by
  unfold fold; split <;> omega

theorem fold_mirror (d n : Nat) (h : n ≤ 100 * d) : fold d (100 * d - n) = fold d n := by
  rw [fold_eq_min, fold_eq_min, Nat.sub_sub_self h, Nat.min_comm]

theorem gt50_mirror (d n : Nat) (h : n ≤ 100 * d) (hne : n ≠ 50 * d) : gt50 d (100 * d - n) = !gt50 d n := by
  unfold gt50; rw [← decide_not]; exact decide_eq_decide.mpr (by omega)

theorem cls_mirror (d n : Nat) (h : n ≤ 100 * d) : cls d (100 * d - n) = cls d n := by
  unfold cls; rw [fold_mirror d n h]

theorem cls_zero (d : Nat) : cls d 0 = .min := by
  unfold cls; rw [fold_of_le (Nat.zero_le _), if_pos rfl]

theorem cls_half {d : Nat} (hd : 0 < d) : cls d (50 * d) = .lin := by
  unfold cls; rw [fold_of_le (Nat.le_refl _), if_neg (by omega), if_pos rfl]

theorem mask3_mod (x : Nat) : mask3 x % 4 = 0 := by unfold mask3; omega

theorem selWindow_min (i : SelIn) : selWindow .min i = (0, i.len) := rfl

theorem selWindow_mid_len (i : SelIn) : (selWindow .mid i).2 = 1 + mask3 i.begin0 + mask3 (i.end0 + 3) := by
  simp only [selWindow]; omega

/-- every branch keeps `len ≡ 1 (mod 4)` (the design length is `≡ 1 (mod 4)` for non-linear phase, `k = 4`) -/
theorem selWindow_len_mod4 (c : Cls) (i : SelIn) (h : i.len % 4 = 1) : (selWindow c i).2 % 4 = 1 := by
  cases c with
  | min => exact h
  | lin => exact h
  | mid =>
    have := mask3_mod i.begin0
    have := mask3_mod (i.end0 + 3)
    rw [selWindow_mid_len]; omega

theorem srcIndex_lt (g : Bool) (b : Int) (len wl i : Nat) (hw : 0 < wl) : srcIndex g b len wl i < wl := by
  unfold srcIndex
  exact (Int.toNat_lt (Int.emod_nonneg _ (by omega))).mpr (Int.emod_lt_of_pos _ (by omega))

theorem srcIndex_not (g : Bool) (b : Int) (len wl i : Nat) (hi : i < len) :
    srcIndex (!g) b len wl i = srcIndex g b len wl (len - 1 - i) := by
  unfold srcIndex
  cases g
  · rw [show ((len - 1 - i : Nat) : Int) = (len : Int) - 1 - i by omega]; rfl
  · rw [show (len : Int) - 1 - ((len - 1 - i : Nat) : Int) = i by omega]; rfl

/-- linear branch: tap `len/2` reads `work[peak]`, the taps `t` before and after it `work[peak ∓ t]` -/
theorem srcIndex_lin (i : SelIn) (k k' t : Nat) (hk : k + t = i.len / 2) (hk' : k' = i.len / 2 + t) :
    srcIndex false (selWindow .lin i).1 (selWindow .lin i).2 i.workLen k
      = (((i.peak : Int) - t + i.workLen) % (i.workLen : Int)).toNat ∧
    srcIndex false (selWindow .lin i).1 (selWindow .lin i).2 i.workLen k'
      = (((i.peak : Int) + t + i.workLen) % (i.workLen : Int)).toNat := by
  subst hk'
  unfold srcIndex selWindow
  simp only [Bool.false_eq_true, if_false, ← hk]
  constructor <;> congr 3 <;> omega

theorem postLen_not (g : Bool) (b : Int) (len peak : Nat) :
    postLen (!g) b len peak = (len : Int) - 1 - postLen g b len peak := by
  cases g <;> simp only [postLen, Bool.not_true, Bool.not_false, if_true, Bool.false_eq_true, if_false] <;> omega

theorem postLen_lin (i : SelIn) (hl : 1 ≤ i.len) :
    postLen false (selWindow .lin i).1 (selWindow .lin i).2 i.peak = ((i.len - 1) / 2 : Nat) := by
  simp only [postLen, selWindow, Bool.false_eq_true, if_false]; omega

theorem postLen_mid (i : SelIn) :
    postLen false (selWindow .mid i).1 (selWindow .mid i).2 i.peak = mask3 (i.end0 + 3) := by
  simp only [postLen, selWindow, Bool.false_eq_true, if_false]; omega

@[simp] theorem firToPhase_length {α : Type} (work : Nat → α) (g : Bool) (c : Cls) (i : SelIn) :
    (firToPhase work g c i).taps.length = (selWindow c i).2 := by
  simp [firToPhase]

theorem firToPhase_getElem {α : Type} (work : Nat → α) (g : Bool) (c : Cls) (i : SelIn) (k : Nat)
    (hk : k < (firToPhase work g c i).taps.length) :
    (firToPhase work g c i).taps[k] = work (srcIndex g (selWindow c i).1 (selWindow c i).2 i.workLen k) := by
  simp [firToPhase]

/-- **mirror law of the selection step**: the other reading direction gives the same window of the same array
    backwards, and the peak as far from the end as it was from the start -/
theorem firToPhase_not {α : Type} (work : Nat → α) (g : Bool) (c : Cls) (i : SelIn) :
    (firToPhase work (!g) c i).taps = (firToPhase work g c i).taps.reverse ∧
    (firToPhase work (!g) c i).postLen = ((selWindow c i).2 : Int) - 1 - (firToPhase work g c i).postLen := by
  refine ⟨List.ext_getElem (by simp) fun k h1 _ => ?_, postLen_not ..⟩
  rw [List.getElem_reverse, firToPhase_getElem, firToPhase_getElem,
    srcIndex_not _ _ _ _ _ (by simpa using h1)]
  simp

theorem firToPhaseAt_length {α : Type} (cep : Cep α) (d n : Nat) :
    (firToPhaseAt cep d n).taps.length = (selWindow (cls d n) (cep.sel (fold d n))).2 :=
  firToPhase_length ..

theorem firToPhaseAt_of_le {α : Type} (cep : Cep α) {d n : Nat} (h : n ≤ 50 * d) :
    firToPhaseAt cep d n = firToPhase (cep.work n) false (cls d n) (cep.sel n) := by
  unfold firToPhaseAt; rw [fold_of_le h, gt50_of_le h]

/-- the two settings `p`, `100 - p` go through the selection step with the same array, branch and integers, in
    opposite directions -/
theorem firToPhaseAt_mirror {α : Type} (cep : Cep α) (d n : Nat) (h : n ≤ 100 * d) (hne : n ≠ 50 * d) :
    firToPhaseAt cep d (100 * d - n) =
      firToPhase (cep.work (fold d n)) (!gt50 d n) (cls d n) (cep.sel (fold d n)) := by
  unfold firToPhaseAt; rw [fold_mirror d n h, cls_mirror d n h, gt50_mirror d n h hne]

theorem lpfStep_apply {α : Type} (f : Nat → α) (m : Nat) (h : Nat → Option α) (i j : Nat) :
    lpfStep f m h i j = if j = i ∨ j = m - i then some (f i) else h j := by
  unfold lpfStep
  by_cases hne : m - i ≠ i
  · rw [if_pos hne]
    by_cases j1 : j = m - i
    · simp [j1]
    · simp only [j1, if_false, or_false]
  · rw [if_neg hne]; simp only [show m - i = i from Classical.not_not.mp hne, or_self]

/-- state of the array after iterations `0 … k-1`: exactly the taps `j ≤ m` with `min j (m - j) < k` are written,
    tap `j` with the value computed for `min j (m - j)` (the one iteration `i ≤ m/2` with `j = i` or `j = m - i`) -/
theorem lpf_fold_apply {α : Type} (f : Nat → α) (m k : Nat) (hk : k ≤ m / 2 + 1) (j : Nat) :
    (List.range k).foldl (lpfStep f m) (fun _ => none) j =
      if j ≤ m ∧ min j (m - j) < k then some (f (min j (m - j))) else none := by
  induction k with
  | zero => simp
  | succ k ih =>
    rw [List.range_succ, List.foldl_append, List.foldl_cons, List.foldl_nil, lpfStep_apply, ih (by omega)]
    have key : (j = k ∨ j = m - k) ↔ (j ≤ m ∧ min j (m - j) = k) := by omega
    generalize min j (m - j) = μ at key ⊢
    by_cases c : j ≤ m ∧ μ = k
    · rw [if_pos (key.mpr c), if_pos ⟨c.1, c.2 ▸ Nat.lt_succ_self k⟩, c.2]
    · rw [if_neg (mt key.mp c)]
      exact ite_congr (propext (by omega)) (fun _ => rfl) (fun _ => rfl)

theorem makeLpf_spec {α : Type} (f : Nat → α) (n j : Nat) (hn : 1 ≤ n) (hj : j < n) :
    makeLpf f n j = some (f (min j (n - 1 - j))) :=
  (lpf_fold_apply f (n - 1) _ (Nat.le_refl _) j).trans (if_pos (by omega))

/-- powers of two are totally ordered by divisibility -/
theorem pow2_dvd_of_le {x y : Nat} (hx : x.isPowerOfTwo) (hy : y.isPowerOfTwo) (h : x ≤ y) : x ∣ y := by
  obtain ⟨a, rfl⟩ := hx
  obtain ⟨b, rfl⟩ := hy
  exact Nat.pow_dvd_pow 2 ((Nat.pow_le_pow_iff_right (by omega)).mp h)

theorem isPow2L_iff (x : Nat) : isPow2L x = true ↔ 2 ≤ x ∧ x.isPowerOfTwo := by
  unfold isPow2L
  simp only [Bool.and_eq_true, decide_eq_true_eq, beq_iff_eq]
  exact and_congr_right fun _ => ⟨fun h => ⟨_, h.symm⟩, fun ⟨a, ha⟩ => by rw [ha, Nat.log2_two_pow]⟩

theorem isPow2L_pos {x : Nat} (h : isPow2L x = true) : 0 < x := by
  have := ((isPow2L_iff x).mp h).1; omega

theorem dvd_roundTaps_sub_one (n k : Nat) : k ∣ roundTaps n k - 1 := Nat.dvd_mul_left k _

/-- an even modulus gives an odd length, in the form `2·(q·m) + 1` -/
theorem roundTaps_two_mul (n m : Nat) : roundTaps n (2 * m) = 2 * ((n + 2 * m - 2) / (2 * m) * m) + 1 := by
  unfold roundTaps; rw [Nat.mul_left_comm]

/-- the designed length is not shorter than the estimate -/
theorem roundTaps_ge (n k : Nat) (_hn : 1 ≤ n) (hk : 0 < k) : n ≤ roundTaps n k := by
  unfold roundTaps
  have h := Nat.div_add_mod (n + k - 2) k
  have h2 := Nat.mod_lt (n + k - 2) hk
  rw [Nat.mul_comm] at h
  omega

theorem roundTaps_pos (n k : Nat) : 1 ≤ roundTaps n k := Nat.le_add_left 1 _

theorem padDft_form (L : Nat) : ∀ fuel D, ∃ j, padDft L fuel D = D * 2 ^ j := by
  intro fuel
  induction fuel with
  | zero => intro D; exact ⟨0, (Nat.mul_one D).symm⟩
  | succ f ih =>
    intro D
    unfold padDft
    split
    · obtain ⟨j, hj⟩ := ih (2 * D)
      exact ⟨j + 1, by rw [hj, Nat.pow_succ, Nat.mul_comm 2 D, Nat.mul_assoc, Nat.mul_comm 2]⟩
    · exact ⟨0, (Nat.mul_one D).symm⟩

theorem padDft_id (L fuel D : Nat) (h : 32 * L ≤ D) : padDft L fuel D = D := by
  cases fuel with
  | zero => rfl
  | succ f => unfold padDft; rw [if_neg (by omega)]

/-- with enough fuel the loop ends at `≥ 32·L` (every doubling of a length `≥ 1` gains at least 1) -/
theorem padDft_ge (L : Nat) : ∀ fuel D, 1 ≤ D → 32 * L ≤ fuel + D → 32 * L ≤ padDft L fuel D := by
  intro fuel
  induction fuel with
  | zero => intro D _ h; simpa [padDft] using h
  | succ f ih =>
    intro D hD h
    unfold padDft
    split
    · exact ih (2 * D) (by omega) (by omega)
    · omega

theorem finalDftLen_form (L D : Nat) : ∃ j, finalDftLen L D = D * 2 ^ j := by
  unfold finalDftLen
  split
  · exact padDft_form _ _ _
  · exact ⟨0, (Nat.mul_one D).symm⟩

theorem finalDftLen_ge (L D : Nat) (hp : isPow2L L = true) (hD : 1 ≤ D) : 32 * L ≤ finalDftLen L D := by
  unfold finalDftLen; rw [if_pos hp]; exact padDft_ge L (32 * L) D hD (by omega)

theorem finalDftLen_ge_self (L D : Nat) : D ≤ finalDftLen L D := by
  obtain ⟨j, hj⟩ := finalDftLen_form L D
  rw [hj]; exact Nat.le_mul_of_pos_right D (Nat.pow_pos (by omega))

theorem finalDftLen_pow2 (L : Nat) {D : Nat} (hD : D.isPowerOfTwo) : (finalDftLen L D).isPowerOfTwo := by
  obtain ⟨b, rfl⟩ := hD
  obtain ⟨j, hj⟩ := finalDftLen_form L (2 ^ b)
  exact ⟨b + j, by rw [hj, Nat.pow_add]⟩

theorem finalDftLen_id (L D : Nat) (h : 32 * L ≤ D) : finalDftLen L D = D := by
  unfold finalDftLen; split
  · exact padDft_id L _ D h
  · rfl

/-- the tap padding makes `L ∣ num_taps - 1` -/
theorem tapPad_dvd (L n : Nat) (hp : isPow2L L = true) (hn : 1 ≤ n) : L ∣ (n + tapPad L n) - 1 := by
  have hlt := Nat.mod_lt (n - 1) (isPow2L_pos hp)
  have hdm := Nat.div_add_mod (n - 1) L
  unfold tapPad
  rw [hp, Bool.true_and]
  split
  · exact ⟨(n - 1) / L + 1, by rw [Nat.mul_succ]; omega⟩
  · rename_i h
    exact Nat.dvd_of_mod_eq_zero (by simpa using h)

/-- … adds less than `L` taps, and nothing when `L` already divides -/
theorem tapPad_lt (L n : Nat) (hL : 0 < L) : tapPad L n < L := by
  unfold tapPad
  split
  · exact Nat.sub_lt hL (Nat.pos_of_ne_zero (by simp_all))
  · exact hL

theorem tapPad_zero_of_dvd (L n : Nat) (h : (n - 1) % L = 0) : tapPad L n = 0 := by
  unfold tapPad; simp [h]

/-- the length modulus `k` is `4`, or `2·L` for a power of two `L ≥ 2` -/
theorem four_dvd_designK (lin : Bool) (L : Nat) (fnEqL : Bool) : 4 ∣ designK lin L fnEqL := by
  unfold designK; split
  · rename_i hc
    simp only [Bool.and_eq_true] at hc
    have ⟨h2, hx⟩ := (isPow2L_iff _).mp hc.1.2
    exact Nat.mul_dvd_mul_left 2 (pow2_dvd_of_le ⟨1, rfl⟩ hx h2)
  · exact Nat.dvd_refl 4

theorem dft_L (i : DftIn) : (dftStageInit i).L = i.L := rfl
theorem dft_dftLen (i : DftIn) : (dftStageInit i).dftLen = finalDftLen i.L i.dftLen := rfl
theorem dft_blockLen (i : DftIn) : (dftStageInit i).blockLen = (dftStageInit i).dftLen - ((dftStageInit i).numTaps - 1) := rfl
theorem dft_preload (i : DftIn) : (dftStageInit i).preload = (dftStageInit i).postPeak / i.L := rfl
theorem dft_clk (i : DftIn) : (dftStageInit i).clk = (dftStageInit i).postPeak % i.L := rfl
theorem dft_isz (i : DftIn) : (dftStageInit i).isz = ((dftStageInit i).dftLen - (dftStageInit i).clk + i.L - 1) / i.L := rfl

theorem dft_lin (i : DftIn) (hl : i.lin = true) :
    (dftStageInit i).numTaps = roundTaps i.nRaw (designK true i.L i.fnEqL) ∧
    (dftStageInit i).postPeak = roundTaps i.nRaw (designK true i.L i.fnEqL) / 2 := by
  unfold dftStageInit dftStageInitWith; rw [hl]; exact ⟨rfl, rfl⟩

theorem dft_nonlin (i : DftIn) (hl : i.lin = false) :
    (dftStageInit i).numTaps = i.tpLen + tapPad i.L i.tpLen ∧ (dftStageInit i).postPeak = i.tpPost + tapPad i.L i.tpLen ∧
    (dftStageInit i).padTaps = tapPad i.L i.tpLen ∧ (dftStageInit i).k = 4 ∧
    (dftStageInit i).nDesign = roundTaps i.nRaw 4 := by
  unfold dftStageInit dftStageInitWith; rw [hl]; exact ⟨rfl, rfl, rfl, rfl, rfl⟩

/-- non-linear phase: the peak position the transform reports moves `post_peak` and nothing else of the block arithmetic -/
theorem dft_nonlin_tpPost (i : DftIn) (hl : i.lin = false) (q : Nat) :
    (dftStageInit { i with tpPost := q }).numTaps = (dftStageInit i).numTaps ∧
    (dftStageInit { i with tpPost := q }).padTaps = (dftStageInit i).padTaps ∧
    (dftStageInit { i with tpPost := q }).blockLen = (dftStageInit i).blockLen ∧
    (dftStageInit { i with tpPost := q }).postPeak = q + (dftStageInit i).padTaps := by
  obtain ⟨h1, _, h3, _⟩ := dft_nonlin i hl
  obtain ⟨g1, g2, g3, _⟩ := dft_nonlin { i with tpPost := q } hl
  refine ⟨g1.trans h1.symm, g3.trans h3.symm, ?_, g2.trans (by rw [h3])⟩
  rw [dft_blockLen, dft_blockLen, g1, h1]; rfl

/-- before the repair: the transformed length and peak position are used as they come -/
theorem dftPre_nonlin (i : DftIn) (hl : i.lin = false) :
    (dftStageInitPreF1 i).numTaps = i.tpLen ∧ (dftStageInitPreF1 i).postPeak = i.tpPost := by
  unfold dftStageInitPreF1 dftStageInitWith; rw [hl]; exact ⟨rfl, rfl⟩

theorem dft_latency (i : DftIn) (hL : 0 < i.L) :
    (dftStageInit i).postPeak = i.L * (dftStageInit i).preload + (dftStageInit i).clk ∧ (dftStageInit i).clk < i.L :=
  ⟨(Nat.div_add_mod _ _).symm, Nat.mod_lt _ hL⟩

theorem dft_numTaps_pos (i : DftIn) (hnl : i.lin = false → 1 ≤ i.tpLen) : 1 ≤ (dftStageInit i).numTaps := by
  cases hl : i.lin
  · rw [(dft_nonlin i hl).1]; exact Nat.le_trans (hnl hl) (Nat.le_add_right _ _)
  · rw [(dft_lin i hl).1]; exact roundTaps_pos _ _

/-- linear phase: the length is odd and the peak is the middle tap, because `k` is even -/
theorem dft_lin_centred (i : DftIn) (hl : i.lin = true) :
    (dftStageInit i).numTaps = 2 * (dftStageInit i).postPeak + 1 := by
  obtain ⟨h1, h2⟩ := dft_lin i hl
  obtain ⟨m, hm⟩ : 2 ∣ designK true i.L i.fnEqL := Nat.dvd_trans ⟨2, rfl⟩ (four_dvd_designK ..)
  rw [h1, h2, hm, roundTaps_two_mul]; omega

/-- linear phase, power-of-two `L`, `Fn == L` (`k = 2·L`): the length is `2·L·q + 1` with the peak on the input grid;
    `q ≥ 1` as soon as the Kaiser estimate asks for two taps -/
theorem dft_lin_form (i : DftIn) (hl : i.lin = true) (hp : isPow2L i.L = true) (hf : i.fnEqL = true) :
    ∃ q, (dftStageInit i).numTaps = 2 * i.L * q + 1 ∧ (dftStageInit i).postPeak = i.L * q ∧ (2 ≤ i.nRaw → 1 ≤ q) := by
  obtain ⟨h1, h2⟩ := dft_lin i hl
  have hk : designK true i.L i.fnEqL = 2 * i.L := if_pos (by rw [hp, hf]; rfl)
  rw [hk, roundTaps_two_mul] at h1 h2
  have hL := isPow2L_pos hp
  refine ⟨(i.nRaw + 2 * i.L - 2) / (2 * i.L), by rw [h1, Nat.mul_assoc, Nat.mul_comm i.L], by rw [h2, Nat.mul_comm i.L]; omega,
    fun hn => (Nat.le_div_iff_mul_le (by omega)).mpr (by omega)⟩

/-- the one divisibility argument behind both shape clauses of a dft stage (`x = L`: frequency-domain up-sampler,
    `x = M`: frequency-domain decimator): `block_len = dft_length - (num_taps - 1)` and `x ∣ dft_length`, both being powers of two -/
theorem pow2_dvd_blockLen (i : DftIn) (hD : i.dftLen.isPowerOfTwo) {x : Nat} (hx : x.isPowerOfTwo)
    (hle : x ≤ (dftStageInit i).dftLen) (hn : x ∣ (dftStageInit i).numTaps - 1) : x ∣ (dftStageInit i).blockLen :=
  Nat.dvd_sub (pow2_dvd_of_le hx (finalDftLen_pow2 _ hD) hle) hn

/-- the block-alignment clause for every phase response (stated in `Properties/C14.lean` as `block_aligned_all_phases`):
    `L ∣ num_taps - 1` — non-linear phase by the trailing zeros, linear phase because `L ∣ k` — and `L ≤ 32·L ≤ dft_length` -/
theorem dft_block_aligned (i : DftIn) (hp : isPow2L i.L = true) (b : Nat) (hD : i.dftLen = 2 ^ b)
    (hlin : i.lin = true → i.fnEqL = true ∨ i.L ∣ 4) (hnl : i.lin = false → 1 ≤ i.tpLen) :
    FDomainOK (dftStageInit i) ∧ i.L ∣ (dftStageInit i).blockLen ∧ i.L ∣ (dftStageInit i).numTaps - 1 ∧
    32 * i.L ≤ (dftStageInit i).dftLen := by
  have htaps : i.L ∣ (dftStageInit i).numTaps - 1 := by
    cases hl : i.lin
    · rw [(dft_nonlin i hl).1]; exact tapPad_dvd i.L i.tpLen hp (hnl hl)
    · rw [(dft_lin i hl).1]
      refine Nat.dvd_trans ?_ (dvd_roundTaps_sub_one _ _)
      unfold designK
      rcases hlin hl with hf | h4
      · rw [if_pos (by rw [hp, hf]; rfl)]; exact Nat.dvd_mul_left _ _
      · split
        · exact Nat.dvd_mul_left _ _
        · exact h4
  have hge : 32 * i.L ≤ (dftStageInit i).dftLen := finalDftLen_ge i.L i.dftLen hp (by rw [hD]; exact Nat.pow_pos (by omega))
  have hbl := pow2_dvd_blockLen i ⟨b, hD⟩ ((isPow2L_iff _).mp hp).2 (by omega) htaps
  exact ⟨fun _ => hbl, hbl, htaps, hge⟩

/-- `num_taps - 1` is a multiple of 4 for every phase (`k` is a multiple of 4; the transform keeps `≡ 1 (mod 4)`; the
    trailing zeros only appear for `L ≥ 8`, where they make it a multiple of `L`) -/
theorem numTaps_mod4 (i : DftIn) (hT : i.lin = false → i.tpLen % 4 = 1) : 4 ∣ (dftStageInit i).numTaps - 1 := by
  cases hl : i.lin
  · rw [(dft_nonlin i hl).1]
    have h4 : 4 ∣ i.tpLen - 1 := Nat.dvd_of_mod_eq_zero (by have := hT hl; omega)
    by_cases hp : isPow2L i.L = true
    · -- a power of two divides 4 (then it divides `tpLen - 1` already: no zeros) or is a multiple of 4
      rcases Nat.le_total i.L 4 with hle | hle
      · have := pow2_dvd_of_le ((isPow2L_iff _).mp hp).2 ⟨2, rfl⟩ hle
        rw [tapPad_zero_of_dvd _ _ (Nat.mod_eq_zero_of_dvd (Nat.dvd_trans this h4)), Nat.add_zero]; exact h4
      · exact Nat.dvd_trans (pow2_dvd_of_le ⟨2, rfl⟩ ((isPow2L_iff _).mp hp).2 hle)
          (tapPad_dvd i.L i.tpLen hp (by have := hT hl; omega))
    · rw [show tapPad i.L i.tpLen = 0 by unfold tapPad; simp [hp], Nat.add_zero]; exact h4
  · rw [(dft_lin i hl).1]
    exact Nat.dvd_trans (four_dvd_designK ..) (dvd_roundTaps_sub_one _ _)

end Soxr.Phase
