import SoxrModel.Cr.Wf
import SoxrModel.Phase.Lemmas
/-!
# From `dft_stage_init` (Phase model) to a stage of the count model (`Cr/Model.lean`)

`toStage` is what `_soxr_init` does with the stage after `dft_stage_init`: the FIFO is pre-loaded with `preload` zeros,
`at.integer`, `input_size`, `remM = 0`.  The count model never looks at `post_peak` itself: the phase setting reaches
it only through the initial occupancy `preload`, the initial clock `at` and `num_taps`.
-/
namespace Soxr.Phase
open Soxr.Cr

def toStage (o : DftOut) : Stage :=
  { cfg := { kind := .dft, L := o.L, dftLen := o.dftLen, numTaps := o.numTaps, M := o.step },
    st := { occ := o.preload, clk := o.clk, remM := 0, isz := o.isz } }

/-- the stage `dft_stage_init` leaves satisfies the count model's `StageWF` whatever `post_peak` the phase transform
    produced: the latency fields (`at < L`, `input_size`) hold by construction, the rest are the shape conditions. -/
theorem toStage_wf (i : DftIn) (hL : 0 < i.L) (h1 : 1 ≤ (dftStageInit i).numTaps)
    (h2 : (dftStageInit i).numTaps ≤ (dftStageInit i).dftLen) (h3 : i.L ≤ (dftStageInit i).blockLen)
    (h4 : dftOutOK (toStage (dftStageInit i)).cfg 0) : (toStage (dftStageInit i)).WF :=
  ⟨hL, h1, h2, (dft_latency i hL).2, h3, dft_isz i, h4⟩

/-- frames the frequency-domain path reads per block (`divd.quot`, `at` never changes on that path) -/
def fdQuot (L blockLen clk : Nat) : Nat := (blockLen + L - 1 - clk) / L

end Soxr.Phase
