import SoxrModel.Conc.Model
/-!
# Witness traces of the FFT-cache model (concrete interleavings, checked by evaluation)

* from process start (`cold 2`) the unguarded initialiser is entered twice, and the second, late initialisation re-creates
  the five locks and resets `FFT_LEN` while the other thread is inside a transform — after which a writer rebuilds the
  tables under that reader (defect F9 of the pinned tree; the same schedule is replayed on the real code by `checks/c17.py`);
* from `warm n` (initialisation done): reachable states with a writer rebuilding, with several concurrent readers, and with
  a thread on the downgrade path (its re-test `len > FFT_LEN` failed because another thread had grown the cache meanwhile),
  used as non-vacuity examples of the theorems in `Properties/C17.lean`.
-/
namespace Soxr.Conc

theorem reach_of_run {s0 t : St} (ls : List Label) (h : run ls s0 = some t) : Reachable s0 t :=
  run_reachable ls s0 t .init h

/-- a run that ends with the observation `o` witnesses a reachable state with that observation -/
theorem exists_of_run_obs {α : Type} {f : St → α} {s0 : St} {ls : List Label} {o : α} (h : (run ls s0).map f = some o) :
    ∃ s, Reachable s0 s ∧ f s = o := by
  cases hr : run ls s0 with
  | none => simp [hr] at h
  | some s => exact ⟨s, reach_of_run ls hr, by simpa [hr] using h⟩

/-- `ccrw2_init` + `FFT_LEN = 0` -/
def initSeq : List Label := [.ini1, .ini2, .ini3, .ini4, .ini5, .ini6]
/-- `ccrw2_become_reader`, first reader -/
def brFirst : List Label := [.r1, .r2, .r3, .r4_first, .r5, .r6, .r7, .r8]
/-- `ccrw2_become_reader`, not the first reader -/
def brMore : List Label := [.r1, .r2, .r3, .r4_more, .r6, .r7, .r8]
/-- upgrade: `cease_reading` as the last reader, `become_writer` as the first writer -/
def upgradeLastFirst : List Label := [.c0_grow, .u1, .u2_last, .u3, .u4, .w1, .w2_first, .w3, .w4, .w5]
/-- `cease_writing`, last writer, on exit -/
def cwLast : List Label := [.y1, .y2, .y3_last, .y4, .y5]
/-- `cease_reading`, last reader, on exit -/
def crLast : List Label := [.use_r, .rd_end, .x1, .x2_last, .x3, .x4]

/-- both threads pass the test `FFT_LEN >= 0` before either has stored 0 -/
def bothPass : List Label := [.call, .i0_cold, .call, .i0_cold]

/-- F9: thread A passes the test and is pre-empted; thread B passes it too, initialises, grows the cache to 8, finishes, and
    starts a second transform as a reader; A then re-initialises the locks, stores `FFT_LEN = 0`, becomes a reader (second,
    so it does not wait for `w`), finds `len > 0`, upgrades — `w` is free because A itself re-created it — and passes the
    re-test: A re-allocates the tables while B reads them -/
def f9Trace : List Label :=
  bothPass ++ initSeq ++ brFirst ++ upgradeLastFirst ++ [.c1_pass 8, .store 8 true, .use_w, .build 8] ++ cwLast ++
  [.call, .i0_warm] ++ brFirst ++ [.c0_ok] ++
  initSeq ++ brMore ++ [.c0_grow, .u1, .u2_more, .u4, .w1, .w2_first, .w3, .w4, .w5, .c1_pass 4]

/-- F9, two writers: both initialise; B becomes writer and re-allocates; A's late `ccrw2_init` frees `w` and `r`; A becomes a
    second writer -/
def twoWritersTrace : List Label :=
  bothPass ++ initSeq ++ brFirst ++ upgradeLastFirst ++ [.c1_pass 8, .store 8 true] ++
  initSeq ++ brFirst ++ [.c0_grow, .u1, .u2_last, .u3, .u4, .w1, .w2_more, .w4, .w5, .c1_pass 16]

/-- what the witnesses look at: readers inside a transform, threads re-allocating / rebuilding, threads holding the writer role,
    initialiser entries, `FFT_LEN = 0` stores, `FFT_LEN`, built length -/
def obs (s : St) : List Int :=
  [s.reading, s.rebuilding, s.writersIn, s.nInit, s.nReset, s.flen, s.tab]

theorem bothPass_run : (run bothPass (cold 2)).map obs = some [0, 0, 0, 2, 0, -1, 0] := by decide +kernel

theorem f9Trace_run : (run f9Trace (cold 2)).map obs = some [1, 1, 1, 2, 2, 0, 8] := by decide +kernel

/-- … and A's store: `FFT_LEN` shrinks to 4, the tables are marked empty (second re-allocation) under the reader -/
theorem f9Trace_store_obs :
    (run (f9Trace ++ [.store 4 true]) (cold 2)).map (fun s => (obs s, s.nStore)) = some ([1, 1, 1, 2, 2, 4, 0], 2) := by
  decide +kernel

theorem f9Trace_store_run : (run (f9Trace ++ [.store 4 true]) (cold 2)).map obs = some [1, 1, 1, 2, 2, 4, 0] := by
  have h := congrArg (Option.map Prod.fst) f9Trace_store_obs
  rw [Option.map_map] at h
  exact h

theorem twoWriters_run : (run twoWritersTrace (cold 2)).map obs = some [0, 2, 2, 2, 2, 0, 0] := by decide +kernel

/-- one thread grows the cache to 8 and is inside its transform as the writer -/
def writerInTrace : List Label := [.call, .i0_warm] ++ brFirst ++ upgradeLastFirst ++ [.c1_pass 8, .store 8 true]

/-- … finishes; then two threads read concurrently -/
def twoReadersTrace : List Label :=
  writerInTrace ++ [.use_w, .build 8] ++ cwLast ++ [.call, .i0_warm] ++ brFirst ++ [.c0_ok, .call, .i0_warm] ++ brMore ++ [.c0_ok]

/-- two threads both find `len > FFT_LEN = 0` as readers; the first rebuilds to 8; the second, once it holds the writer role,
    re-tests (say `len = 4`), fails, and downgrades -/
def downgradeTrace : List Label :=
  [.call, .i0_warm] ++ brFirst ++ [.call, .i0_warm] ++ brMore ++ [.c0_grow, .c0_grow,
   .u1, .u2_more, .u4, .u1, .u2_last, .u3, .u4,        -- both cease reading
   .w1, .w2_first, .w3, .w4, .w5,                       -- first becomes writer
   .w1, .w2_more, .w4,                                  -- second queues on w
   .c1_pass 8, .store 8 true, .use_w, .build 8, .y1, .y2, .y3_more, .y5,
   .w5, .c1_fail]

theorem writerIn_run : (run writerInTrace (warm 2)).map obs = some [0, 1, 1, 1, 1, 8, 0] := by decide +kernel

theorem twoReaders_run : (run twoReadersTrace (warm 3)).map obs = some [2, 0, 0, 1, 1, 8, 8] := by decide +kernel

/-- in the two-readers state both readers are at the point of use; in the writer-in state the writer is -/
theorem twoReaders_at_use : (run twoReadersTrace (warm 3)).map (fun s => s.cnt .rd) = some 2 := by decide +kernel

theorem writerIn_at_use : (run writerInTrace (warm 2)).map (fun s => s.cnt .wt) = some 1 := by decide +kernel

theorem downgrade_run : (run downgradeTrace (warm 2)).map (fun s => (s.cnt .d1, s.flen)) = some (1, 8) := by decide +kernel

end Soxr.Conc
