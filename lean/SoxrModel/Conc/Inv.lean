import SoxrModel.Conc.Model
/-!
# The inductive invariant of the FFT-cache model

`Inv` holds in `warm n` (initialisation done, `n` threads outside) and in `cold n` (process start), and is preserved by every
step of every thread **provided** a thread enters the unguarded initialiser only while no other thread is inside it
(`StepS`; from `warm n` that proviso is vacuous because `FFT_LEN` never becomes negative again).

Every clause but two is linear in the shared variables and in the numbers of threads at fixed *sets* of program points
(`Nums`).  A step moves one thread, so each such number changes by a constant read off the set's weight function
(`num_move`, `Moves`), and preservation is linear arithmetic about the shared variables and two `Nums` (`InvStep.lean`); the
sums over the 55 program points never enter it.  The two list clauses (`pend`, `wtl`: the thread-local `len` of the at
most one thread re-allocating / rebuilding) are handled by hand for the transitions that touch them.
-/
namespace Soxr.Conc

/-- moving a thread from `a` to `b ≠ a` changes a weighted thread number by `w b - w a` (in any list of points, with
    multiplicity) -/
theorem sumW_move (f w : Pc → Nat) (a b : Pc) (hab : a ≠ b) (ha : 0 < f a) :
    ∀ L : List Pc, sumW (move f a b) w L + w a * L.count a = sumW f w L + w b * L.count b
  | [] => rfl
  | p :: ps => by
    have ih := sumW_move f w a b hab ha ps
    simp only [sumW, move, List.count_cons, beq_iff_eq, Nat.mul_add]
    by_cases h1 : p = a
    · subst h1
      obtain ⟨n, hn⟩ : ∃ n, f p = n + 1 := ⟨f p - 1, by omega⟩
      simp only [if_true, if_neg hab, hn, Nat.add_sub_cancel, Nat.mul_add, Nat.mul_one, Nat.mul_zero]
      omega
    · by_cases h2 : p = b
      · subst h2
        simp only [if_neg h1, if_true, Nat.mul_add, Nat.mul_one, Nat.mul_zero]
        omega
      · simp only [if_neg h1, if_neg h2, Nat.mul_zero]
        omega

theorem count_allS (p : Pc) : allS.count p = 1 := by cases p <;> decide +kernel

theorem num_move (s : St) (w : Pc → Nat) (a b : Pc) (hab : a ≠ b) (ha : 0 < s.cnt a) :
    sumW (move s.cnt a b) w allS + w a = s.num w + w b := by
  simpa only [count_allS, Nat.mul_one] using sumW_move s.cnt w a b hab ha allS

/-- a thread at a point of a set is counted in the set -/
theorem sumW_ge (f w : Pc → Nat) (a : Pc) (ha : 0 < f a) : ∀ L : List Pc, w a * L.count a ≤ sumW f w L
  | [] => Nat.le_refl _
  | p :: ps => by
    have ih := sumW_ge f w a ha ps
    have := Nat.mul_le_mul_left (w a) ha
    simp only [sumW, List.count_cons, beq_iff_eq, Nat.mul_add]
    by_cases h : p = a
    · subst h; simp only [if_true]; omega
    · simp only [if_neg h, Nat.mul_zero]; omega

theorem num_ge (s : St) (w : Pc → Nat) (a : Pc) (ha : 0 < s.cnt a) : w a ≤ s.num w := by
  simpa only [count_allS, Nat.mul_one] using sumW_ge s.cnt w a ha allS

theorem num_pos (s : St) (w : Pc → Nat) (a : Pc) (ha : 0 < s.cnt a) (hw : w a = 1) : 0 < s.num w :=
  Nat.lt_of_lt_of_le (hw ▸ Nat.one_pos) (num_ge s w a ha)

theorem sumW_add (f w w' : Pc → Nat) : ∀ L, sumW f (fun p => w p + w' p) L = sumW f w L + sumW f w' L
  | [] => rfl
  | p :: ps => by simp only [sumW, sumW_add f w w' ps, Nat.add_mul]; omega

theorem sumW_mono (f : Pc → Nat) {w w' : Pc → Nat} (h : ∀ p, w p ≤ w' p) : ∀ L, sumW f w L ≤ sumW f w' L
  | [] => Nat.le_refl _
  | p :: ps => Nat.add_le_add (Nat.mul_le_mul_right _ (h p)) (sumW_mono f h ps)

/-- holding `mutex_1` -/
def m1W : Pc → Nat
  | .r4 | .r5 | .r6 | .e4 | .e5 | .e6 | .x2 | .x3 | .x4 | .u2 | .u3 | .u4 => 1
  | _ => 0
/-- between `++readcount` and `--readcount` -/
def rcW : Pc → Nat
  | .r5 | .r6 | .r7 | .r8 | .c0 | .rd | .ru | .x1 | .x2 | .u1 | .u2 | .e5 | .e6 | .e7 | .e8 | .c2 => 1
  | _ => 0
/-- first reader waiting for `w` -/
def r5W : Pc → Nat
  | .r5 | .e5 => 1
  | _ => 0
/-- last reader about to release `w` -/
def x3W : Pc → Nat
  | .x3 | .u3 => 1
  | _ => 0
/-- anywhere past the initialiser -/
def busyW : Pc → Nat
  | .idle | .i0 | .i1 | .i2 | .i3 | .i4 | .i5 | .i6 => 0
  | _ => 1
/-- points only reached after a test `len <= FFT_LEN` succeeded (with a positive `len`) -/
def posW : Pc → Nat
  | .rd | .ru | .c2 | .d1 | .d2 | .d3 | .d4 | .d5 | .e1 | .e2 | .e3 | .e4 | .e5 | .e6 | .e7 | .e8 | .x1 | .x2 | .x3 | .x4 => 1
  | _ => 0
/-- holding `mutex_1`, about to change `readcount` -/
def r4W : Pc → Nat
  | .r4 | .e4 | .x2 | .u2 => 1
  | _ => 0
def b0W : Pc → Nat
  | .b0 => 1
  | _ => 0
def wtW : Pc → Nat
  | .wt | .wu => 1
  | _ => 0

/-- Not used by name: unfolding the nine weight functions once here makes Lean generate their equation lemmas in this
    module, as `weights_idle` of `Model.lean` does for its own. -/
theorem inv_weights_idle : m1W .idle = 0 ∧ rcW .idle = 0 ∧ r5W .idle = 0 ∧ x3W .idle = 0 ∧ busyW .idle = 0 ∧ posW .idle = 0 ∧
    r4W .idle = 0 ∧ b0W .idle = 0 ∧ wtW .idle = 0 := by
  simp only [m1W, rcW, r5W, x3W, busyW, posW, r4W, b0W, wtW, and_self]

/-- the readers/writers protocol: who holds `mutex_1` and `w`, what `readcount` counts -/
structure InvA (s : St) : Prop where
  -- mutex_1 is held exactly by the threads between its P and V
  m1_def : s.m1 = s.num m1W
  m1_le : s.m1 ≤ 1
  -- readcount counts the threads between `++readcount` and `--readcount`
  rc_def : s.readcount = (s.num rcW : Int)
  -- `w` is held by the one writer or by the reader group
  w_def : s.w = s.num writersW + s.gw
  w_le : s.w ≤ 1
  gw_le : s.gw ≤ 1
  gw_on : s.gw = 1 → (0 < s.readcount ∧ s.num r5W = 0) ∨ s.num x3W = 1
  gw_off : s.gw = 0 → (s.readcount = 0 ∨ s.num r5W = 1) ∧ s.num x3W = 0
  r5_rc : 0 < s.num r5W → s.readcount = 1
  x3_rc : 0 < s.num x3W → s.readcount = 0

/-- the initialiser: at most one thread inside; before it completes nobody is anywhere else; afterwards nobody is inside -/
structure InvB (s : St) : Prop where
  init_le : s.num inInitW ≤ 1
  flen_ge : -1 ≤ s.flen
  cold_quiet : s.flen < 0 → s.num busyW = 0 ∧ s.m1 = 0 ∧ s.w = 0 ∧ s.gw = 0 ∧ s.readcount = 0 ∧ s.tab = 0 ∧
    s.nReset = 0 ∧ s.nStore = 0 ∧ s.nInit = s.num inInitW
  warm_done : 0 ≤ s.flen → s.num inInitW = 0 ∧ s.nInit = 1 ∧ s.nReset = 1

/-- the tables -/
structure InvC (s : St) : Prop where
  pend_len : s.pend.length = s.num b0W
  wtl_len : s.wtl.length = s.num wtW
  tab_ge : 0 ≤ s.tab
  tab_le : 0 ≤ s.flen → s.tab ≤ s.flen
  tab_eq : s.num wtW = 0 → 0 ≤ s.flen → s.tab = s.flen
  store_le : 0 ≤ s.flen → (s.nStore : Int) ≤ s.flen
  flen_pos : 0 < s.num posW → 0 < s.flen

/-- the thread-local `len` of the thread that is re-allocating (`b0`) / rebuilding (`wt`, `wu`) -/
structure InvD (s : St) : Prop where
  pend_gt : ∀ x ∈ s.pend, s.flen < x.1
  wtl_eq : ∀ x ∈ s.wtl, x = s.flen
  /-- the thread-local `old_n == 0` is still true of `FFT_LEN` when the store happens (nobody else writes meanwhile) -/
  pend_z : ∀ x ∈ s.pend, x.2 = true → s.flen = 0

structure Inv (s : St) : Prop where
  a : InvA s
  b : InvB s
  c : InvC s
  d : InvD s

/-- the thread numbers the invariant and its consequences speak of; each field is `s.num` of the weight `St.nums` gives
    it: `rd` counts the threads holding the reader role (`readersW`, not only those at `Pc.rd`), `rg` those inside a
    reading transform (`readingW`), `rb` those re-allocating or rebuilding (`rebuildingW`) -/
structure Nums where
  (m1 rc wr r5 x3 r4 ini busy pos b0 wt rd rb rg : Nat)

def St.nums (s : St) : Nums where
  m1 := s.num m1W; rc := s.num rcW; wr := s.num writersW; r5 := s.num r5W; x3 := s.num x3W; r4 := s.num r4W
  ini := s.num inInitW; busy := s.num busyW; pos := s.num posW; b0 := s.num b0W; wt := s.num wtW
  rd := s.num readersW; rb := s.num rebuildingW; rg := s.num readingW

/-- how the thread numbers change when one thread moves from `a` to `b`, and that it was counted at `a` -/
structure Moves (n n' : Nums) (a b : Pc) : Prop where
  m1 : n'.m1 + m1W a = n.m1 + m1W b
  rc : n'.rc + rcW a = n.rc + rcW b
  wr : n'.wr + writersW a = n.wr + writersW b
  r5 : n'.r5 + r5W a = n.r5 + r5W b
  x3 : n'.x3 + x3W a = n.x3 + x3W b
  r4 : n'.r4 + r4W a = n.r4 + r4W b
  ini : n'.ini + inInitW a = n.ini + inInitW b
  busy : n'.busy + busyW a = n.busy + busyW b
  pos : n'.pos + posW a = n.pos + posW b
  b0 : n'.b0 + b0W a = n.b0 + b0W b
  wt : n'.wt + wtW a = n.wt + wtW b
  was_busy : busyW a ≤ n.busy
  was_ini : inInitW a ≤ n.ini

theorem src_ne_dst (l : Label) : l.src ≠ l.dst := by cases l <;> simp [Label.src, Label.dst]

theorem moves (l : Label) (s : St) (g : guard l s) : Moves s.nums (eff l s).nums l.src l.dst := by
  have mv (w : Pc → Nat) := num_move s w _ _ (src_ne_dst l) g.1
  exact ⟨mv _, mv _, mv _, mv _, mv _, mv _, mv _, mv _, mv _, mv _, mv _, num_ge s _ _ g.1, num_ge s _ _ g.1⟩

/-- the thread about to store `FFT_LEN = 0` is counted inside the initialiser -/
theorem ini6_inInit {s : St} (g : guard .ini6 s) : 0 < s.nums.ini := num_pos s inInitW .i6 g.1 rfl

/-- inclusions between the sets, as inequalities between the thread numbers -/
structure Incl (n : Nums) : Prop where
  b0_wt : n.b0 + n.wt ≤ n.wr
  m1_busy : n.m1 ≤ n.busy
  rc_busy : n.rc ≤ n.busy
  wr_busy : n.wr ≤ n.busy
  pos_busy : n.pos ≤ n.busy
  r5_rc : n.r5 ≤ n.rc
  r5_x3_r4_m1 : n.r5 + n.x3 + n.r4 ≤ n.m1
  rd_rc : n.rd + n.r5 = n.rc
  rb_wr : n.rb = n.b0 + n.wt
  rg_rd : n.rg ≤ n.rd
  rg_pos : n.rg ≤ n.pos

/-- each inclusion is one between the weight functions, point by point -/
theorem incl (s : St) : Incl s.nums where
  b0_wt := by
    show s.num b0W + s.num wtW ≤ s.num writersW
    rw [← sumW_add]; exact sumW_mono _ (fun p => by cases p <;> decide) _
  m1_busy := sumW_mono _ (fun p => by cases p <;> decide) _
  rc_busy := sumW_mono _ (fun p => by cases p <;> decide) _
  wr_busy := sumW_mono _ (fun p => by cases p <;> decide) _
  pos_busy := sumW_mono _ (fun p => by cases p <;> decide) _
  r5_rc := sumW_mono _ (fun p => by cases p <;> decide) _
  r5_x3_r4_m1 := by
    show s.num r5W + s.num x3W + s.num r4W ≤ s.num m1W
    rw [← sumW_add, ← sumW_add]; exact sumW_mono _ (fun p => by cases p <;> decide) _
  rd_rc := by
    show s.num readersW + s.num r5W = s.num rcW
    rw [← sumW_add]; exact congrArg (sumW s.cnt · allS) (funext fun p => by cases p <;> rfl)
  rb_wr := by
    show s.num rebuildingW = s.num b0W + s.num wtW
    rw [← sumW_add]; exact congrArg (sumW s.cnt · allS) (funext fun p => by cases p <;> rfl)
  rg_rd := sumW_mono _ (fun p => by cases p <;> decide) _
  rg_pos := sumW_mono _ (fun p => by cases p <;> decide) _

/-! `InvA`, `InvB`, `InvC` read as predicates of the shared variables of `s` (its `cnt` is not looked at) and a `Nums`. -/

def InvA.On (s : St) (n : Nums) : Prop :=
  s.m1 = n.m1 ∧ s.m1 ≤ 1 ∧ s.readcount = (n.rc : Int) ∧ s.w = n.wr + s.gw ∧ s.w ≤ 1 ∧ s.gw ≤ 1 ∧
  (s.gw = 1 → (0 < s.readcount ∧ n.r5 = 0) ∨ n.x3 = 1) ∧ (s.gw = 0 → (s.readcount = 0 ∨ n.r5 = 1) ∧ n.x3 = 0) ∧
  (0 < n.r5 → s.readcount = 1) ∧ (0 < n.x3 → s.readcount = 0)

def InvB.On (s : St) (n : Nums) : Prop :=
  n.ini ≤ 1 ∧ -1 ≤ s.flen ∧
  (s.flen < 0 → n.busy = 0 ∧ s.m1 = 0 ∧ s.w = 0 ∧ s.gw = 0 ∧ s.readcount = 0 ∧ s.tab = 0 ∧ s.nReset = 0 ∧ s.nStore = 0 ∧
    s.nInit = n.ini) ∧
  (0 ≤ s.flen → n.ini = 0 ∧ s.nInit = 1 ∧ s.nReset = 1)

def InvC.On (s : St) (n : Nums) : Prop :=
  s.pend.length = n.b0 ∧ s.wtl.length = n.wt ∧ 0 ≤ s.tab ∧ (0 ≤ s.flen → s.tab ≤ s.flen) ∧
  (n.wt = 0 → 0 ≤ s.flen → s.tab = s.flen) ∧ (0 ≤ s.flen → (s.nStore : Int) ≤ s.flen) ∧ (0 < n.pos → 0 < s.flen)

theorem invA_on {s : St} : InvA s ↔ InvA.On s s.nums :=
  ⟨fun ⟨h1, h2, h3, h4, h5, h6, h7, h8, h9, h10⟩ => ⟨h1, h2, h3, h4, h5, h6, h7, h8, h9, h10⟩,
   fun ⟨h1, h2, h3, h4, h5, h6, h7, h8, h9, h10⟩ => ⟨h1, h2, h3, h4, h5, h6, h7, h8, h9, h10⟩⟩

theorem invB_on {s : St} : InvB s ↔ InvB.On s s.nums :=
  ⟨fun ⟨h1, h2, h3, h4⟩ => ⟨h1, h2, h3, h4⟩, fun ⟨h1, h2, h3, h4⟩ => ⟨h1, h2, h3, h4⟩⟩

theorem invC_on {s : St} : InvC s ↔ InvC.On s s.nums :=
  ⟨fun ⟨h1, h2, h3, h4, h5, h6, h7⟩ => ⟨h1, h2, h3, h4, h5, h6, h7⟩,
   fun ⟨h1, h2, h3, h4, h5, h6, h7⟩ => ⟨h1, h2, h3, h4, h5, h6, h7⟩⟩

/-- nothing has happened yet apart from (part of) one initialisation -/
def Quiet (s : St) (n : Nums) : Prop :=
  s.pend = [] ∧ s.wtl = [] ∧ n.busy = 0 ∧ s.m1 = 0 ∧ s.w = 0 ∧ s.gw = 0 ∧ s.readcount = 0 ∧ s.tab = 0 ∧ s.nStore = 0 ∧
  n.ini ≤ 1 ∧ -1 ≤ s.flen ∧ s.flen ≤ 0 ∧
  (s.flen < 0 → s.nReset = 0 ∧ s.nInit = n.ini) ∧ (0 ≤ s.flen → n.ini = 0 ∧ s.nInit = 1 ∧ s.nReset = 1)

theorem inv_of_quiet {s : St} (q : Quiet s s.nums) : Inv s := by
  obtain ⟨qp, qw, q⟩ := q
  obtain ⟨j1, j2, j3, j4, j5, j6, j7, -, -, -, -⟩ := incl s
  refine ⟨invA_on.2 ?_, invB_on.2 ?_, invC_on.2 ?_, ?_⟩
  · unfold InvA.On; omega
  · unfold InvB.On; omega
  · unfold InvC.On; simp only [qp, qw, List.length_nil]; omega
  · constructor <;> simp [qp, qw]

theorem quiet_zero (s : St) (n : Nat) (hc : s.cnt = fun p => if p = .idle then n else 0)
    (h : s.m1 = 0 ∧ s.w = 0 ∧ s.gw = 0 ∧ s.readcount = 0 ∧ s.tab = 0 ∧ s.pend = [] ∧ s.wtl = [] ∧ s.nStore = 0)
    (hf : (s.flen = -1 ∧ s.nInit = 0 ∧ s.nReset = 0) ∨ (s.flen = 0 ∧ s.nInit = 1 ∧ s.nReset = 1)) : Quiet s s.nums := by
  obtain ⟨e1, e2, e3, e4, e5, e6, e7, e8⟩ := h
  -- with all threads outside, every set that excludes `idle` is empty
  have z (w : Pc → Nat) (h : w .idle = 0) : s.num w = 0 := by simp [St.num, hc, sumW, allS, h]
  have z6 : s.nums.ini = 0 := z inInitW rfl
  have z7 : s.nums.busy = 0 := z busyW rfl
  exact ⟨e6, e7, by omega⟩

theorem inv_warm (n : Nat) : Inv (warm n) :=
  inv_of_quiet (quiet_zero _ n rfl (by simp [warm, zero]) (Or.inr (by simp [warm, zero])))

theorem inv_cold (n : Nat) : Inv (cold n) :=
  inv_of_quiet (quiet_zero _ n rfl (by simp [cold, zero]) (Or.inl (by simp [cold, zero])))

theorem quiet_of_cold {s : St} (h : Inv s) (hf : s.flen < 0) : Quiet s s.nums := by
  obtain ⟨b1, b2, b3, -⟩ := invB_on.1 h.b
  obtain ⟨c1, c2, -⟩ := invC_on.1 h.c
  have j1 := (incl s).b0_wt
  have j4 := (incl s).wr_busy
  obtain ⟨e1, e2, e3, e4, e5, e6, e7, e8, e9⟩ := b3 hf
  have hp : s.pend = [] := List.eq_nil_of_length_eq_zero (by omega)
  have hw : s.wtl = [] := List.eq_nil_of_length_eq_zero (by omega)
  exact ⟨hp, hw, by omega⟩

end Soxr.Conc
