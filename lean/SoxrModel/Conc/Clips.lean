/-!
# The shared clip counter of `soxr.c` under the `#pragma omp parallel for` regions

In `soxr_output_1ch` every channel executes `p->clips += n_i` on the one counter of the resampler (`n_i` = number of samples
of channel `i` that clipped in this call).  Inside `#pragma omp parallel for` these read-modify-writes run on different
threads.  Each channel's addition is one action of some thread; threads are anonymous, the interleaving is arbitrary, the
number of channels (hence of threads) is arbitrary.

* `A…` — the addition as ONE atomic step: the code as it is since the fix of F8 (`#pragma omp atomic` on `p->clips += clips`): the total is exact, under every interleaving.
* `N…` — the addition as it was written before that fix, a load followed by a store: updates can be lost; the total never exceeds the exact sum.
-/
namespace Soxr.Conc.Clips

/-- taking one element out of a list takes its weight out of the weighted sum -/
theorem sum_map_erase {α : Type} [BEq α] [LawfulBEq α] (f : α → Nat) {a : α} {l : List α} (h : a ∈ l) :
    ((l.erase a).map f).sum + f a = (l.map f).sum := by
  rw [((List.perm_cons_erase h).map f).sum_nat, List.map_cons, List.sum_cons, Nat.add_comm]

theorem sum_erase {c : Nat} {l : List Nat} (h : c ∈ l) : (l.erase c).sum + c = l.sum := by
  simpa only [List.map_id, id] using sum_map_erase id h

structure ASt where
  total : Nat
  /-- per-channel counts not yet added -/
  todo : List Nat
  deriving DecidableEq, Repr

inductive AStep : ASt → ASt → Prop
  | add (s : ASt) (c : Nat) (h : c ∈ s.todo) : AStep s { total := s.total + c, todo := s.todo.erase c }

inductive AReach (s0 : ASt) : ASt → Prop
  | init : AReach s0 s0
  | step {s t} : AReach s0 s → AStep s t → AReach s0 t

theorem atomic_inv {s0 s : ASt} (h : AReach s0 s) : s.total + s.todo.sum = s0.total + s0.todo.sum := by
  induction h with
  | init => rfl
  | step _ st ih =>
    cases st with
    | add c hc =>
      have := sum_erase hc
      simp only at *
      omega

/-- executing the additions in list order (the sequential loop, or any one schedule) -/
def arun : List Nat → ASt → ASt
  | [], s => s
  | c :: cs, s => arun cs { total := s.total + c, todo := s.todo.erase c }

structure NSt where
  total : Nat
  todo : List Nat
  /-- channels between their load and their store: (value loaded, own count) -/
  loaded : List (Nat × Nat)
  deriving DecidableEq, Repr

inductive NStep : NSt → NSt → Prop
  | load (s : NSt) (c : Nat) (h : c ∈ s.todo) :
      NStep s { s with todo := s.todo.erase c, loaded := (s.total, c) :: s.loaded }
  | store (s : NSt) (v c : Nat) (h : (v, c) ∈ s.loaded) :
      NStep s { s with total := v + c, loaded := s.loaded.erase (v, c) }

inductive NReach (s0 : NSt) : NSt → Prop
  | init : NReach s0 s0
  | step {s t} : NReach s0 s → NStep s t → NReach s0 t

def ninit (t0 : Nat) (cs : List Nat) : NSt := { total := t0, todo := cs, loaded := [] }

/-- with `D` = sum of the counts already stored: nothing read or written ever exceeds `t0 + D` -/
theorem nonatomic_inv {t0 : Nat} {cs : List Nat} {s : NSt} (h : NReach (ninit t0 cs) s) :
    ∃ D, s.total ≤ t0 + D ∧ (∀ p ∈ s.loaded, p.1 ≤ t0 + D) ∧ D + (s.loaded.map Prod.snd).sum + s.todo.sum = cs.sum := by
  induction h with
  | init => exact ⟨0, by simp [ninit], by simp [ninit], by simp [ninit]⟩
  | step _ st ih =>
    obtain ⟨D, h1, h2, h3⟩ := ih
    cases st with
    | load c hc =>
      refine ⟨D, h1, ?_, ?_⟩
      · intro p hp
        rcases List.mem_cons.mp hp with rfl | hp
        · exact h1
        · exact h2 p hp
      · have := sum_erase hc
        simp only [List.map_cons, List.sum_cons] at *
        omega
    | store v c hm =>
      refine ⟨D + c, ?_, ?_, ?_⟩
      · have := h2 (v, c) hm
        simp only at *; omega
      · intro p hp
        have := h2 p (List.mem_of_mem_erase hp)
        omega
      · have := sum_map_erase Prod.snd hm
        simp only at *
        omega

end Soxr.Conc.Clips
