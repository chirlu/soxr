import SoxrModel.Conc.Safety
import SoxrModel.Conc.Witness
/-!
# Two caches, and the assumption that their locks are different objects

`filter.c` instantiates `fft4g_cache.h` twice (double tables = cache 0, float tables = cache 1).  `Model.lean` describes ONE
instance, with five lock words, `readcount`, `writecount`, `FFT_LEN` and tables of its own.  That the process is two
independent instances is an assumption about the code (the two `FFT_CACHE_CCRW` name different `ccrw2_t` objects); it is made
explicit here as the shape of `SysStep`, and it is CHECKED on the real code by the scheduler harness (monitor
`LOCK-SHARED-BETWEEN-CACHES`: the lock words each cache's initialiser creates are learned by a probe and must be disjoint).

`foreignInit` is what happens to one cache's lock words when the assumption fails: the OTHER cache's first-use initialiser
(`ccrw2_init` under its own `FFT_LEN < 0` guard) re-creates the shared lock object while this cache's threads hold it.
-/
namespace Soxr.Conc

/-- the state of the process: the double cache and the float cache -/
structure Sys where
  d : St
  f : St

/-- **the assumption, explicit**: a step of a thread with respect to one cache changes no variable of the other cache (the two
    `ccrw2_t`, `FFT_LEN`s and table pairs are different objects) -/
inductive SysStep : Sys → Sys → Prop
  | dbl {s t : St} (f : St) : Step s t → SysStep ⟨s, f⟩ ⟨t, f⟩
  | flt {s t : St} (d : St) : Step s t → SysStep ⟨d, s⟩ ⟨d, t⟩

inductive SysReachable (s0 : Sys) : Sys → Prop
  | init : SysReachable s0 s0
  | step {s t} : SysReachable s0 s → SysStep s t → SysReachable s0 t

/-- under the assumption each cache evolves by its own steps only -/
theorem sys_proj {s0 s : Sys} (h : SysReachable s0 s) : Reachable s0.d s.d ∧ Reachable s0.f s.f := by
  induction h with
  | init => exact ⟨.init, .init⟩
  | step _ st ih =>
    cases st with
    | dbl f st => exact ⟨.step ih.1 st, ih.2⟩
    | flt d st => exact ⟨ih.1, .step ih.2 st⟩

/-- conversely, a run of one cache is a run of the process in which the other cache stands still -/
theorem SysReachable.dbl {a b : St} (x : St) (h : Reachable a b) : SysReachable ⟨a, x⟩ ⟨b, x⟩ := by
  induction h with
  | init => exact .init
  | step _ st ih => exact .step ih (.dbl x st)

theorem SysReachable.flt {a b : St} (x : St) (h : Reachable a b) : SysReachable ⟨x, a⟩ ⟨x, b⟩ := by
  induction h with
  | init => exact .init
  | step _ st ih => exact .step ih (.flt x st)

theorem SysReachable.trans {a b c : Sys} (h1 : SysReachable a b) (h2 : SysReachable b c) : SysReachable a c := by
  induction h2 with
  | init => exact h1
  | step _ st ih => exact .step ih st

/-- the assumption dropped: the other cache's `ccrw2_init` re-creates (unlocks) this cache's five lock words, whoever holds them -/
def foreignInit (s : St) : St := { s with m1 := 0, m2 := 0, m3 := 0, w := 0, r := 0 }

/-- a thread has grown the cache to 8 and left; a thread is inside a transform as a reader (the reader group holds `w`) -/
def readerInTrace : List Label :=
  writerInTrace ++ [.use_w, .build 8] ++ cwLast ++ [.call, .i0_warm] ++ brFirst ++ [.c0_ok]

/-- a second thread becomes a reader, finds `len = 16 > FFT_LEN`, upgrades, takes `w` and passes the re-test -/
def growUnderReaderTrace : List Label :=
  [.call, .i0_warm, .r1, .r2, .r3, .r4_more, .r6, .r7, .r8, .c0_grow, .u1, .u2_more, .u4, .w1, .w2_first, .w3, .w4, .w5, .c1_pass 16]

/-- with the lock intact the second thread cannot get past `P(w)`: the trace is not a run of the model -/
theorem grow_blocked_run : ((run readerInTrace (warm 2)).bind (run growUnderReaderTrace)).isNone = true := by decide +kernel

/-- after a foreign initialisation of the lock words it can: it re-allocates the tables under the reader -/
theorem grow_after_foreignInit_run :
    ((run readerInTrace (warm 2)).bind (fun s => run growUnderReaderTrace (foreignInit s))).map obs = some [1, 1, 1, 1, 1, 8, 8] := by decide +kernel

end Soxr.Conc
