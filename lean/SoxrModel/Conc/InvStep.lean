import SoxrModel.Conc.Inv
/-!
# Every step preserves the invariant

Cold regime (`FFT_LEN < 0`): the state is `Quiet`; only `call`, the cold test and the initialiser's own steps are enabled, and
(under the serial-initialisation proviso) they keep it `Quiet`.  Warm regime (`0 ≤ FFT_LEN`): nobody is inside the
initialiser, and each of the four groups of clauses is preserved using only the clauses it depends on.

The arithmetic lemmas (`….On.step`) are about the shared variables and two arbitrary `Nums` related by `Moves`: one `omega`
problem per transition, whose atoms are structure fields.
-/
namespace Soxr.Conc

/-- cold regime, every step but the last one of the initialiser -/
theorem Quiet.step (l : Label) {s : St} {n n' : Nums} (q : Quiet s n) (hf : s.flen < 0) (g : guardX l s)
    (mv : Moves n n' l.src l.dst) (hs : l = .i0_cold → n.ini = 0) (hl : l ≠ .ini6) : Quiet (eff l s) n' := by
  obtain ⟨qp, qw, q⟩ := q
  obtain ⟨-, -, -, -, -, -, k6, k7, -, -, -, kb, ki⟩ := mv
  have hb : busyW l.src = 0 := by omega
  cases l
  case ini6 => exact absurd rfl hl
  case i0_cold =>
    have := hs rfl
    simp only [guardX] at g
    simp only [Label.src, Label.dst, inInitW, busyW] at k6 k7
    refine ⟨qp, qw, ?_⟩; simp only [eff, effX]; omega
  case call | i0_warm | ini1 | ini2 | ini3 | ini4 | ini5 =>
    simp only [guardX] at g
    simp only [Label.src, Label.dst, inInitW, busyW] at k6 k7 ki
    refine ⟨qp, qw, ?_⟩; simp only [eff, effX, true_and]; omega
  -- every other step starts from a point of `busyW`, where nobody is
  all_goals exact absurd hb Nat.one_ne_zero

/-- cold regime, the store `FFT_LEN = 0` that ends the initialiser: everything is still zero, one thread is at `r1` -/
theorem Quiet.ini6 {s : St} {n n' : Nums} (q : Quiet s n) (hf : s.flen < 0) (mv : Moves n n' .i6 .r1) (hn : Incl n) :
    InvA.On (eff .ini6 s) n' ∧ InvB.On (eff .ini6 s) n' ∧ InvC.On (eff .ini6 s) n' := by
  obtain ⟨qp, qw, q⟩ := q
  obtain ⟨j1, j2, j3, j4, j5, j6, j7, -, -, -, -⟩ := hn
  obtain ⟨k1, k2, k3, k4, k5, k11, k6, k7, k8, k9, k10, kb, ki⟩ := mv
  simp only [m1W, rcW, writersW, r5W, x3W, r4W, inInitW, busyW, posW, b0W, wtW] at k1 k2 k3 k4 k5 k6 k7 k8 k9 k10 k11 kb ki
  unfold InvA.On InvB.On InvC.On
  simp only [eff, effX, qp, qw, List.length_nil]
  omega

/-- a step that leaves `mutex_1`, `w`, `gw`, `readcount` alone and moves its thread between points of equal weight in the
    five sets `InvA` counts keeps `InvA` -/
theorem InvA.On.frame {l : Label} {s : St} {n n' : Nums} (h : InvA.On s n) (mv : Moves n n' l.src l.dst)
    (e1 : (effX l s).m1 = s.m1) (e2 : (effX l s).w = s.w) (e3 : (effX l s).gw = s.gw)
    (e4 : (effX l s).readcount = s.readcount) (w1 : m1W l.src = m1W l.dst) (w2 : rcW l.src = rcW l.dst)
    (w3 : writersW l.src = writersW l.dst) (w4 : r5W l.src = r5W l.dst) (w5 : x3W l.src = x3W l.dst) :
    InvA.On (eff l s) n' := by
  have k1 := mv.m1; have k2 := mv.rc; have k3 := mv.wr; have k4 := mv.r5; have k5 := mv.x3
  rw [w1] at k1; rw [w2] at k2; rw [w3] at k3; rw [w4] at k4; rw [w5] at k5
  unfold InvA.On at h ⊢
  rw [show (eff l s).m1 = s.m1 from e1, show (eff l s).w = s.w from e2, show (eff l s).gw = s.gw from e3,
    show (eff l s).readcount = s.readcount from e4, Nat.add_right_cancel k1, Nat.add_right_cancel k2,
    Nat.add_right_cancel k3, Nat.add_right_cancel k4, Nat.add_right_cancel k5]
  exact h

/-- warm regime, the readers/writers protocol -/
theorem InvA.On.step (l : Label) {s : St} {n n' : Nums} (hA : InvA.On s n) (hn : Incl n) (hI : n.ini = 0) (g : guardX l s)
    (mv : Moves n n' l.src l.dst) : InvA.On (eff l s) n' := by
  cases l
  -- P and V of `mutex_1` and `w`, the changes of `readcount`, entering and leaving the writer role, `ccrw2_init`.
  -- The hand-over of `w` between the reader group and a writer is what the `gw` clauses are for.  `r5`, `x3`, `r4` lie
  -- inside `mutex_1` (`Incl.r5_x3_r4_m1`), so at most one thread is at any of them.  The first reader sets `readcount = 1`
  -- and waits at `r5` with `gw = 0` (`gw_off`, second alternative); its `P(w)` sets `gw = 1` with `readcount = 1` (`r5_rc`)
  -- and nobody left at `r5` (`gw_on`, first alternative); later readers only raise `readcount`.  The last reader sets
  -- `readcount = 0` and stands at `x3` with `gw` still 1 (`gw_on`, second alternative); its `V(w)` clears `gw` with
  -- `readcount = 0` (`x3_rc`) and nobody left at `x3` (`gw_off`).  A writer's `P(w)` needs `w = 0`, hence `gw = 0` and no
  -- other writer (`w_def`).  (`e5`, `u3` are `r5`, `x3` again, inside the downgrade and the upgrade.)
  case ini1 | ini4 | r3 | r4_first | r4_more | r5 | r6 | x1 | x2_last | x2_more | x3 | x4 | u1 | u2_last | u2_more | u3 | u4 |
      w5 | y1 | d1 | e3 | e4_first | e4_more | e5 | e6 =>
    obtain ⟨k1, k2, k3, k4, k5, k11, -, -, -, -, -, -, ki⟩ := mv
    have j7 := hn.r5_x3_r4_m1
    unfold InvA.On at hA ⊢
    simp only [guardX, eff, effX, Label.src, Label.dst, m1W, rcW, writersW, r5W, x3W, r4W, inInitW, implies_true, true_or,
      true_and, and_true] at g k1 k2 k3 k4 k5 k11 ki ⊢
    omega
  all_goals exact hA.frame mv rfl rfl rfl rfl rfl rfl rfl rfl rfl

/-- warm regime, the initialiser stays finished (`FFT_LEN` never becomes negative again) -/
theorem InvB.On.step (l : Label) {s : St} {n n' : Nums} (hB : InvB.On s n) (hD : InvD s) (hf : 0 ≤ s.flen) (g : guardX l s)
    (mv : Moves n n' l.src l.dst) : InvB.On (eff l s) n' ∧ 0 ≤ (eff l s).flen := by
  obtain ⟨b4, b5, b6⟩ := hB.2.2.2 hf
  have k6 := mv.ini
  have ki := mv.was_ini
  -- with `FFT_LEN` non-negative `InvB` says: nobody inside the initialiser, which was entered and completed once
  suffices h : 0 ≤ (eff l s).flen ∧ n'.ini = 0 ∧ (eff l s).nInit = 1 ∧ (eff l s).nReset = 1 by unfold InvB.On; omega
  cases l
  case store len z =>
    have hlt : s.flen < len := hD.pend_gt (len, z) g
    simp only [Label.src, Label.dst, inInitW] at k6
    simp only [eff, effX]; omega
  -- the cold test cannot be passed, and nobody is at `i6`
  case i0_cold | ini6 =>
    simp only [guardX] at g
    simp only [Label.src, Label.dst, inInitW] at k6 ki
    omega
  all_goals exact ⟨hf, (Nat.add_right_cancel k6).trans b4, b5, b6⟩

/-- a step that leaves `pend`, `wtl`, `tab`, `FFT_LEN`, `nStore` alone and moves its thread between points of equal weight
    in the three sets `InvC` counts keeps `InvC` -/
theorem InvC.On.frame {l : Label} {s : St} {n n' : Nums} (h : InvC.On s n) (mv : Moves n n' l.src l.dst)
    (e1 : (effX l s).pend = s.pend) (e2 : (effX l s).wtl = s.wtl) (e3 : (effX l s).tab = s.tab)
    (e4 : (effX l s).flen = s.flen) (e5 : (effX l s).nStore = s.nStore) (w1 : b0W l.src = b0W l.dst)
    (w2 : wtW l.src = wtW l.dst) (w3 : posW l.src = posW l.dst) : InvC.On (eff l s) n' := by
  have k1 := mv.b0; have k2 := mv.wt; have k3 := mv.pos
  rw [w1] at k1; rw [w2] at k2; rw [w3] at k3
  unfold InvC.On at h ⊢
  rw [show (eff l s).pend = s.pend from e1, show (eff l s).wtl = s.wtl from e2, show (eff l s).tab = s.tab from e3,
    show (eff l s).flen = s.flen from e4, show (eff l s).nStore = s.nStore from e5, Nat.add_right_cancel k1,
    Nat.add_right_cancel k2, Nat.add_right_cancel k3]
  exact h

/-- warm regime, the tables -/
theorem InvC.On.step (l : Label) {s : St} {n n' : Nums} (hA : InvA.On s n) (hC : InvC.On s n) (hD : InvD s) (hn : Incl n)
    (hI : n.ini = 0) (hf : 0 ≤ s.flen) (g : guardX l s) (mv : Moves n n' l.src l.dst) : InvC.On (eff l s) n' := by
  obtain ⟨-, -, -, a4, a5, -⟩ := hA
  have c := hC; obtain ⟨c1, c2, c3, c4, c5, c6, c7⟩ := c
  have j1 := hn.b0_wt
  have m := mv; obtain ⟨-, -, k3, -, -, -, -, -, k8, k9, k10, -, ki⟩ := m
  cases l
  case store len z =>
    have hlt : s.flen < len := hD.pend_gt (len, z) g
    have he := List.length_erase_of_mem g
    simp only [Label.src, Label.dst, writersW, posW, b0W, wtW] at k3 k8 k9 k10
    unfold InvC.On; simp only [eff, effX, List.length_cons, he]; split <;> omega
  case build len =>
    have hlt := hD.wtl_eq len g
    have he := List.length_erase_of_mem g
    simp only [Label.src, Label.dst, writersW, posW, b0W, wtW] at k3 k8 k9 k10
    unfold InvC.On; simp only [eff, effX, he]; split <;> omega
  -- the other steps that test `FFT_LEN`, enter or leave `posW`, or end the initialiser
  case ini6 | c0_ok | x4 | c1_pass | c1_fail =>
    simp only [guardX] at g
    simp only [Label.src, Label.dst, writersW, posW, b0W, wtW, inInitW] at k3 k8 k9 k10 ki
    unfold InvC.On; simp only [eff, effX, List.length_cons]; omega
  all_goals exact hC.frame mv rfl rfl rfl rfl rfl rfl rfl rfl

/-- only the end of the initialiser, a passed re-test, the store and the rebuild touch `FFT_LEN`, the built length or the
    lists of thread-local `len`s -/
theorem eff_tables_cases (l : Label) (s : St) :
    l = .ini6 ∨ (∃ len, l = .c1_pass len) ∨ (∃ len z, l = .store len z) ∨ (∃ len, l = .build len) ∨
    ((eff l s).flen = s.flen ∧ (eff l s).tab = s.tab ∧ (eff l s).pend = s.pend ∧ (eff l s).wtl = s.wtl) := by
  cases l
  case ini6 => exact .inl rfl
  case c1_pass len => exact .inr (.inl ⟨len, rfl⟩)
  case store len z => exact .inr (.inr (.inl ⟨len, z, rfl⟩))
  case build len => exact .inr (.inr (.inr (.inl ⟨len, rfl⟩)))
  all_goals exact .inr (.inr (.inr (.inr ⟨rfl, rfl, rfl, rfl⟩)))

/-- warm regime, the thread-local `len` of the re-allocating / rebuilding thread.  `InvD` speaks of the lists `pend`/`wtl`,
    not of thread numbers, so unlike its three siblings it has no `.On` form and is kept on states directly. -/
theorem InvD.step (l : Label) (s : St) (hA : InvA s) (hC : InvC s) (hD : InvD s) (hI : s.nums.ini = 0) (g : guard l s) :
    InvD (eff l s) := by
  obtain ⟨d1, d2, d3⟩ := hD
  have mv := moves l s g
  obtain ⟨g0, g⟩ := g
  rcases eff_tables_cases l s with rfl | ⟨len, rfl⟩ | ⟨len, z, rfl⟩ | ⟨len, rfl⟩ | ⟨e1, -, e2, e3⟩
  · -- nobody is at `i6`
    have ki := ini6_inInit ⟨g0, g⟩
    omega
  · simp only [guardX] at g
    refine ⟨?_, d2, ?_⟩
    · intro x hx
      simp only [eff, effX, List.mem_cons] at hx ⊢
      rcases hx with rfl | hx
      · exact g
      · exact d1 x hx
    · intro x hx hz
      simp only [eff, effX, List.mem_cons] at hx ⊢
      rcases hx with rfl | hx
      · simpa using hz
      · exact d3 x hx hz
  · -- the storing thread is the one writer: `pend` is `[(len, z)]` and `wtl` is empty
    have j1 := (incl s).b0_wt
    obtain ⟨-, -, -, a4, a5, -⟩ := invA_on.1 hA
    obtain ⟨c1, c2, -⟩ := invC_on.1 hC
    have k9 := mv.b0
    simp only [guardX] at g
    simp only [Label.src, Label.dst, b0W] at k9
    have he := List.length_erase_of_mem g
    have hw : s.wtl = [] := List.eq_nil_of_length_eq_zero (by omega)
    have hp : (eff (.store len z) s).pend = [] := List.eq_nil_of_length_eq_zero (he.trans (by omega))
    refine ⟨?_, ?_, ?_⟩
    · rw [hp]; intro x hx; cases hx
    · intro x hx
      simp only [eff, effX, hw, List.mem_cons, List.not_mem_nil, or_false] at hx ⊢
      exact hx
    · rw [hp]; intro x hx; cases hx
  · exact ⟨d1, fun x hx => d2 x (List.mem_of_mem_erase hx), d3⟩
  · exact ⟨by rw [e1, e2]; exact d1, by rw [e1, e3]; exact d2, by rw [e1, e2]; exact d3⟩

/-- **every step that respects the serial-initialisation proviso preserves the invariant** -/
theorem inv_step (l : Label) (s : St) (h : Inv s) (g : guard l s) (hs : l = .i0_cold → s.inInit = 0) : Inv (eff l s) := by
  have mv := moves l s g
  by_cases hf : s.flen < 0
  · have q := quiet_of_cold h hf
    by_cases hl : l = .ini6
    · subst hl
      obtain ⟨hA, hB, hC⟩ := q.ini6 hf mv (incl s)
      exact ⟨invA_on.2 hA, invB_on.2 hB, invC_on.2 hC, by constructor <;> simp [eff, effX, q.1, q.2.1]⟩
    · exact inv_of_quiet (q.step l hf g.2 mv hs hl)
  · have hf' : 0 ≤ s.flen := by omega
    have hA := invA_on.1 h.a
    have hI := (h.b.warm_done hf').1
    exact ⟨invA_on.2 (hA.step l (incl s) hI g.2 mv), invB_on.2 ((invB_on.1 h.b).step l h.d hf' g.2 mv).1,
      invC_on.2 ((invC_on.1 h.c).step l hA h.d (incl s) hI hf' g.2 mv), InvD.step l s h.a h.c h.d hI g⟩

theorem inv_stepS {s t : St} (h : Inv s) (st : StepS s t) : Inv t := by
  obtain ⟨l, hf, hs⟩ := st
  obtain ⟨g, rfl⟩ := fire_some hf
  exact inv_step l s h g hs

theorem inv_of_reachableS_cold {n : Nat} {s : St} (h : ReachableS (cold n) s) : Inv s := by
  induction h with
  | init => exact inv_cold n
  | step _ st ih => exact inv_stepS ih st

/-- from `warm n` every step is a serial-initialisation step: `FFT_LEN` stays non-negative, so the cold test cannot be
    passed -/
theorem inv_of_reachable_warm {n : Nat} {s : St} (h : Reachable (warm n) s) : Inv s ∧ 0 ≤ s.flen := by
  induction h with
  | init => exact ⟨inv_warm n, by simp [warm, zero]⟩
  | @step s t _ st ih =>
    obtain ⟨l, hf, hs⟩ := st.toStepS ih.2
    obtain ⟨g, rfl⟩ := fire_some hf
    exact ⟨inv_step l s ih.1 g hs, ((invB_on.1 ih.1.b).step l ih.1.d ih.2 g.2 (moves l s g)).2⟩

theorem reachableS_of_reachable_warm {n : Nat} {s : St} (h : Reachable (warm n) s) : ReachableS (warm n) s := by
  induction h with
  | init => exact .init
  | step hr st ih => exact .step ih (st.toStepS (inv_of_reachable_warm hr).2)

end Soxr.Conc
