import SoxrModel.Conc.InvStep
/-!
# What the invariant implies (state predicates and step predicates of the FFT-cache model)
-/
namespace Soxr.Conc

/-- at most one thread holds the writer role, and while one does no thread holds the reader role -/
theorem Inv.writer_excl {s : St} (h : Inv s) : s.writersIn ≤ 1 ∧ (0 < s.writersIn → s.readersIn = 0) := by
  obtain ⟨-, -, a3, a4, a5, a6, -, a8, a9, -⟩ := invA_on.1 h.a
  have j := (incl s).rd_rc
  show s.nums.wr ≤ 1 ∧ (0 < s.nums.wr → s.nums.rd = 0)
  refine ⟨by omega, fun hw => ?_⟩
  -- the reader group does not hold `w`, so `readcount` is 0 or the first reader is still waiting for `w`
  obtain ⟨h1 | h1, -⟩ := a8 (by omega)
  · omega
  · have := a9 (by omega); omega

theorem Inv.readers_excl {s : St} (h : Inv s) : 0 < s.readersIn → s.writersIn = 0 := by
  have := h.writer_excl
  omega

/-- nobody is inside a transform reading the tables while a thread re-allocates or rebuilds them -/
theorem Inv.no_read_during_rebuild {s : St} (h : Inv s) : 0 < s.rebuilding → s.reading = 0 := by
  have : s.nums.wr ≤ 1 ∧ (0 < s.nums.wr → s.nums.rd = 0) := h.writer_excl
  have j := incl s
  have := j.b0_wt; have := j.rb_wr; have := j.rg_rd
  show 0 < s.nums.rb → s.nums.rg = 0
  omega

theorem Inv.one_rebuilder {s : St} (h : Inv s) : s.rebuilding ≤ 1 := by
  have : s.nums.wr ≤ 1 ∧ _ := h.writer_excl
  have j := incl s
  have := j.b0_wt; have := j.rb_wr
  show s.nums.rb ≤ 1
  omega

/-- a reader inside a transform finds the tables complete for the current `FFT_LEN` (and `FFT_LEN` positive): it never has to
    build them itself -/
theorem Inv.tables_ready {s : St} (h : Inv s) : 0 < s.reading → 0 < s.flen ∧ s.tab = s.flen := by
  have : s.nums.wr ≤ 1 ∧ (0 < s.nums.wr → s.nums.rd = 0) := h.writer_excl
  obtain ⟨-, -, -, -, c5, -, c7⟩ := invC_on.1 h.c
  have j := incl s
  have := j.b0_wt; have := j.rg_rd; have := j.rg_pos
  intro (hr : 0 < s.nums.rg)
  have hp : 0 < s.flen := c7 (by omega)
  exact ⟨hp, c5 (by omega) (by omega)⟩

/-- the initialiser was entered at most once and `FFT_LEN = 0` stored at most once -/
theorem Inv.init_once {s : St} (h : Inv s) : s.nInit ≤ 1 ∧ s.nReset ≤ 1 ∧ s.inInit ≤ 1 := by
  obtain ⟨b1, b2, b3, b4⟩ := invB_on.1 h.b
  show _ ∧ _ ∧ s.nums.ini ≤ 1
  by_cases hf : s.flen < 0
  · have := b3 hf; omega
  · have := b4 (by omega); omega

/-- the tables were re-allocated at most `FFT_LEN` times -/
theorem Inv.stores_le {s : St} (h : Inv s) : 0 ≤ s.flen → (s.nStore : Int) ≤ s.flen := h.c.store_le

/-- **the re-test**: the store `FFT_LEN = len` is only ever executed with `len` greater than the current `FFT_LEN` -/
theorem Inv.store_grows {s : St} (h : Inv s) {len : Int} {z : Bool} (g : guard (.store len z) s) : s.flen < len :=
  h.d.pend_gt (len, z) g.2

/-- `FFT_LEN` and the built length of the tables never decrease -/
theorem Inv.mono {s : St} (h : Inv s) (l : Label) (g : guard l s) :
    s.flen ≤ (eff l s).flen ∧ s.tab ≤ (eff l s).tab := by
  have c3 := h.c.tab_ge
  rcases eff_tables_cases l s with rfl | ⟨len, rfl⟩ | ⟨len, z, rfl⟩ | ⟨len, rfl⟩ | ⟨e1, e2, -⟩
  · -- a thread at `i6` means `FFT_LEN` is still negative
    have ki := ini6_inInit g
    have b4 := (invB_on.1 h.b).2.2.2
    simp only [eff, effX]
    omega
  · exact ⟨Int.le_refl _, Int.le_refl _⟩
  · have : s.flen < len := h.d.pend_gt (len, z) g.2
    have hz := h.d.pend_z (len, z) g.2
    have c4 := h.c.tab_le
    simp only [eff, effX]
    refine ⟨by omega, ?_⟩
    split
    · have := hz ‹_›; omega
    · omega
  · simp only [eff, effX]
    refine ⟨by omega, ?_⟩
    split <;> omega
  · omega

/-- while a reader is inside a transform no step changes `FFT_LEN` or the tables -/
theorem Inv.stable_while_read {s : St} (h : Inv s) (l : Label) (g : guard l s) (hr : 0 < s.reading) :
    (eff l s).flen = s.flen ∧ (eff l s).tab = s.tab := by
  have hnr : 0 < s.nums.rb → s.nums.rg = 0 := h.no_read_during_rebuild
  have hpos := (h.tables_ready hr).1
  have j9 := (incl s).rb_wr
  have mv := moves l s g
  change 0 < s.nums.rg at hr
  -- a reader inside a transform rules out a thread at `i6`, at `b0` or at `wu`
  rcases eff_tables_cases l s with rfl | ⟨len, rfl⟩ | ⟨len, z, rfl⟩ | ⟨len, rfl⟩ | ⟨e1, e2, -⟩
  · have ki := ini6_inInit g
    have b4 := (invB_on.1 h.b).2.2.2
    omega
  · exact ⟨rfl, rfl⟩
  · have k9 := mv.b0
    simp only [Label.src, Label.dst, b0W] at k9
    omega
  · have k10 := mv.wt
    simp only [Label.src, Label.dst, wtW] at k10
    omega
  · exact ⟨e1, e2⟩

/-- the number of threads never changes -/
theorem threads_step (l : Label) (s : St) (g : guard l s) : (eff l s).threads = s.threads := by
  have := num_move s allW l.src l.dst (src_ne_dst l) g.1
  simp only [allW, St.num] at this
  simp only [St.threads, eff, St.num]
  omega

end Soxr.Conc
