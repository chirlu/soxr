/-!
# Counter-abstraction model of libsoxr's process-wide FFT cache (`fft4g_cache.h` + `ccrw2.h`)

One instance of this model describes one cache (`filter.c` instantiates the header twice: the `double` cache used by
`cr64`/`fft4g64.c` and by `lsx_fir_to_phase`, and the `float` cache used by `cr32`/`fft4g32.c`).

Threads are anonymous: the state counts how many threads sit at each program point (`Pc`) of

* `LSX_INIT_FFT_CACHE` — the **unguarded** lazy initialiser, modelled as written (`i0 … i6`);
* `UPDATE_FFT_CACHE` — `ccrw2_become_reader` (`r1 … r8`), the test `len > FFT_LEN` (`c0`), the upgrade
  `ccrw2_cease_reading` (`u1 … u4`) + `ccrw2_become_writer` (`w1 … w5`), the **re-test** (`c1`), the rebuild (`b0`, `wt`), or the
  downgrade `ccrw2_cease_writing` (`d1 … d5`) + `ccrw2_become_reader` (`e1 … e8`, `c2`);
* the transform itself, which reads the tables (`rd`, `ru` as a reader, `wt`, `wu` as the writer, who first rebuilds them; `ru`/`wu` = past the
  first dereference of the tables);
* `DONE_WITH_FFT_CACHE` — `ccrw2_cease_reading` (`x1 … x4`) or `ccrw2_cease_writing` (`y1 … y5`).

together with the shared variables: five binary semaphores (`1` = taken; OpenMP simple locks used as Courtois' P/V, released
by a thread other than the acquirer), `readcount`, `writecount`, `FFT_LEN` (`flen`, `-1` = never initialised) and the
length `tab` the tables are currently built for (`4 * LSX_FFT_BR[0]`).  Ghosts: `gw`/`gr` (the reader group holds `w` / the
writer group holds `r`), `nInit`, `nReset`, `nStore` (how often the initialiser was entered, `FFT_LEN = 0` was stored, the
tables were re-allocated), and the multisets `pend`/`wtl` of the thread-local `len` of the threads at `b0`/`wt` (`pend` also
keeps the thread-local `old_n == 0`: `int old_n = FFT_LEN` is read together with the re-test, BEFORE the store, and decides
after the store whether `LSX_FFT_BR[0] = 0` marks the tables empty).

A thread's `len` is otherwise not tracked (it is chosen afresh at each test): an over-approximation, exact for safety.
One `Label` = one atomic step of one thread; `fire l s` is the executable step function the driver `soxr_conc` runs against
the real code's event traces, and `Step`/`Reachable` (what the theorems quantify over) are defined from it.
-/
namespace Soxr.Conc

/-- the five semaphores of `ccrw2_t` -/
inductive Lock where
  | m1 | m2 | m3 | w | r
  deriving DecidableEq, Repr, Inhabited

/-- program points of one thread with respect to one cache -/
inductive Pc where
  /-- not inside `lsx_safe_rdft` of this cache -/
  | idle
  /-- `LSX_INIT_FFT_CACHE`: about to test `FFT_LEN >= 0` -/
  | i0
  /-- test failed (yield `init:check-passed`); about to `omp_init_lock(mutex_1)` -/
  | i1
  /-- about to `omp_init_lock(mutex_2)` -/
  | i2
  /-- about to `omp_init_lock(mutex_3)` -/
  | i3
  /-- about to `omp_init_lock(w)` -/
  | i4
  /-- about to `omp_init_lock(r)` -/
  | i5
  /-- locks initialised (yield `init:locks-initialised`); about to store `FFT_LEN = 0` -/
  | i6
  /-- `ccrw2_become_reader` (entry): P(mutex_3) -/
  | r1
  /-- P(r) -/
  | r2
  /-- P(mutex_1) -/
  | r3
  /-- `++readcount == 1`? -/
  | r4
  /-- first reader: P(w) -/
  | r5
  /-- V(mutex_1) -/
  | r6
  /-- V(r) -/
  | r7
  /-- V(mutex_3) -/
  | r8
  /-- reader: about to test `len > FFT_LEN` -/
  | c0
  /-- inside the transform as a reader (between the yields `dft:begin-as-reader` and `dft:end-as-reader`) -/
  | rd
  /-- reader inside the transform, past the point where `rdft`/`cdft` first dereference the shared tables (hook `table-use`) -/
  | ru
  /-- `DONE_WITH_FFT_CACHE(false)` = `ccrw2_cease_reading`: P(mutex_1) -/
  | x1
  /-- `!--readcount`? -/
  | x2
  /-- last reader: V(w) -/
  | x3
  /-- V(mutex_1) -/
  | x4
  /-- upgrade: `ccrw2_cease_reading`: P(mutex_1) -/
  | u1
  /-- `!--readcount`? -/
  | u2
  /-- last reader: V(w) -/
  | u3
  /-- V(mutex_1) -/
  | u4
  /-- upgrade: `ccrw2_become_writer`: P(mutex_2) -/
  | w1
  /-- `++writecount == 1`? -/
  | w2
  /-- first writer: P(r) -/
  | w3
  /-- V(mutex_2) -/
  | w4
  /-- P(w) -/
  | w5
  /-- writer: about to RE-test `len > FFT_LEN` -/
  | c1
  /-- re-test passed (yield `cache:rebuild-begin`); about to store `FFT_LEN = len` and `realloc` both tables -/
  | b0
  /-- inside the transform as the writer (yield `dft:begin-as-writer`); `rdft` rebuilds the tables (`makewt`/`makect`) first -/
  | wt
  /-- writer inside the transform, past the point where `rdft`/`cdft` first dereference the tables (hook `table-use`); the rebuild
      (`makewt`/`makect`) follows -/
  | wu
  /-- transform done (yield `dft:end-as-writer`); `DONE_WITH_FFT_CACHE(true)` = `ccrw2_cease_writing`: V(w) -/
  | y1
  /-- P(mutex_2) -/
  | y2
  /-- `!--writecount`? -/
  | y3
  /-- last writer: V(r) -/
  | y4
  /-- V(mutex_2) -/
  | y5
  /-- re-test failed: downgrade, `ccrw2_cease_writing`: V(w) -/
  | d1
  /-- P(mutex_2) -/
  | d2
  /-- `!--writecount`? -/
  | d3
  /-- last writer: V(r) -/
  | d4
  /-- V(mutex_2) -/
  | d5
  /-- downgrade: `ccrw2_become_reader`: P(mutex_3) -/
  | e1
  /-- P(r) -/
  | e2
  /-- P(mutex_1) -/
  | e3
  /-- `++readcount == 1`? -/
  | e4
  /-- first reader: P(w) -/
  | e5
  /-- V(mutex_1) -/
  | e6
  /-- V(r) -/
  | e7
  /-- V(mutex_3) -/
  | e8
  /-- downgraded reader: `UPDATE_FFT_CACHE` returns false -/
  | c2
  deriving DecidableEq, Repr, Inhabited

structure St where
  /-- number of threads at each program point -/
  cnt : Pc → Nat
  /-- semaphores, 1 = taken -/
  (m1 m2 m3 w r : Nat)
  (readcount writecount : Int)
  /-- `FFT_LEN` -/
  flen : Int
  /-- length the tables are built for (`4 * LSX_FFT_BR[0]`, 0 while there are none) -/
  tab : Int
  (gw gr nInit nReset nStore : Nat)
  /-- (`len`, `old_n == 0`) of the threads at `b0` -/
  pend : List (Int × Bool)
  /-- `len` of the threads at `wt` / `wu` -/
  wtl : List Int

/-- what the scheduler harness can see of a step: nothing (`tau`), a P (`omp_set_lock` returned), a V (`omp_unset_lock`),
    an `omp_init_lock`, or the first dereference of the shared tables inside a transform (`use`, hook `soxr_verif_table_use`) -/
inductive Vis where
  | tau | p (l : Lock) | v (l : Lock) | ini (l : Lock) | use
  deriving DecidableEq, Repr, Inhabited

/-- one atomic step of one thread -/
inductive Label where
  | call
  | i0_warm
  | i0_cold
  | ini1
  | ini2
  | ini3
  | ini4
  | ini5
  | ini6
  | r1
  | r2
  | r3
  | r4_first
  | r4_more
  | r5
  | r6
  | r7
  | r8
  | c0_ok
  | c0_grow
  | use_r
  | use_w
  | rd_end
  | x1
  | x2_last
  | x2_more
  | x3
  | x4
  | u1
  | u2_last
  | u2_more
  | u3
  | u4
  | w1
  | w2_first
  | w2_more
  | w3
  | w4
  | w5
  | c1_pass (len : Int)
  | c1_fail
  | store (len : Int) (z : Bool)
  | build (len : Int)
  | y1
  | y2
  | y3_last
  | y3_more
  | y4
  | y5
  | d1
  | d2
  | d3_last
  | d3_more
  | d4
  | d5
  | e1
  | e2
  | e3
  | e4_first
  | e4_more
  | e5
  | e6
  | e7
  | e8
  | c2_go
  deriving DecidableEq, Repr, Inhabited

/-- program point the stepping thread leaves -/
def Label.src : Label → Pc
  | .call => .idle
  | .i0_warm => .i0
  | .i0_cold => .i0
  | .ini1 => .i1
  | .ini2 => .i2
  | .ini3 => .i3
  | .ini4 => .i4
  | .ini5 => .i5
  | .ini6 => .i6
  | .r1 => .r1
  | .r2 => .r2
  | .r3 => .r3
  | .r4_first => .r4
  | .r4_more => .r4
  | .r5 => .r5
  | .r6 => .r6
  | .r7 => .r7
  | .r8 => .r8
  | .c0_ok => .c0
  | .c0_grow => .c0
  | .use_r => .rd
  | .use_w => .wt
  | .rd_end => .ru
  | .x1 => .x1
  | .x2_last => .x2
  | .x2_more => .x2
  | .x3 => .x3
  | .x4 => .x4
  | .u1 => .u1
  | .u2_last => .u2
  | .u2_more => .u2
  | .u3 => .u3
  | .u4 => .u4
  | .w1 => .w1
  | .w2_first => .w2
  | .w2_more => .w2
  | .w3 => .w3
  | .w4 => .w4
  | .w5 => .w5
  | .c1_pass _ => .c1
  | .c1_fail => .c1
  | .store _ _ => .b0
  | .build _ => .wu
  | .y1 => .y1
  | .y2 => .y2
  | .y3_last => .y3
  | .y3_more => .y3
  | .y4 => .y4
  | .y5 => .y5
  | .d1 => .d1
  | .d2 => .d2
  | .d3_last => .d3
  | .d3_more => .d3
  | .d4 => .d4
  | .d5 => .d5
  | .e1 => .e1
  | .e2 => .e2
  | .e3 => .e3
  | .e4_first => .e4
  | .e4_more => .e4
  | .e5 => .e5
  | .e6 => .e6
  | .e7 => .e7
  | .e8 => .e8
  | .c2_go => .c2

/-- program point the stepping thread arrives at -/
def Label.dst : Label → Pc
  | .call => .i0
  | .i0_warm => .r1
  | .i0_cold => .i1
  | .ini1 => .i2
  | .ini2 => .i3
  | .ini3 => .i4
  | .ini4 => .i5
  | .ini5 => .i6
  | .ini6 => .r1
  | .r1 => .r2
  | .r2 => .r3
  | .r3 => .r4
  | .r4_first => .r5
  | .r4_more => .r6
  | .r5 => .r6
  | .r6 => .r7
  | .r7 => .r8
  | .r8 => .c0
  | .c0_ok => .rd
  | .c0_grow => .u1
  | .use_r => .ru
  | .use_w => .wu
  | .rd_end => .x1
  | .x1 => .x2
  | .x2_last => .x3
  | .x2_more => .x4
  | .x3 => .x4
  | .x4 => .idle
  | .u1 => .u2
  | .u2_last => .u3
  | .u2_more => .u4
  | .u3 => .u4
  | .u4 => .w1
  | .w1 => .w2
  | .w2_first => .w3
  | .w2_more => .w4
  | .w3 => .w4
  | .w4 => .w5
  | .w5 => .c1
  | .c1_pass _ => .b0
  | .c1_fail => .d1
  | .store _ _ => .wt
  | .build _ => .y1
  | .y1 => .y2
  | .y2 => .y3
  | .y3_last => .y4
  | .y3_more => .y5
  | .y4 => .y5
  | .y5 => .idle
  | .d1 => .d2
  | .d2 => .d3
  | .d3_last => .d4
  | .d3_more => .d5
  | .d4 => .d5
  | .d5 => .e1
  | .e1 => .e2
  | .e2 => .e3
  | .e3 => .e4
  | .e4_first => .e5
  | .e4_more => .e6
  | .e5 => .e6
  | .e6 => .e7
  | .e7 => .e8
  | .e8 => .c2
  | .c2_go => .rd

def Label.vis : Label → Vis
  | .ini1 => .ini .m1
  | .ini2 => .ini .m2
  | .ini3 => .ini .m3
  | .ini4 => .ini .w
  | .ini5 => .ini .r
  | .r1 => .p .m3
  | .r2 => .p .r
  | .r3 => .p .m1
  | .r5 => .p .w
  | .r6 => .v .m1
  | .r7 => .v .r
  | .r8 => .v .m3
  | .x1 => .p .m1
  | .x3 => .v .w
  | .x4 => .v .m1
  | .u1 => .p .m1
  | .u3 => .v .w
  | .u4 => .v .m1
  | .w1 => .p .m2
  | .w3 => .p .r
  | .w4 => .v .m2
  | .w5 => .p .w
  | .y1 => .v .w
  | .y2 => .p .m2
  | .y4 => .v .r
  | .y5 => .v .m2
  | .d1 => .v .w
  | .d2 => .p .m2
  | .d4 => .v .r
  | .d5 => .v .m2
  | .e1 => .p .m3
  | .e2 => .p .r
  | .e3 => .p .m1
  | .e5 => .p .w
  | .e6 => .v .m1
  | .e7 => .v .r
  | .e8 => .v .m3
  | .use_r => .use
  | .use_w => .use
  | _ => .tau

/-- the C condition / semaphore state that allows the step -/
def guardX (l : Label) (s : St) : Prop :=
  match l with
  | .i0_warm => 0 ≤ s.flen
  | .i0_cold => s.flen < 0
  | .r1 => s.m3 = 0
  | .r2 => s.r = 0
  | .r3 => s.m1 = 0
  | .r4_first => s.readcount = 0
  | .r4_more => s.readcount ≠ 0
  | .r5 => s.w = 0
  | .c0_ok => 0 < s.flen
  | .x1 => s.m1 = 0
  | .x2_last => s.readcount = 1
  | .x2_more => s.readcount ≠ 1
  | .u1 => s.m1 = 0
  | .u2_last => s.readcount = 1
  | .u2_more => s.readcount ≠ 1
  | .w1 => s.m2 = 0
  | .w2_first => s.writecount = 0
  | .w2_more => s.writecount ≠ 0
  | .w3 => s.r = 0
  | .w5 => s.w = 0
  | .c1_pass len => s.flen < len
  | .c1_fail => 0 < s.flen
  | .store len z => (len, z) ∈ s.pend
  | .build len => len ∈ s.wtl
  | .y2 => s.m2 = 0
  | .y3_last => s.writecount = 1
  | .y3_more => s.writecount ≠ 1
  | .d2 => s.m2 = 0
  | .d3_last => s.writecount = 1
  | .d3_more => s.writecount ≠ 1
  | .e1 => s.m3 = 0
  | .e2 => s.r = 0
  | .e3 => s.m1 = 0
  | .e4_first => s.readcount = 0
  | .e4_more => s.readcount ≠ 0
  | .e5 => s.w = 0
  | _ => True

instance (l : Label) (s : St) : Decidable (guardX l s) :=
  match l with
  | .call => inferInstanceAs (Decidable (True))
  | .i0_warm => inferInstanceAs (Decidable (0 ≤ s.flen))
  | .i0_cold => inferInstanceAs (Decidable (s.flen < 0))
  | .ini1 => inferInstanceAs (Decidable (True))
  | .ini2 => inferInstanceAs (Decidable (True))
  | .ini3 => inferInstanceAs (Decidable (True))
  | .ini4 => inferInstanceAs (Decidable (True))
  | .ini5 => inferInstanceAs (Decidable (True))
  | .ini6 => inferInstanceAs (Decidable (True))
  | .r1 => inferInstanceAs (Decidable (s.m3 = 0))
  | .r2 => inferInstanceAs (Decidable (s.r = 0))
  | .r3 => inferInstanceAs (Decidable (s.m1 = 0))
  | .r4_first => inferInstanceAs (Decidable (s.readcount = 0))
  | .r4_more => inferInstanceAs (Decidable (s.readcount ≠ 0))
  | .r5 => inferInstanceAs (Decidable (s.w = 0))
  | .r6 => inferInstanceAs (Decidable (True))
  | .r7 => inferInstanceAs (Decidable (True))
  | .r8 => inferInstanceAs (Decidable (True))
  | .c0_ok => inferInstanceAs (Decidable (0 < s.flen))
  | .c0_grow => inferInstanceAs (Decidable (True))
  | .use_r => inferInstanceAs (Decidable (True))
  | .use_w => inferInstanceAs (Decidable (True))
  | .rd_end => inferInstanceAs (Decidable (True))
  | .x1 => inferInstanceAs (Decidable (s.m1 = 0))
  | .x2_last => inferInstanceAs (Decidable (s.readcount = 1))
  | .x2_more => inferInstanceAs (Decidable (s.readcount ≠ 1))
  | .x3 => inferInstanceAs (Decidable (True))
  | .x4 => inferInstanceAs (Decidable (True))
  | .u1 => inferInstanceAs (Decidable (s.m1 = 0))
  | .u2_last => inferInstanceAs (Decidable (s.readcount = 1))
  | .u2_more => inferInstanceAs (Decidable (s.readcount ≠ 1))
  | .u3 => inferInstanceAs (Decidable (True))
  | .u4 => inferInstanceAs (Decidable (True))
  | .w1 => inferInstanceAs (Decidable (s.m2 = 0))
  | .w2_first => inferInstanceAs (Decidable (s.writecount = 0))
  | .w2_more => inferInstanceAs (Decidable (s.writecount ≠ 0))
  | .w3 => inferInstanceAs (Decidable (s.r = 0))
  | .w4 => inferInstanceAs (Decidable (True))
  | .w5 => inferInstanceAs (Decidable (s.w = 0))
  | .c1_pass len => inferInstanceAs (Decidable (s.flen < len))
  | .c1_fail => inferInstanceAs (Decidable (0 < s.flen))
  | .store len z => inferInstanceAs (Decidable ((len, z) ∈ s.pend))
  | .build len => inferInstanceAs (Decidable (len ∈ s.wtl))
  | .y1 => inferInstanceAs (Decidable (True))
  | .y2 => inferInstanceAs (Decidable (s.m2 = 0))
  | .y3_last => inferInstanceAs (Decidable (s.writecount = 1))
  | .y3_more => inferInstanceAs (Decidable (s.writecount ≠ 1))
  | .y4 => inferInstanceAs (Decidable (True))
  | .y5 => inferInstanceAs (Decidable (True))
  | .d1 => inferInstanceAs (Decidable (True))
  | .d2 => inferInstanceAs (Decidable (s.m2 = 0))
  | .d3_last => inferInstanceAs (Decidable (s.writecount = 1))
  | .d3_more => inferInstanceAs (Decidable (s.writecount ≠ 1))
  | .d4 => inferInstanceAs (Decidable (True))
  | .d5 => inferInstanceAs (Decidable (True))
  | .e1 => inferInstanceAs (Decidable (s.m3 = 0))
  | .e2 => inferInstanceAs (Decidable (s.r = 0))
  | .e3 => inferInstanceAs (Decidable (s.m1 = 0))
  | .e4_first => inferInstanceAs (Decidable (s.readcount = 0))
  | .e4_more => inferInstanceAs (Decidable (s.readcount ≠ 0))
  | .e5 => inferInstanceAs (Decidable (s.w = 0))
  | .e6 => inferInstanceAs (Decidable (True))
  | .e7 => inferInstanceAs (Decidable (True))
  | .e8 => inferInstanceAs (Decidable (True))
  | .c2_go => inferInstanceAs (Decidable (True))

/-- effect of the step on the shared variables -/
def effX (l : Label) (s : St) : St :=
  match l with
  | .i0_cold => { s with nInit := s.nInit + 1 }
  | .ini1 => { s with m1 := 0 }
  | .ini2 => { s with m2 := 0 }
  | .ini3 => { s with m3 := 0 }
  | .ini4 => { s with w := 0 }
  | .ini5 => { s with r := 0 }
  | .ini6 => { s with flen := 0, nReset := s.nReset + 1 }
  | .r1 => { s with m3 := 1 }
  | .r2 => { s with r := 1 }
  | .r3 => { s with m1 := 1 }
  | .r4_first => { s with readcount := 1 }
  | .r4_more => { s with readcount := s.readcount + 1 }
  | .r5 => { s with w := 1, gw := 1 }
  | .r6 => { s with m1 := 0 }
  | .r7 => { s with r := 0 }
  | .r8 => { s with m3 := 0 }
  | .x1 => { s with m1 := 1 }
  | .x2_last => { s with readcount := 0 }
  | .x2_more => { s with readcount := s.readcount - 1 }
  | .x3 => { s with w := 0, gw := 0 }
  | .x4 => { s with m1 := 0 }
  | .u1 => { s with m1 := 1 }
  | .u2_last => { s with readcount := 0 }
  | .u2_more => { s with readcount := s.readcount - 1 }
  | .u3 => { s with w := 0, gw := 0 }
  | .u4 => { s with m1 := 0 }
  | .w1 => { s with m2 := 1 }
  | .w2_first => { s with writecount := 1 }
  | .w2_more => { s with writecount := s.writecount + 1 }
  | .w3 => { s with r := 1, gr := 1 }
  | .w4 => { s with m2 := 0 }
  | .w5 => { s with w := 1 }
  | .c1_pass len => { s with pend := (len, decide (s.flen = 0)) :: s.pend }
  | .store len z => { s with flen := len, tab := if z then 0 else s.tab, pend := s.pend.erase (len, z), wtl := len :: s.wtl, nStore := s.nStore + 1 }
  | .build len => { s with tab := if s.tab < len then len else s.tab, wtl := s.wtl.erase len }
  | .y1 => { s with w := 0 }
  | .y2 => { s with m2 := 1 }
  | .y3_last => { s with writecount := 0 }
  | .y3_more => { s with writecount := s.writecount - 1 }
  | .y4 => { s with r := 0, gr := 0 }
  | .y5 => { s with m2 := 0 }
  | .d1 => { s with w := 0 }
  | .d2 => { s with m2 := 1 }
  | .d3_last => { s with writecount := 0 }
  | .d3_more => { s with writecount := s.writecount - 1 }
  | .d4 => { s with r := 0, gr := 0 }
  | .d5 => { s with m2 := 0 }
  | .e1 => { s with m3 := 1 }
  | .e2 => { s with r := 1 }
  | .e3 => { s with m1 := 1 }
  | .e4_first => { s with readcount := 1 }
  | .e4_more => { s with readcount := s.readcount + 1 }
  | .e5 => { s with w := 1, gw := 1 }
  | .e6 => { s with m1 := 0 }
  | .e7 => { s with r := 0 }
  | .e8 => { s with m3 := 0 }
  | _ => s
/-! Nothing uses the next four by name.  Unfolding each 65-way match above once, in the module that defines it, makes
Lean generate its equation lemmas here; otherwise every module that unfolds one would generate them again for itself. -/
theorem src_call : Label.src .call = .idle := by simp only [Label.src]
theorem dst_call : Label.dst .call = .i0 := by simp only [Label.dst]
theorem guardX_call (s : St) : guardX .call s := by simp only [guardX]
theorem effX_call (s : St) : effX .call s = s := by simp only [effX]

/-- move one thread from point `a` to point `b` -/
def move (f : Pc → Nat) (a b : Pc) (p : Pc) : Nat :=
  if p = a then f p - 1 else if p = b then f p + 1 else f p

/-- enabling condition: some thread is at the source point, and the C condition / semaphore allows the step -/
def guard (l : Label) (s : St) : Prop := 0 < s.cnt l.src ∧ guardX l s

instance (l : Label) (s : St) : Decidable (guard l s) := by unfold guard; exact inferInstance

/-- effect of the step -/
def eff (l : Label) (s : St) : St := { effX l s with cnt := move s.cnt l.src l.dst }

/-- the executable step function (what `soxr_conc` runs against the real traces) -/
def fire (l : Label) (s : St) : Option St := if guard l s then some (eff l s) else none

theorem fire_some {l : Label} {s t : St} (h : fire l s = some t) : guard l s ∧ t = eff l s := by
  unfold fire at h
  split at h
  · exact ⟨‹_›, (Option.some.inj h).symm⟩
  · cases h

/-- one atomic step of some thread -/
def Step (s t : St) : Prop := ∃ l, fire l s = some t

/-- every program point -/
def allS : List Pc :=
  [.idle, .i0, .i1, .i2, .i3, .i4, .i5, .i6, .r1, .r2, .r3, .r4, .r5, .r6, .r7, .r8, .c0, .rd, .ru, .x1, .x2, .x3, .x4,
   .u1, .u2, .u3, .u4, .w1, .w2, .w3, .w4, .w5, .c1, .b0, .wt, .wu, .y1, .y2, .y3, .y4, .y5, .d1, .d2, .d3, .d4, .d5,
   .e1, .e2, .e3, .e4, .e5, .e6, .e7, .e8, .c2]

/-- `Σ_{p ∈ L} w p * f p`: with a 0/1 weight `w`, the number of threads at the points selected by `w` -/
def sumW (f : Pc → Nat) (w : Pc → Nat) : List Pc → Nat
  | [] => 0
  | p :: ps => w p * f p + sumW f w ps

/-- number of threads of state `s` at the program points selected by the 0/1 weight `w` -/
abbrev St.num (s : St) (w : Pc → Nat) : Nat := sumW s.cnt w allS

/-- inside the unguarded initialiser (test `FFT_LEN >= 0` failed, `FFT_LEN = 0` not yet stored) -/
def inInitW : Pc → Nat
  | .i1 | .i2 | .i3 | .i4 | .i5 | .i6 => 1
  | _ => 0
/-- holding the writer role: from P(w) in `become_writer` until V(w) in `cease_writing` -/
def writersW : Pc → Nat
  | .c1 | .b0 | .wt | .wu | .y1 | .d1 => 1
  | _ => 0
/-- holding the reader role: counted in `readcount` while the reader group holds `w` -/
def readersW : Pc → Nat
  | .r6 | .r7 | .r8 | .c0 | .rd | .ru | .x1 | .x2 | .u1 | .u2 | .e6 | .e7 | .e8 | .c2 => 1
  | _ => 0
/-- re-allocating (`b0`) or rebuilding (`wt`, `wu`) the tables -/
def rebuildingW : Pc → Nat
  | .b0 | .wt | .wu => 1
  | _ => 0
/-- inside a transform that only reads the tables -/
def readingW : Pc → Nat
  | .rd | .ru => 1
  | _ => 0
/-- anywhere -/
def allW : Pc → Nat := fun _ => 1

/-- Not used by name: it is here so that the equation lemmas of the five weight functions are generated once, in this
    module (as `src_call` … `effX_call` do for the labels' matches). -/
theorem weights_idle : inInitW .idle = 0 ∧ writersW .idle = 0 ∧ readersW .idle = 0 ∧ rebuildingW .idle = 0 ∧ readingW .idle = 0 := by
  simp only [inInitW, writersW, readersW, rebuildingW, readingW, and_self]

def St.inInit (s : St) : Nat := s.num inInitW
def St.writersIn (s : St) : Nat := s.num writersW
def St.readersIn (s : St) : Nat := s.num readersW
def St.rebuilding (s : St) : Nat := s.num rebuildingW
def St.reading (s : St) : Nat := s.num readingW
def St.threads (s : St) : Nat := s.num allW

/-- a step that respects the serial-initialisation hypothesis: a thread passes the test `FFT_LEN >= 0` negatively (enters
    the initialiser) only while no other thread is inside the initialiser -/
def StepS (s t : St) : Prop := ∃ l, fire l s = some t ∧ (l = .i0_cold → s.inInit = 0)

/-- while `FFT_LEN` is non-negative the cold test cannot be passed, so the proviso of `StepS` is vacuous -/
theorem Step.toStepS {s t : St} (st : Step s t) (hf : 0 ≤ s.flen) : StepS s t := by
  obtain ⟨l, h⟩ := st
  refine ⟨l, h, ?_⟩
  rintro rfl
  have hg : s.flen < 0 := (fire_some h).1.2
  omega

/-- states reachable from `s0` under every interleaving -/
inductive Reachable (s0 : St) : St → Prop
  | init : Reachable s0 s0
  | step {s t} : Reachable s0 s → Step s t → Reachable s0 t

/-- states reachable from `s0` when initialisation completes before a second thread enters it -/
inductive ReachableS (s0 : St) : St → Prop
  | init : ReachableS s0 s0
  | step {s t} : ReachableS s0 s → StepS s t → ReachableS s0 t

theorem ReachableS.toReachable {s0 s : St} (h : ReachableS s0 s) : Reachable s0 s := by
  induction h with
  | init => exact .init
  | step _ st ih => exact .step ih (st.elim fun l hl => ⟨l, hl.1⟩)

/-- all shared variables zero, `n` threads outside the library -/
def zero (n : Nat) : St :=
  { cnt := fun p => if p = .idle then n else 0,
    m1 := 0, m2 := 0, m3 := 0, w := 0, r := 0, readcount := 0, writecount := 0, flen := 0, tab := 0, gw := 0, gr := 0,
    nInit := 0, nReset := 0, nStore := 0, pend := [], wtl := [] }

/-- process start: `FFT_LEN = -1`, static storage zeroed, `n` threads that have not called the library yet -/
def cold (n : Nat) : St := { zero n with flen := -1 }

/-- the state right after one complete, undisturbed `LSX_INIT_FFT_CACHE` (`FFT_LEN = 0`, no tables yet), `n` threads outside -/
def warm (n : Nat) : St := { zero n with nInit := 1, nReset := 1 }

/-- run a list of labels -/
def run : List Label → St → Option St
  | [], s => some s
  | l :: ls, s => (fire l s).bind (run ls)

/-- whatever every firing of a label of `ls` preserves, a run of `ls` preserves -/
theorem run_preserves {P : St → Prop} :
    ∀ (ls : List Label) (s t : St), (∀ l ∈ ls, ∀ s u, P s → fire l s = some u → P u) → P s → run ls s = some t → P t
  | [], s, t, _, h, e => Option.some.inj e ▸ h
  | l :: ls, s, t, hP, h, e => by
    simp only [run] at e
    cases hf : fire l s with
    | none => simp [hf] at e
    | some u =>
      simp only [hf, Option.bind_some] at e
      exact run_preserves ls u t (fun l' hl' => hP l' (List.mem_cons_of_mem _ hl')) (hP l List.mem_cons_self s u h hf) e

theorem run_reachable {s0 : St} (ls : List Label) (s t : St) : Reachable s0 s → run ls s = some t → Reachable s0 t :=
  run_preserves ls s t fun l _ _ _ h hf => .step h ⟨l, hf⟩

/-- a run without the cold test meets the proviso of `StepS` at every step -/
theorem run_reachableS {s0 : St} (ls : List Label) (s t : St) (hn : ∀ l ∈ ls, l ≠ .i0_cold) :
    ReachableS s0 s → run ls s = some t → ReachableS s0 t :=
  run_preserves ls s t fun l hl _ _ h hf => .step h ⟨l, hf, fun e => absurd e (hn l hl)⟩

/-- index of a program point in `allS` (= its constructor index; driver: snapshot of the count function) -/
def Pc.idx (p : Pc) : Nat := p.ctorIdx

/-- extensionally the same state with the count function tabulated (keeps the driver's closures flat) -/
def St.compact (s : St) : St :=
  let a : Array Nat := (allS.map s.cnt).toArray
  { s with cnt := fun p => a.getD p.idx 0 }

/-- all labels, with a given parameter for the three that carry `len` (used by the driver to look labels up by
    source point / visible action) -/
def allLabels (len : Int) (z : Bool := false) : List Label :=
  [.call, .i0_warm, .i0_cold, .ini1, .ini2, .ini3, .ini4, .ini5, .ini6, .r1,
   .r2, .r3, .r4_first, .r4_more, .r5, .r6, .r7, .r8, .c0_ok, .c0_grow, .use_r, .use_w,
   .rd_end, .x1, .x2_last, .x2_more, .x3, .x4, .u1, .u2_last, .u2_more, .u3,
   .u4, .w1, .w2_first, .w2_more, .w3, .w4, .w5, .c1_pass len, .c1_fail, .store len z,
   .build len, .y1, .y2, .y3_last, .y3_more, .y4, .y5, .d1, .d2, .d3_last,
   .d3_more, .d4, .d5, .e1, .e2, .e3, .e4_first, .e4_more, .e5, .e6,
   .e7, .e8, .c2_go]

end Soxr.Conc
