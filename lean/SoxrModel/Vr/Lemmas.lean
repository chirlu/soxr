import SoxrModel.Vr.Arith
/-!
# Lemmas about the variable-rate skeleton (`Vr/Model.lean`)

* frame lemmas: which fields of `rate_t` each sub-function of `vr_process` can touch (`Ctl`);
* the chunk (one iteration of the `while` loop of `vr_process`) as a transformer of the clock / slew fields: its
  interpolation through the one loop of `Vr/Loop.lean` (`kernels_fade`, `kernels_nofade`), the stage switch as one equation;
* induction principles for the `while` loop, for `vr_process` and for call sequences;
* the shifts and `vr_set_io_ratio` on the forms of input the proofs meet; the slew as an invariant.
-/
namespace Soxr.Vr
variable {ρ : Type}

/-! ### Frame lemmas: the FIFO bookkeeping never touches the clock / slew fields -/

/-- the fields of `rate_t` that the FIFO bookkeeping (`do_input_stage`, `fifo_read`) never writes -/
structure Ctl (ρ : Type) where
  slew : Int
  newR : Option ρ
  defR : Option ρ
  fade : Int
  fl : Int
  ns : Nat
  ns0 : Nat
  inc : Bool
  oocc : Int
  cur : Stream
  fo : Stream

def St.ctl (s : St ρ) : Ctl ρ :=
  { slew := s.slew, newR := s.newR, defR := s.defR, fade := s.fade, fl := s.fl, ns := s.ns, ns0 := s.ns0, inc := s.inc,
    oocc := s.oocc, cur := s.cur, fo := s.fo }

theorem setStg_ctl (s : St ρ) (i : Int) (x : Stage) : (s.setStg i x).ctl = s.ctl := rfl

theorem doInput_ctl (s : St ρ) (sn sign m : Int) : (doInput s sn sign m).1.ctl = s.ctl := by
  unfold doInput
  dsimp only
  split <;> rfl

theorem inputStages_ctl (js : List Int) (s : St ρ) (mn : Int) : (inputStages s mn js).ctl = s.ctl := by
  induction js generalizing s with
  | nil => rfl
  | cons j js ih =>
    unfold inputStages
    split
    · exact ih s
    · dsimp only
      generalize (if j < 0 then (-1 : Int) else 1) = sg
      split
      · rw [ih, doInput_ctl]
      · rw [doInput_ctl]

theorem readStages_ctl (n : Nat) (s : St ρ) (i idone : Int) : (readStages s i idone n).ctl = s.ctl := by
  induction n generalizing s i idone with
  | zero => rfl
  | succ n ih => unfold readStages; dsimp only; rw [ih, setStg_ctl]

theorem switchFifoA_ctl (s : St ρ) (dif : Int) : (switchFifoA s dif).ctl = s.ctl := by
  unfold switchFifoA
  split
  · dsimp only; rw [doInput_ctl, setStg_ctl]
  · rfl

theorem switchFifoB_ctl (s : St ρ) (dif : Int) : (switchFifoB s dif).ctl = s.ctl := by
  unfold switchFifoB
  split
  · dsimp only; rw [doInput_ctl, setStg_ctl]
  · rfl

/-! ### One chunk of `vr_process` -/

/-- the two cross-faded streams through the one loop: the down-sampling stream of the pair runs first (`⌈n/2⌉` pairs at
    most), the other is asked for as many rounds as that delivered -/
theorem fadeStreams_eq (c f : Stream) (n : Nat) :
    fadeStreams c f n =
      if c.isD then
        ((fir true c ((n + 1) / 2)).1, (fir f.isD f (fir true c ((n + 1) / 2)).2).1,
          2 * (fir true c ((n + 1) / 2)).2, 2 * (fir f.isD f (fir true c ((n + 1) / 2)).2).2)
      else
        ((fir false c (fir true f ((n + 1) / 2)).2).1, (fir true f ((n + 1) / 2)).1,
          2 * (fir true f ((n + 1) / 2)).2, 2 * (fir false c (fir true f ((n + 1) / 2)).2).2) := by
  have e : ∀ k : Nat, (2 * k + 1) / 2 = k := fun k => by omega
  unfold fadeStreams
  cases c.isD <;> cases f.isD <;> simp [firD_eq_fir, fadeU_eq_fir, e]

/-- the two cross-faded streams: the first count is even (`2·k1`, `k1` output frames), the current stream's `step`
    advances `kc` times, and `kc = k1` when the C `assert(odone == odone2)` holds. -/
theorem fadeStreams_spec (c f : Stream) (n : Nat) :
    ∃ k1 kc kf : Nat, (fadeStreams c f n).2.2.1 = 2 * k1 ∧ k1 ≤ (n + 1) / 2 ∧
      (fadeStreams c f n).1 = { c with clk := (fadeStreams c f n).1.clk, step := c.step + (kc : Int) * c.ss } ∧
      (fadeStreams c f n).2.1 = { f with clk := (fadeStreams c f n).2.1.clk, step := f.step + (kf : Int) * f.ss } ∧
      ((fadeStreams c f n).2.2.1 = (fadeStreams c f n).2.2.2 → kc = k1) := by
  rw [fadeStreams_eq]
  split
  · exact ⟨_, _, _, rfl, (fir_spec true _ c).2.2.2.2.2.2, fir_state _ _ _, fir_state _ _ _, fun _ => rfl⟩
  · exact ⟨_, _, _, rfl, (fir_spec true _ f).2.2.2.2.2.2, fir_state _ _ _, fir_state _ _ _, fun h => by dsimp only at h; omega⟩

/-- a chunk's interpolation during a cross-fade (the `if (p->fade_len)` branch of the `while` loop) -/
theorem kernels_fade (s : St ρ) (olen mn mx : Int) (h : s.fade ≠ 0) :
    kernels s olen mn mx =
      (let x := fadeStreams s.cur s.fo (2 * min olen (s.fade / 2)).toNat
       let done : Bool := decide (s.fade - x.2.2.1 = 0)
       { st := { s with cur := x.1, fo := x.2.1, fade := s.fade - x.2.2.1, sw := if done && s.inc then mn else s.sw },
         olen := min olen (s.fade / 2), od := x.2.2.1 / 2, mn := if done && s.inc then mn + 1 else mn,
         mx := if done && !s.inc then mx - 1 else mx, mis := x.2.2.1 != x.2.2.2 }) := by
  unfold kernels; rw [if_pos h]

/-- outside a cross-fade a chunk's interpolation is the stream's loop, counted in output frames -/
theorem kernels_nofade (s : St ρ) (olen mn mx : Int) (h : s.fade = 0) :
    kernels s olen mn mx =
      { st := { s with cur := (fir s.cur.isD s.cur olen.toNat).1 }, olen := olen,
        od := (fir s.cur.isD s.cur olen.toNat).2, mn := mn, mx := mx, mis := false } := by
  have e : ((2 * olen).toNat + 1) / 2 = olen.toNat := by omega
  unfold kernels
  rw [if_neg (by rw [h]; decide)]
  cases hd : s.cur.isD
  · simp [firU_eq_fir]
  · simp [firD_eq_fir, e]

/-- what the interpolation part of a chunk does to the clock / slew fields: both streams keep everything but the clock
    and `step`, the current one's `step` advances `kc` times (`kc` = the frames delivered unless the streams disagree). -/
theorem kernels_spec (s : St ρ) (olen mn mx : Int) :
    (kernels s olen mn mx).st.slew = s.slew ∧ (kernels s olen mn mx).st.newR = s.newR ∧
    (kernels s olen mn mx).st.defR = s.defR ∧ (kernels s olen mn mx).st.ns = s.ns ∧
    (∃ kc kf : Nat,
      (kernels s olen mn mx).st.cur =
        { s.cur with clk := (kernels s olen mn mx).st.cur.clk, step := s.cur.step + (kc : Int) * s.cur.ss } ∧
      (kernels s olen mn mx).st.fo =
        { s.fo with clk := (kernels s olen mn mx).st.fo.clk, step := s.fo.step + (kf : Int) * s.fo.ss } ∧
      ((kernels s olen mn mx).mis = false → kc = (kernels s olen mn mx).od)) ∧
    ((kernels s olen mn mx).od : Int) ≤ max olen 0 := by
  by_cases h : s.fade = 0
  · rw [kernels_nofade s olen mn mx h]
    refine ⟨rfl, rfl, rfl, rfl, ⟨_, 0, fir_state _ _ _, by simp, fun _ => rfl⟩, ?_⟩
    have := (fir_spec s.cur.isD olen.toNat s.cur).2.2.2.2.2.2
    show ((fir _ _ _).2 : Int) ≤ _; omega
  · rw [kernels_fade s olen mn mx h]
    obtain ⟨k1, kc, kf, e, hk, h1, h2, hm⟩ := fadeStreams_spec s.cur s.fo (2 * min olen (s.fade / 2)).toNat
    refine ⟨rfl, rfl, rfl, rfl, ⟨kc, kf, h1, h2, fun hmis => ?_⟩, ?_⟩
    · rw [hm (by simpa using hmis)]; show k1 = _ / 2; omega
    · show ((_ / 2 : Nat) : Int) ≤ _; omega

/-! ### The snap, the stage switch, and one whole chunk -/

theorem chunkStart_slewing (cfg : Cfg ρ) (s : St ρ) (rem : Nat) (h : s.slew ≠ 0) :
    chunkStart cfg s rem = (s, min (min (rem : Int) (chunkMax : Int)) s.slew) := by
  simp [chunkStart, h]

theorem chunkStart_pending (cfg : Cfg ρ) (s : St ρ) (rem : Nat) (r : ρ) (h : s.slew = 0) (hr : s.newR = some r) :
    chunkStart cfg s rem =
      ({ s with cur := { setStep cfg s.cur r with ss := 0 }, fo := { setStep cfg s.fo r with ss := 0 }, newR := none },
       min (rem : Int) (chunkMax : Int)) := by
  simp [chunkStart, h, hr]

theorem chunkStart_idle (cfg : Cfg ρ) (s : St ρ) (rem : Nat) (h : s.slew = 0) (hr : s.newR = none) :
    chunkStart cfg s rem = (s, min (rem : Int) (chunkMax : Int)) := by
  simp [chunkStart, h, hr]

/-- the shift `vr_process` applies to `step` and `step_step` at a stage switch -/
def switchShift (s : St ρ) (dif : Int) : Int := -dif + (b2i s.cur.isD - b2i (decide (s.cur.sn + dif ≥ 0)))

theorem switchPrep_ctl (s : St ρ) (dif : Int) :
    (switchPrep s dif).ctl = { s.ctl with inc := decide (dif > 0), fo := s.cur, cur := { s.cur with sn := s.cur.sn + dif } } := by
  unfold switchPrep
  dsimp only
  rw [switchFifoB_ctl, switchFifoA_ctl]
  split <;> rfl

/-- a stage switch (the `if (stage_dif)` block of `vr_process`) on the clock / slew fields: the streams are re-labelled, the new current stream enters
    its stage and is rescaled, the fade starts; the FIFO work touches none of them -/
theorem switchStage_ctl (s : St ρ) (dif occ0 : Int) :
    (switchStage s dif occ0).ctl =
      (let c := enterStream { s.cur with sn := s.cur.sn + dif } occ0
       { s.ctl with inc := decide (dif > 0), fo := s.cur, fade := fadeLen,
                    cur := { c with clk := lshift c.clk (-dif), step := lshift c.step (switchShift s dif),
                                    ss := lshift c.ss (switchShift s dif) } }) := by
  have h : (enter (switchPrep s dif) occ0).ctl = _ := congrArg (fun c : Ctl ρ => { c with cur := enterStream c.cur occ0 })
    (switchPrep_ctl s dif)
  unfold switchStage rescale
  generalize enter (switchPrep s dif) occ0 = t at h
  show (fun c : Ctl ρ =>
      ({ c with
          cur := { c.cur with
                    clk := lshift c.cur.clk (-dif), step := lshift c.cur.step (-dif + (b2i c.fo.isD - b2i c.cur.isD)),
                    ss := lshift c.cur.ss (-dif + (b2i c.fo.isD - b2i c.cur.isD)) },
          fade := fadeLen } : Ctl ρ)) t.ctl = _
  rw [h]
  rfl

theorem switchStage_spec (s : St ρ) (dif occ0 : Int) :
    (switchStage s dif occ0).slew = s.slew ∧ (switchStage s dif occ0).newR = s.newR ∧
    (switchStage s dif occ0).defR = s.defR ∧ (switchStage s dif occ0).ns = s.ns ∧
    (switchStage s dif occ0).fl = s.fl ∧
    (switchStage s dif occ0).fo = s.cur ∧ (switchStage s dif occ0).fade = fadeLen ∧
    (switchStage s dif occ0).inc = decide (dif > 0) ∧
    (switchStage s dif occ0).cur.sn = s.cur.sn + dif ∧
    (switchStage s dif occ0).cur.isD = decide (s.cur.sn + dif ≥ 0) ∧
    (switchStage s dif occ0).cur.mult =
      (if s.cur.sn + dif ≥ 0 then stageMult (s.cur.sn + dif) / 2 else stageMult (s.cur.sn + dif)) ∧
    (switchStage s dif occ0).cur.clk = lshift s.cur.clk (-dif) ∧
    (switchStage s dif occ0).cur.step = lshift s.cur.step (switchShift s dif) ∧
    (switchStage s dif occ0).cur.ss = lshift s.cur.ss (switchShift s dif) := by
  have h := switchStage_ctl s dif occ0
  generalize switchStage s dif occ0 = t at h
  exact ⟨congrArg Ctl.slew h, congrArg Ctl.newR h, congrArg Ctl.defR h, congrArg Ctl.ns h, congrArg Ctl.fl h,
    congrArg Ctl.fo h, congrArg Ctl.fade h, congrArg Ctl.inc h, congrArg (·.cur.sn) h, congrArg (·.cur.isD) h,
    (congrArg (·.cur.mult) h).trans (by simp [enterStream]), congrArg (·.cur.clk) h, congrArg (·.cur.step) h,
    congrArg (·.cur.ss) h⟩

/-- `switchStage` sets the new current stream's `len` from `occupancy0` -/
theorem switchStage_len (s : St ρ) (dif occ0 : Int) :
    (switchStage s dif occ0).cur.len = shiftr occ0 (s.cur.sn + dif) := by
  have h := switchStage_ctl s dif occ0
  generalize switchStage s dif occ0 = t at h
  exact congrArg (·.cur.len) h

theorem switchStage_sn (s : St ρ) (dif occ0 : Int) : (switchStage s dif occ0).cur.sn = s.cur.sn + dif :=
  (switchStage_spec s dif occ0).2.2.2.2.2.2.2.2.1

theorem switchStage_ss (s : St ρ) (dif occ0 : Int) :
    (switchStage s dif occ0).cur.ss = lshift s.cur.ss (switchShift s dif) :=
  (switchStage_spec s dif occ0).2.2.2.2.2.2.2.2.2.2.2.2.2

/-- `if (p->slew_len) p->slew_len -= odone`: the chunk's frames come off `slew_len` -/
theorem chunkFinish_st (l : LoopSt ρ) (sw shl : Bool) (k : KRes ρ) :
    (chunkFinish l sw shl k).st = { k.st with slew := if k.st.slew ≠ 0 then k.st.slew - k.od else k.st.slew } := by
  unfold chunkFinish
  dsimp only
  split <;> rfl

/-- the state a chunk interpolates from: after the snap and after the stage switch, if any -/
def chunkBase (cfg : Cfg ρ) (olen0 : Nat) (l : LoopSt ρ) : St ρ :=
  let a := chunkStart cfg l.st (olen0 - l.od0)
  if doesSwitch a.1 then switchStage a.1 (stageDif a.1) (switchOcc a.1 (stageDif a.1) l.occ) else a.1

/-- one chunk, as a transformer of the clock / slew fields.  `b` is the state after the snap and the stage switch;
    the chunk delivers `od` frames, `step` advances `kc` times (`kc = od` unless the C assertion
    `odone == odone2` fails in this chunk), `slew_len` falls by `od`. -/
theorem chunk_spec (cfg : Cfg ρ) (olen0 : Nat) (l : LoopSt ρ) :
    let a := chunkStart cfg l.st (olen0 - l.od0)
    let b := chunkBase cfg olen0 l
    let r := (chunk cfg olen0 l).1
    r.nsw = l.nsw + (if doesSwitch a.1 then 1 else 0) ∧ l.nmis ≤ r.nmis ∧ l.od0 ≤ r.od0 ∧
    r.st.newR = b.newR ∧ r.st.defR = b.defR ∧ r.st.cur.ss = b.cur.ss ∧ r.st.cur.mult = b.cur.mult ∧ r.st.ns = b.ns ∧
    r.st.cur.sn = b.cur.sn ∧ r.st.cur.isD = b.cur.isD ∧
    (∃ kc : Nat, r.st.cur.step = b.cur.step + (kc : Int) * b.cur.ss ∧ (r.nmis = l.nmis → kc = r.od0 - l.od0)) ∧
    r.st.slew = (if b.slew ≠ 0 then b.slew - ((r.od0 - l.od0 : Nat) : Int) else b.slew) ∧
    ((r.od0 - l.od0 : Nat) : Int) ≤ max a.2 0 := by
  intro a b r
  obtain ⟨h1, h2, h3, h9, ⟨kc, _, hc, _, h11⟩, h12⟩ := kernels_spec b a.2 (chunkMn l (stageDif a.1))
    (chunkMx l (stageDif a.1) (decide (a.1.cur.sn + stageDif a.1 < a.1.ns)))
  generalize hK : kernels b a.2 (chunkMn l (stageDif a.1))
    (chunkMx l (stageDif a.1) (decide (a.1.cur.sn + stageDif a.1 < a.1.ns))) = K at *
  have hr : r = { chunkFinish l (doesSwitch a.1) (doesSwitch a.1 && negLeftShift a.1 (stageDif a.1)) K with
      occ := if doesSwitch a.1 then switchOcc a.1 (stageDif a.1) l.occ else l.occ } := by
    show (chunk cfg olen0 l).1 = _
    unfold chunk
    dsimp only
    rw [← hK]
    rfl
  have hst : r.st = { K.st with slew := if K.st.slew ≠ 0 then K.st.slew - K.od else K.st.slew } := by
    rw [hr]; exact chunkFinish_st l (doesSwitch a.1) (doesSwitch a.1 && negLeftShift a.1 (stageDif a.1)) K
  have hod : r.od0 - l.od0 = K.od := by rw [hr]; show l.od0 + K.od - l.od0 = K.od; exact Nat.add_sub_cancel_left _ _
  have hcur : r.st.cur = K.st.cur := by rw [hst]
  rw [hod, hcur, hc]
  refine ⟨by rw [hr]; rfl, by rw [hr]; exact Nat.le_add_right _ _, by rw [hr]; exact Nat.le_add_right _ _,
    by rw [hst]; exact h2, by rw [hst]; exact h3, rfl, rfl, by rw [hst]; exact h9, rfl, rfl,
    ⟨kc, rfl, fun hm => h11 ?_⟩, by rw [hst, h1], h12⟩
  cases hK' : K.mis with
  | false => rfl
  | true =>
    have : r.nmis = l.nmis + 1 := by rw [hr]; simp [chunkFinish, hK']
    omega

theorem chunkBase_noswitch (cfg : Cfg ρ) (olen0 : Nat) (l : LoopSt ρ)
    (h : doesSwitch (chunkStart cfg l.st (olen0 - l.od0)).1 = false) :
    chunkBase cfg olen0 l = (chunkStart cfg l.st (olen0 - l.od0)).1 := by
  unfold chunkBase; simp [h]

/-- a chunk that leaves the switch counter where it was interpolates from the state after the snap -/
theorem chunkBase_of_nsw (cfg : Cfg ρ) (olen0 : Nat) (l : LoopSt ρ) (hs : (chunk cfg olen0 l).1.nsw = l.nsw) :
    chunkBase cfg olen0 l = (chunkStart cfg l.st (olen0 - l.od0)).1 := by
  have c1 := (chunk_spec cfg olen0 l).1
  apply chunkBase_noswitch
  cases hd : doesSwitch (chunkStart cfg l.st (olen0 - l.od0)).1 with
  | false => rfl
  | true => rw [hd, if_pos rfl] at c1; omega

theorem loop_of_lt (cfg : Cfg ρ) (olen0 f : Nat) (l : LoopSt ρ) (h : l.od0 < olen0) :
    loop cfg olen0 (f + 1) l = if (chunk cfg olen0 l).2 then loop cfg olen0 f (chunk cfg olen0 l).1 else (chunk cfg olen0 l).1 := by
  rw [loop, if_pos h]

theorem loop_of_ge (cfg : Cfg ρ) (olen0 : Nat) (l : LoopSt ρ) (h : ¬ l.od0 < olen0) : ∀ f, loop cfg olen0 f l = l
  | 0 => rfl
  | _ + 1 => by rw [loop, if_neg h]

/-- induction over the `while` loop of `vr_process` -/
theorem loop_induct (cfg : Cfg ρ) (olen0 : Nat) (P : LoopSt ρ → Prop)
    (hstep : ∀ l, P l → l.od0 < olen0 → P (chunk cfg olen0 l).1) :
    ∀ (f : Nat) (l : LoopSt ρ), P l → P (loop cfg olen0 f l) := by
  intro f
  induction f with
  | zero => intro l h; exact h
  | succ f ih =>
    intro l h
    unfold loop
    split
    · dsimp only
      split
      · exact ih _ (hstep l h ‹_›)
      · exact hstep l h ‹_›
    · exact h

/-! ### `vr_process` and call sequences as transformers of the clock / slew fields -/

/-- the fields the slew theorems are about -/
structure V (ρ : Type) where
  slew : Int
  newR : Option ρ
  defR : Option ρ
  step : Int
  ss : Int
  mult : Nat
  sn : Int
  isD : Bool
  ns : Nat

def St.v (s : St ρ) : V ρ :=
  { slew := s.slew, newR := s.newR, defR := s.defR, step := s.cur.step, ss := s.cur.ss, mult := s.cur.mult,
    sn := s.cur.sn, isD := s.cur.isD, ns := s.ns }

def Ctl.v (c : Ctl ρ) : V ρ :=
  { slew := c.slew, newR := c.newR, defR := c.defR, step := c.cur.step, ss := c.cur.ss, mult := c.cur.mult,
    sn := c.cur.sn, isD := c.cur.isD, ns := c.ns }

theorem v_of_ctl (s : St ρ) : s.v = s.ctl.v := rfl

theorem setLens_v (s : St ρ) (occ0 : Int) : (setLens s occ0).v = s.v := by
  unfold setLens; dsimp only; split <;> rfl

theorem preLoop_v (cfg : Cfg ρ) (s : St ρ) (olen0 : Nat) :
    (preLoop cfg s olen0).1.st.v = (applyDefault cfg s).v ∧ (preLoop cfg s olen0).1.od0 = 0 ∧
    (preLoop cfg s olen0).1.nsw = 0 ∧ (preLoop cfg s olen0).1.nmis = 0 := by
  unfold preLoop
  dsimp only
  refine ⟨?_, rfl, rfl, rfl⟩
  rw [setLens_v]
  generalize hX : inputStages _ _ _ = X
  have hc' : X.v = (applyDefault cfg s).v := by
    rw [← hX, v_of_ctl, inputStages_ctl]; rfl
  have h : (if X.fl > 0 then { X with fl := -1 } else X).v = X.v := by split <;> rfl
  rw [h, hc']

theorem post_v (s : St ρ) (mn mx : Int) : (post s mn mx).v = s.v := by
  unfold post
  dsimp only
  rw [v_of_ctl, readStages_ctl]
  rfl

theorem flush_v (s : St ρ) : (flush s).v = s.v := by
  unfold flush; split <;> rfl

theorem output_v (s : St ρ) (n : Nat) : (output s n).1.v = s.v := rfl

/-- induction over `vr_process`: a property of (clock / slew fields, frames so far, ghost counters) that holds after
    the default ratio is applied (`applyDefault`) and is preserved by every chunk holds at the end. -/
theorem process_induct (cfg : Cfg ρ) (s : St ρ) (olen0 : Nat) (P : V ρ → Nat → Nat → Nat → Prop)
    (h0 : P (applyDefault cfg s).v 0 0 0)
    (hstep : ∀ (l : LoopSt ρ), P l.st.v l.od0 l.nsw l.nmis → l.od0 < olen0 →
      P (chunk cfg olen0 l).1.st.v (chunk cfg olen0 l).1.od0 (chunk cfg olen0 l).1.nsw
        (chunk cfg olen0 l).1.nmis) :
    P (process cfg s olen0).st.v (process cfg s olen0).od (process cfg s olen0).nsw (process cfg s olen0).nmis := by
  unfold process
  dsimp only
  obtain ⟨p1, p2, p3, p4⟩ := preLoop_v cfg s olen0
  have hl := loop_induct cfg olen0 (fun l => P l.st.v l.od0 l.nsw l.nmis)
    (fun l hl hlt => hstep l hl hlt) (olen0 + 1) (preLoop cfg s olen0).1 (by rw [p1, p2, p3, p4]; exact h0)
  have e : ∀ (t : St ρ) (k : Int), ({ t with oocc := k } : St ρ).v = t.v := fun _ _ => rfl
  rw [e, post_v]
  exact hl

/-- a call that is not a ratio request runs `vr_process` from a state with the same clock / slew fields -/
theorem stepOp_process (cfg : Cfg ρ) (r : Run ρ) (o : Op ρ) (ho : o.isRatio = false) :
    ∃ (s : St ρ) (olen : Nat), s.v = r.st.v ∧ (stepOp cfg r o).st.v = (process cfg s olen).st.v ∧
      (stepOp cfg r o).out = r.out + (process cfg s olen).od ∧ (stepOp cfg r o).nsw = r.nsw + (process cfg s olen).nsw ∧
      (stepOp cfg r o).nmis = r.nmis + (process cfg s olen).nmis := by
  cases o with
  | ratio x sl => exact Bool.noConfusion ho
  | proc ilen olen => exact ⟨input r.st ilen, olen, rfl, output_v _ olen, rfl, rfl, rfl⟩
  | flush olen => exact ⟨flush r.st, olen, flush_v r.st, output_v _ olen, rfl, rfl, rfl⟩

/-- induction over a call sequence without ratio requests -/
theorem run_induct (cfg : Cfg ρ) (P : Run ρ → Prop) (hstep : ∀ r o, o.isRatio = false → P r → P (stepOp cfg r o)) :
    ∀ (ops : List (Op ρ)) (r : Run ρ), (∀ o ∈ ops, o.isRatio = false) → P r → P (run cfg r ops)
  | [], _, _, h => h
  | o :: ops, r, ho, h =>
    run_induct cfg P hstep ops (stepOp cfg r o) (fun o' ho' => ho o' (List.mem_cons_of_mem _ ho'))
      (hstep r o (ho o (List.mem_cons_self ..)) h)

theorem applyDefault_none (cfg : Cfg ρ) (s : St ρ) (h : s.defR = none) : applyDefault cfg s = s := by
  unfold applyDefault; rw [h]

/-- the first `vr_set_io_ratio(r, 0)` (`default_io_ratio` still set): the stage is chosen by the octave of `r`, entered,
    `step` set, and the clock put half a step in (`FRAC(step) >> 1`) -/
theorem setIoRatio_first (cfg : Cfg ρ) (s : St ρ) (r x : ρ) (hd : s.defR = some x) :
    setIoRatio cfg s r 0 =
      (let sn : Int := if cfg.num.octave r < 0 then -1 else min (cfg.num.octave r) ((s.ns0 : Int) - 1)
       let c := setStep cfg (enterStream { s.cur with ss := 0, sn := sn } 0) r
       { s with slew := 0, newR := none, defR := none, fo := { s.fo with ss := 0 },
                cur := { c with clk := INT c.clk * two32 + FRAC c.step / 2 } }) := by
  unfold setIoRatio
  simp [hd, enter]

/-- … and that stage is one the engine has: `−1 ≤ stage_num ≤ max(num_stages0 − 1, −1)` -/
theorem setIoRatio_first_sn (cfg : Cfg ρ) (s : St ρ) (r x : ρ) (hd : s.defR = some x) :
    (setIoRatio cfg s r 0).cur.sn = (if cfg.num.octave r < 0 then -1 else min (cfg.num.octave r) ((s.ns0 : Int) - 1)) ∧
    -1 ≤ (setIoRatio cfg s r 0).cur.sn ∧ (setIoRatio cfg s r 0).cur.sn ≤ max ((s.ns0 : Int) - 1) (-1) := by
  have h : (setIoRatio cfg s r 0).cur.sn =
      (if cfg.num.octave r < 0 then -1 else min (cfg.num.octave r) ((s.ns0 : Int) - 1)) :=
    congrArg (·.cur.sn) (setIoRatio_first cfg s r x hd)
  refine ⟨h, ?_, ?_⟩ <;> rw [h] <;> split <;> omega

theorem setIoRatio_zero_spec (cfg : Cfg ρ) (s : St ρ) (r : ρ) :
    (setIoRatio cfg s r 0).defR = none ∧
    (setIoRatio cfg s r 0).cur.step = cfg.num.stepOf r (setIoRatio cfg s r 0).cur.mult ∧
    (setIoRatio cfg s r 0).ns = s.ns ∧
    (s.defR = none → (setIoRatio cfg s r 0).cur.mult = s.cur.mult ∧ (setIoRatio cfg s r 0).cur.sn = s.cur.sn ∧
        (setIoRatio cfg s r 0).cur.isD = s.cur.isD ∧ (setIoRatio cfg s r 0).cur.clk = s.cur.clk) ∧
    ((setIoRatio cfg s r 0).slew = 0 ∧ (setIoRatio cfg s r 0).newR = none ∧
        (setIoRatio cfg s r 0).cur.ss = 0 ∧ (setIoRatio cfg s r 0).fo.ss = 0) := by
  unfold setIoRatio
  cases hd : s.defR <;> by_cases hfade : s.fade = 0 <;>
    simp [hfade, setStep, enter, enterStream]

theorem setIoRatio_slew_spec (cfg : Cfg ρ) (s : St ρ) (r : ρ) (L : Nat) (hL : L ≠ 0) :
    (setIoRatio cfg s r L).defR = s.defR ∧ (setIoRatio cfg s r L).cur.step = s.cur.step ∧
    (setIoRatio cfg s r L).cur.mult = s.cur.mult ∧ (setIoRatio cfg s r L).ns = s.ns ∧
    (setIoRatio cfg s r L).cur.sn = s.cur.sn ∧ (setIoRatio cfg s r L).cur.isD = s.cur.isD ∧
    (setIoRatio cfg s r L).cur.clk = s.cur.clk ∧
    (setIoRatio cfg s r L).cur.ss = slewInc (cfg.num.stepOf r s.cur.mult) s.cur.step L ∧
    (slewInc (cfg.num.stepOf r s.cur.mult) s.cur.step L = 0 →
        (setIoRatio cfg s r L).slew = 0 ∧ (setIoRatio cfg s r L).newR = none) ∧
    (slewInc (cfg.num.stepOf r s.cur.mult) s.cur.step L ≠ 0 →
        (setIoRatio cfg s r L).slew = L ∧ (setIoRatio cfg s r L).newR = some r) := by
  unfold setIoRatio
  by_cases h0 : slewInc (cfg.num.stepOf r s.cur.mult) s.cur.step L = 0 <;> by_cases hfade : s.fade = 0 <;>
    simp [hL, h0, hfade, setSS]

/-! ### The slew as an invariant -/

/-- a slew request as the engine stored it: `step` when it was made, the increment, the length, the target -/
structure Req (ρ : Type) where
  step0 : Int
  ss0 : Int
  L : Nat
  r : ρ
  mult : Nat

/-- Where the engine is `j` output frames after the request `g` (as long as no stage switch intervened):
    * `j < L`: still slewing — `step = step₀ + j·step_step`, `slew_len = L − j`;
    * `j = L`, before the next chunk starts: the last increment has been applied, the snap is pending;
    * from the first chunk after that on: `step` is exactly the target, `step_step = 0`. -/
def SlewingV (cfg : Cfg ρ) (g : Req ρ) (v : V ρ) (j : Nat) : Prop :=
  v.defR = none ∧ v.mult = g.mult ∧
  ((j < g.L ∧ v.slew = (g.L : Int) - j ∧ v.newR = some g.r ∧ v.step = g.step0 + (j : Int) * g.ss0 ∧ v.ss = g.ss0) ∨
   (j = g.L ∧ v.slew = 0 ∧ v.newR = some g.r ∧ v.step = g.step0 + (g.L : Int) * g.ss0 ∧ v.ss = g.ss0) ∨
   (g.L ≤ j ∧ v.slew = 0 ∧ v.newR = none ∧ v.step = cfg.num.stepOf g.r g.mult ∧ v.ss = 0))

/-- one chunk without a stage switch and with both cross-faded streams in step keeps the slew invariant and moves
    it on by the frames delivered. -/
theorem SlewingV_chunk (cfg : Cfg ρ) (g : Req ρ) (olen0 : Nat) (l : LoopSt ρ) (j : Nat)
    (h : SlewingV cfg g l.st.v j)
    (hs : (chunk cfg olen0 l).1.nsw = l.nsw) (hm : (chunk cfg olen0 l).1.nmis = l.nmis) :
    SlewingV cfg g (chunk cfg olen0 l).1.st.v (j + ((chunk cfg olen0 l).1.od0 - l.od0)) := by
  have hc := chunk_spec cfg olen0 l
  dsimp only at hc
  obtain ⟨c1, _, c3, c4, c5, c6, c7, _, _, _, ⟨kc, c11, c12⟩, c13, c14⟩ := hc
  rw [chunkBase_of_nsw cfg olen0 l hs] at c4 c5 c6 c7 c11 c13
  have hkc := c12 hm
  generalize (chunk cfg olen0 l).1 = R at *
  generalize hod : R.od0 - l.od0 = od at *
  subst hkc
  obtain ⟨hd, hmul, hcase⟩ := h
  simp only [St.v] at hd hmul hcase
  unfold SlewingV
  simp only [St.v]
  rcases hcase with ⟨hj, h1, h2, h3, h4⟩ | ⟨hj, h1, h2, h3, h4⟩ | ⟨hj, h1, h2, h3, h4⟩
  · -- slewing
    have hne : l.st.slew ≠ 0 := by omega
    rw [chunkStart_slewing cfg l.st _ hne] at c4 c5 c6 c7 c11 c13 c14
    dsimp only at c4 c5 c6 c7 c11 c13 c14
    have hle : (kc : Int) ≤ l.st.slew := by omega
    refine ⟨by rw [c5, hd], by rw [c7, hmul], ?_⟩
    rw [if_pos hne] at c13
    by_cases hlt : j + kc < g.L
    · left
      refine ⟨hlt, by omega, by rw [c4, h2], ?_, by rw [c6, h4]⟩
      rw [c11, h3, h4]; push_cast; rw [Int.add_mul]; omega
    · right; left
      have : j + kc = g.L := by omega
      refine ⟨this, by omega, by rw [c4, h2], ?_, by rw [c6, h4]⟩
      rw [c11, h3, h4, ← this]; push_cast; rw [Int.add_mul]; omega
  · -- snap pending
    rw [chunkStart_pending cfg l.st _ g.r h1 h2] at c4 c5 c6 c7 c11 c13
    dsimp only [setStep] at c4 c5 c6 c7 c11 c13
    refine ⟨by rw [c5, hd], by rw [c7, hmul], ?_⟩
    right; right
    refine ⟨by omega, ?_, c4, ?_, c6⟩
    · rw [c13, h1]; simp
    · rw [c11, hmul]; simp
  · -- snapped
    rw [chunkStart_idle cfg l.st _ h1 h2] at c4 c5 c6 c7 c11 c13
    refine ⟨by rw [c5, hd], by rw [c7, hmul], ?_⟩
    right; right
    refine ⟨by omega, ?_, by rw [c4, h2], ?_, by rw [c6, h4]⟩
    · rw [c13, h1]; simp
    · rw [c11, h3, h4]; simp

theorem SlewingV_process (cfg : Cfg ρ) (g : Req ρ) (s : St ρ) (olen0 j : Nat) (h : SlewingV cfg g s.v j)
    (hs : (process cfg s olen0).nsw = 0) (hm : (process cfg s olen0).nmis = 0) :
    SlewingV cfg g (process cfg s olen0).st.v (j + (process cfg s olen0).od) := by
  have := process_induct cfg s olen0
    (fun v od nsw nmis => nsw = 0 → nmis = 0 → SlewingV cfg g v (j + od))
    (by
      intro _ _
      rw [applyDefault_none cfg s h.1]
      exact h)
    (by
      intro l hl hlt hs' hm'
      have hc := chunk_spec cfg olen0 l
      dsimp only at hc
      obtain ⟨c1, c2, c3, _⟩ := hc
      have hl0 : l.nsw = 0 := by omega
      have hm0 : l.nmis = 0 := by omega
      have := SlewingV_chunk cfg g olen0 l (j + l.od0) (hl hl0 hm0) (by omega) (by omega)
      have e : j + l.od0 + ((chunk cfg olen0 l).1.od0 - l.od0) = j + (chunk cfg olen0 l).1.od0 := by omega
      rw [e] at this
      exact this)
  exact this hs hm

theorem SlewingV_run (cfg : Cfg ρ) (g : Req ρ) (ops : List (Op ρ)) (r : Run ρ) (j : Nat)
    (ho : ∀ o ∈ ops, o.isRatio = false) (h : SlewingV cfg g r.st.v (j + r.out))
    (hs : (run cfg r ops).nsw = r.nsw) (hm : (run cfg r ops).nmis = r.nmis) :
    SlewingV cfg g (run cfg r ops).st.v (j + (run cfg r ops).out) := by
  -- the ghost counters only grow, so none has moved at any call in between
  refine (run_induct cfg (fun r' => r.nsw ≤ r'.nsw ∧ r.nmis ≤ r'.nmis ∧
    (r'.nsw = r.nsw → r'.nmis = r.nmis → SlewingV cfg g r'.st.v (j + r'.out))) (fun r' o ho' ⟨h1, h2, h3⟩ => ?_) ops r ho
    ⟨Nat.le_refl _, Nat.le_refl _, fun _ _ => h⟩).2.2 hs hm
  obtain ⟨s, olen, e0, e1, e2, e3, e4⟩ := stepOp_process cfg r' o ho'
  refine ⟨by omega, by omega, fun hs' hm' => ?_⟩
  rw [e1, e2, ← Nat.add_assoc]
  exact SlewingV_process cfg g s olen _ (e0 ▸ h3 (by omega) (by omega)) (by omega) (by omega)

/-! ### No slew in progress: nothing moves -/

/-- no ratio request is outstanding: the initial ratio has been set, no slew is running, no snap is pending -/
def QuiescentV (v : V ρ) : Prop := v.defR = none ∧ v.slew = 0 ∧ v.newR = none ∧ v.ss = 0

theorem QuiescentV_chunk (cfg : Cfg ρ) (olen0 : Nat) (l : LoopSt ρ) (h : QuiescentV l.st.v) :
    QuiescentV (chunk cfg olen0 l).1.st.v ∧
    ((chunk cfg olen0 l).1.nsw = l.nsw →
      (chunk cfg olen0 l).1.st.v.step = l.st.v.step ∧ (chunk cfg olen0 l).1.st.v.mult = l.st.v.mult ∧
      (chunk cfg olen0 l).1.st.v.sn = l.st.v.sn) := by
  have hc := chunk_spec cfg olen0 l
  dsimp only at hc
  obtain ⟨c1, _, c3, c4, c5, c6, c7, _, c9, _, ⟨kc, c11, _⟩, c13, _⟩ := hc
  obtain ⟨hd, h1, h2, h4⟩ := h
  simp only [St.v] at hd h1 h2 h4 ⊢
  have ha := chunkStart_idle cfg l.st (olen0 - l.od0) h1 h2
  have hb : (chunkBase cfg olen0 l).slew = 0 ∧ (chunkBase cfg olen0 l).newR = none ∧
      (chunkBase cfg olen0 l).defR = none ∧ (chunkBase cfg olen0 l).cur.ss = 0 := by
    unfold chunkBase
    dsimp only
    rw [ha]
    dsimp only
    split
    · obtain ⟨s1, s2, s3, _⟩ := switchStage_spec l.st (stageDif l.st) (switchOcc l.st (stageDif l.st) l.occ)
      exact ⟨by rw [s1, h1], by rw [s2, h2], by rw [s3, hd], by rw [switchStage_ss, h4, lshift_zero]⟩
    · exact ⟨h1, h2, hd, h4⟩
  obtain ⟨b1, b2, b3, b4⟩ := hb
  refine ⟨⟨by rw [c5, b3], by rw [c13, b1]; simp, by rw [c4, b2], by rw [c6, b4]⟩, fun hs => ?_⟩
  rw [chunkBase_of_nsw cfg olen0 l hs, ha] at c7 c9 c11
  dsimp only at c7 c9 c11
  rw [h4] at c11
  exact ⟨by rw [c11]; simp, c7, c9⟩

theorem QuiescentV_process (cfg : Cfg ρ) (s : St ρ) (olen0 : Nat) (h : QuiescentV s.v) :
    QuiescentV (process cfg s olen0).st.v ∧
    ((process cfg s olen0).nsw = 0 →
      (process cfg s olen0).st.v.step = s.v.step ∧ (process cfg s olen0).st.v.mult = s.v.mult ∧
      (process cfg s olen0).st.v.sn = s.v.sn) := by
  exact process_induct cfg s olen0
    (fun v _ nsw _ => QuiescentV v ∧ (nsw = 0 → v.step = s.v.step ∧ v.mult = s.v.mult ∧ v.sn = s.v.sn))
    (by rw [applyDefault_none cfg s h.1]; exact ⟨h, fun _ => ⟨rfl, rfl, rfl⟩⟩)
    (by
      intro l hl _
      have hc := chunk_spec cfg olen0 l
      dsimp only at hc
      obtain ⟨c1, _⟩ := hc
      obtain ⟨q, hstep⟩ := QuiescentV_chunk cfg olen0 l hl.1
      refine ⟨q, fun h0 => ?_⟩
      obtain ⟨e1, e2, e3⟩ := hstep (by omega)
      obtain ⟨f1, f2, f3⟩ := hl.2 (by omega)
      exact ⟨e1.trans f1, e2.trans f2, e3.trans f3⟩)

theorem QuiescentV_run (cfg : Cfg ρ) (ops : List (Op ρ)) (r : Run ρ) (ho : ∀ o ∈ ops, o.isRatio = false)
    (h : QuiescentV r.st.v) :
    QuiescentV (run cfg r ops).st.v ∧
    ((run cfg r ops).nsw = r.nsw →
      (run cfg r ops).st.v.step = r.st.v.step ∧ (run cfg r ops).st.v.mult = r.st.v.mult ∧
      (run cfg r ops).st.v.sn = r.st.v.sn) := by
  refine (run_induct cfg (fun r' => r.nsw ≤ r'.nsw ∧ QuiescentV r'.st.v ∧
    (r'.nsw = r.nsw → r'.st.v.step = r.st.v.step ∧ r'.st.v.mult = r.st.v.mult ∧ r'.st.v.sn = r.st.v.sn))
    (fun r' o ho' ⟨h1, h2, h3⟩ => ?_) ops r ho ⟨Nat.le_refl _, h, fun _ => ⟨rfl, rfl, rfl⟩⟩).2
  obtain ⟨s, olen, e0, e1, _, e3, _⟩ := stepOp_process cfg r' o ho'
  obtain ⟨q, hq⟩ := QuiescentV_process cfg s olen (e0 ▸ h2)
  rw [e1]
  refine ⟨by omega, q, fun hs => ?_⟩
  obtain ⟨a1, a2, a3⟩ := hq (by omega)
  obtain ⟨b1, b2, b3⟩ := h3 (by omega)
  rw [e0] at a1 a2 a3
  exact ⟨a1.trans b1, a2.trans b2, a3.trans b3⟩

/-! ### The sign of `step_step` never changes without a new request (stage switches included) -/

theorem chunkStart_ss (cfg : Cfg ρ) (s : St ρ) (rem : Nat) :
    (chunkStart cfg s rem).1.cur.ss = s.cur.ss ∨ (chunkStart cfg s rem).1.cur.ss = 0 := by
  unfold chunkStart
  dsimp only
  split
  · left; rfl
  · split
    · right; rfl
    · left; rfl

theorem chunk_ss_sign (cfg : Cfg ρ) (olen0 : Nat) (l : LoopSt ρ) :
    (0 ≤ l.st.cur.ss → 0 ≤ (chunk cfg olen0 l).1.st.cur.ss) ∧
    (l.st.cur.ss ≤ 0 → (chunk cfg olen0 l).1.st.cur.ss ≤ 0) := by
  have hc := chunk_spec cfg olen0 l
  dsimp only at hc
  obtain ⟨_, _, _, _, _, c6, _⟩ := hc
  rw [c6]
  unfold chunkBase
  dsimp only
  have ha := chunkStart_ss cfg l.st (olen0 - l.od0)
  split
  · rw [switchStage_ss]
    rcases ha with ha | ha <;> rw [ha]
    · exact ⟨fun h => lshift_nonneg _ _ h, fun h => lshift_nonpos _ _ h⟩
    · rw [lshift_zero]; exact ⟨fun _ => Int.le_refl _, fun _ => Int.le_refl _⟩
  · rcases ha with ha | ha <;> rw [ha]
    · exact ⟨id, id⟩
    · exact ⟨fun _ => Int.le_refl _, fun _ => Int.le_refl _⟩

theorem applyDefault_ss (cfg : Cfg ρ) (s : St ρ) :
    (applyDefault cfg s).cur.ss = s.cur.ss ∨ (applyDefault cfg s).cur.ss = 0 := by
  unfold applyDefault
  split
  · obtain ⟨_, _, _, _, h5⟩ := setIoRatio_zero_spec cfg s ‹_›
    right; exact h5.2.2.1
  · left; rfl

theorem process_ss_sign (cfg : Cfg ρ) (s : St ρ) (olen0 : Nat) :
    (0 ≤ s.cur.ss → 0 ≤ (process cfg s olen0).st.cur.ss) ∧ (s.cur.ss ≤ 0 → (process cfg s olen0).st.cur.ss ≤ 0) := by
  have := process_induct cfg s olen0
    (fun v _ _ _ => (0 ≤ s.cur.ss → 0 ≤ v.ss) ∧ (s.cur.ss ≤ 0 → v.ss ≤ 0))
    (by
      simp only [St.v]
      rcases applyDefault_ss cfg s with h | h <;> rw [h]
      · exact ⟨id, id⟩
      · exact ⟨fun _ => Int.le_refl _, fun _ => Int.le_refl _⟩)
    (by
      intro l hl _
      have := chunk_ss_sign cfg olen0 l
      simp only [St.v] at hl ⊢
      exact ⟨fun h => this.1 (hl.1 h), fun h => this.2 (hl.2 h)⟩)
  exact this

theorem run_ss_sign (cfg : Cfg ρ) (ops : List (Op ρ)) (r : Run ρ) (ho : ∀ o ∈ ops, o.isRatio = false) :
    (0 ≤ r.st.cur.ss → 0 ≤ (run cfg r ops).st.cur.ss) ∧ (r.st.cur.ss ≤ 0 → (run cfg r ops).st.cur.ss ≤ 0) := by
  refine run_induct cfg (fun r' => (0 ≤ r.st.cur.ss → 0 ≤ r'.st.cur.ss) ∧ (r.st.cur.ss ≤ 0 → r'.st.cur.ss ≤ 0))
    (fun r' o ho' ⟨h1, h2⟩ => ?_) ops r ho ⟨id, id⟩
  obtain ⟨s, olen, e0, e1, _⟩ := stepOp_process cfg r' o ho'
  obtain ⟨p1, p2⟩ := process_ss_sign cfg s olen
  rw [show s.cur.ss = r'.st.cur.ss from congrArg V.ss e0] at p1 p2
  rw [show (stepOp cfg r' o).st.cur.ss = (process cfg s olen).st.cur.ss from congrArg V.ss e1]
  exact ⟨fun h => p1 (h1 h), fun h => p2 (h2 h)⟩

/-! ### A stream that suits its stage never asks for a stage switch -/

/-- `step` lies in the octave of the stream's stage (closed at the top: the top stage keeps ratios up to the declared
    maximum; the up-sampling stream keeps everything up to ratio 1) -/
def InRange (c : Stream) : Prop :=
  if c.isD then 2147483648 ≤ c.step ∧ c.step ≤ 4294967296 else 0 < c.step ∧ c.step ≤ 8589934592

instance (c : Stream) : Decidable (InRange c) := by unfold InRange; infer_instance

theorem stageDif_inRange (s : St ρ) (h : InRange s.cur) : stageDif s = 0 := by
  unfold stageDif INT FRAC two32
  unfold InRange at h
  split
  · cases hd : s.cur.isD <;> rw [hd] at h <;> simp only [Bool.false_eq_true, if_false, if_true] at h ⊢
    · rw [if_neg (by omega)]
    · rw [if_neg (by omega), if_neg (by omega)]
  · rfl

end Soxr.Vr
