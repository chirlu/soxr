import SoxrModel.Vr.Engine
import Mathlib.Tactic.Linarith
import Mathlib.Tactic.Ring
/-!
# Lemmas for `Properties/C16.lean`: frame counts in input time; evaluating call sequences

* The engine theorems (`frames_engine_U`, `frames_engine_D`) place the last frame on the clock of the stage the engine
  runs on; here that is turned into a statement in input time, and then into one against a ratio `p/q`.
* A witness is a concrete call sequence run on the model by the kernel.  Nearly all of that work is the interpolator
  loop, one iteration per output frame.  A chunk that has all its input (every chunk of a call but the last, as a
  rule) has a closed form — the clock under a linear slew is a quadratic in the round number (`fir_full`) — so `firF`
  tests the last round of the chunk and jumps there, and falls back to the loop otherwise.  `stepOpG`, `processG`,
  `loopG`, `chunkG` are the call sequence, `vr_process`, its `while` loop and the chunk with the pieces that vary (the
  ratio function, the loop, `kernels`, the rule for `occupancy0`) as parameters, so that the current engine and its
  historical variants are all evaluated through the same `processF`.
-/
namespace Soxr.Vr
variable {ρ : Type}

/-- the phase the first request leaves on the clock (`FRAC(step) >> 1`) is non-negative and at most half a step -/
theorem half_frac (S : Int) (hS : 0 < S) : 0 ≤ FRAC S / 2 ∧ 2 * (FRAC S / 2) ≤ S ∧ FRAC S / 2 < S := by
  unfold FRAC two32; omega

/-- The up-sampling stage sees `2N` half frames; the phase `A` costs less than one frame. -/
theorem count_upsampling (K N S A : Int) (hA0 : 0 ≤ A) (hA : A < S)
    (hlast : 0 < K → A + (K - 1) * S < 2 * N * two32) (hstop : 2 * N * two32 ≤ A + K * S) :
    (0 < K → (K - 1) * S < N * (2 * two32)) ∧ N * (2 * two32) < (K + 2) * S :=
  ⟨fun h => by have := hlast h; linarith, by linarith⟩

/-- A half-band stage `k` (`P = 2^k`) sees `⌊N / P⌋` samples: the clock inequalities in samples of that stage, scaled to
    input time (`rateIn = S·4P`).  The floor costs less than one frame because a frame is at least one sample of the
    stage (`S ≥ 2³¹ = two32 / 2`, the lower end of `InRange`; two steps per frame); the phase `A` and the half step of the second sample cost the rest. -/
theorem count_halfband (K N S A P : Int) (hP : 0 < P) (hS : 2147483648 ≤ S) (hA0 : 0 ≤ A) (hA : 2 * A ≤ S)
    (hlast : 0 < K → A + (K - 1) * (2 * S) + S < N / P * two32)
    (hstop : N / P * two32 ≤ A + K * (2 * S) + S) :
    (0 < K → (K - 1) * (S * (P * 4)) < N * (2 * two32)) ∧ N * (2 * two32) < (K + 2) * (S * (P * 4)) := by
  unfold two32 at *
  have hN := Int.mul_ediv_add_emod N P
  have hr0 := Int.emod_nonneg N (Int.ne_of_gt hP)
  have hr1 := Int.emod_lt_of_pos N hP
  have hAP : 0 ≤ A * P := Int.mul_nonneg hA0 (Int.le_of_lt hP)
  have hAP' : 2 * A * P ≤ S * P := Int.mul_le_mul_of_nonneg_right hA (Int.le_of_lt hP)
  have hSP : 2147483648 * P ≤ S * P := Int.mul_le_mul_of_nonneg_right hS (Int.le_of_lt hP)
  generalize N / P = N' at *
  refine ⟨fun hK => ?_, ?_⟩
  · have := Int.mul_lt_mul_of_pos_right (hlast hK) hP
    linarith
  · have := Int.mul_le_mul_of_nonneg_right hstop (Int.le_of_lt hP)
    linarith

/-- The count against the engine's own rate, compared with a ratio `p/q` that the rate represents to within `e`
    (`|rate·q − p·2³³| ≤ e`, `2³³ = 2 · two32` written out as in the statements of `Properties/C16.lean` that this serves): the two
    bounds move by the accumulated error. -/
theorem count_vs_ratio (K N rate p q e : Int) (hK : 0 ≤ K) (hq : 0 < q) (he1 : rate * q ≤ p * 8589934592 + e)
    (he2 : p * 8589934592 ≤ rate * q + e)
    (hlo : 0 < K → (K - 1) * rate < N * 8589934592) (hhi : N * 8589934592 < (K + 2) * rate) :
    (0 < K → ((K - 1) * p - N * q) * 8589934592 < (K - 1) * e) ∧ (N * q - (K + 2) * p) * 8589934592 < (K + 2) * e := by
  refine ⟨fun h => ?_, ?_⟩
  · have a := Int.mul_lt_mul_of_pos_right (hlo h) hq
    have b := Int.mul_le_mul_of_nonneg_left he2 (show 0 ≤ K - 1 by omega)
    linarith
  · have a := Int.mul_lt_mul_of_pos_right hhi hq
    have b := Int.mul_le_mul_of_nonneg_left he1 (show 0 ≤ K + 2 by omega)
    linarith

/-- a call sequence written as maps over the block and drain lists, its last two flush calls split off, in the form the
    engine theorems take (`procOps`, `flushOps`) -/
theorem ops_split_last (r : ρ) (blocks : List (Nat × Nat)) (drain : List Nat) (o o2 : Nat) :
    [Op.ratio r 0] ++ blocks.map (fun b => Op.proc b.1 b.2) ++ (drain ++ [o, o2]).map (fun o => Op.flush o) =
      [.ratio r 0] ++ (procOps blocks ++ flushOps drain ++ [.flush o] ++ [.flush o2]) ∧
    [Op.ratio r 0] ++ blocks.map (fun b => Op.proc b.1 b.2) ++ ((drain ++ [o, o2]).map (fun o => Op.flush o)).dropLast =
      [.ratio r 0] ++ (procOps blocks ++ flushOps drain ++ [.flush o]) := by
  simp [procOps, flushOps, List.dropLast]

/-! ### A chunk that has all its input, in closed form -/

/-- `a + d ≥ 0` lies between `a ≥ 0` and `a + (n+1)·d ≥ 0` -/
theorem nonneg_next (a d : Int) (n : Nat) (h0 : 0 ≤ a) (hn : 0 ≤ a + (n + 1 : Nat) * d) : 0 ≤ a + d := by
  rcases Int.le_total 0 d with hd | hd
  · omega
  · have := Int.mul_le_mul_of_nonpos_right (show (1 : Int) ≤ (n + 1 : Nat) by omega) hd
    omega

theorem tri_succ (n : Nat) : (n + 1) * (n + 1 - 1) / 2 = n * (n - 1) / 2 + n := by
  cases n with
  | zero => rfl
  | succ m => rw [show (m + 1 + 1) * (m + 1 + 1 - 1) = (m + 1) * (m + 1 - 1) + (m + 1) * 2 by simp; ring,
      Nat.add_mul_div_right _ _ (by decide)]

/-- the stream after `n` rounds of `Stream.next d`: `step` is linear in the round number, so the clock (one advance a
    round, two for a pair of `poly_fir_d`) is a quadratic -/
def Stream.adv (d : Bool) (s : Stream) (n : Nat) : Stream :=
  { s with clk := s.clk + (if d then 2 else 1) * (n * s.step + (n * (n - 1) / 2 : Nat) * s.ss), step := s.step + n * s.ss }

theorem Stream.adv_zero (d : Bool) (s : Stream) : s.adv d 0 = s := by
  cases s; simp [Stream.adv]

theorem Stream.adv_succ (d : Bool) (s : Stream) (n : Nat) : (s.next d).adv d n = s.adv d (n + 1) := by
  cases d <;>
    simp only [Stream.adv, Stream.next, if_true, Bool.false_eq_true, if_false, Stream.mk.injEq, and_true, tri_succ] <;>
    exact ⟨by push_cast; ring, by push_cast; ring⟩

/-- with `step ≥ 0` the round reads behind the next one -/
theorem Stream.ok_of_next {d : Bool} {s : Stream} (h0 : 0 ≤ s.step) (h : (s.next d).ok d) : s.ok d := by
  cases d
  · exact ⟨Int.lt_of_le_of_lt (INT_mono (show s.clk ≤ s.clk + s.step by omega)) h.1, fun x => absurd x (by decide)⟩
  · have := Int.lt_of_le_of_lt (INT_mono (show s.clk + s.step ≤ s.clk + s.step + s.step by omega)) h.1
    exact ⟨Int.lt_of_le_of_lt (INT_mono (by omega)) this, fun _ => this⟩

/-- **`n + 1` rounds in one step.**  If `step` is non-negative at both ends of the chunk (so throughout: it is linear in
    the round number) every round reads behind the next, and the last round having its input means every round has. -/
theorem fir_full (d : Bool) (n : Nat) : ∀ s : Stream, 0 ≤ s.step → 0 ≤ s.step + n * s.ss → (s.adv d n).ok d →
    s.ok d ∧ fir d s (n + 1) = (s.adv d (n + 1), n + 1) := by
  induction n with
  | zero =>
    intro s _ _ h
    rw [Stream.adv_zero] at h
    exact ⟨h, by rw [fir, iterWhile_succ h, iterWhile_zero, ← Stream.adv_succ, Stream.adv_zero]⟩
  | succ n ih =>
    intro s h0 hn h
    rw [← Stream.adv_succ] at h
    obtain ⟨hk, e⟩ := ih (s.next d) (nonneg_next _ _ n h0 hn)
      (by show 0 ≤ s.step + s.ss + n * s.ss; push_cast at hn; linarith) h
    have hs := Stream.ok_of_next h0 hk
    exact ⟨hs, by rw [fir] at e ⊢; rw [iterWhile_succ hs, e, Stream.adv_succ]⟩

/-! ### The interpolation part of a chunk, jumping over full chunks -/

/-- the loop of a stream of kind `d`: test the last round, jump there, or else run the model's loop -/
def firF (d : Bool) (s : Stream) : Nat → Stream × Nat
  | 0 => (s, 0)
  | m + 1 =>
    if 0 ≤ s.step ∧ 0 ≤ s.step + m * s.ss ∧ (s.adv d m).ok d then (s.adv d (m + 1), m + 1)
    else if d then firDPairs s (m + 1) else firU s (m + 1)

theorem firF_eq (d : Bool) (s : Stream) (n : Nat) : firF d s n = fir d s n := by
  cases n with
  | zero => rfl
  | succ m =>
    simp only [firF]
    split
    · rename_i h; exact (fir_full d m s h.1 h.2.1 h.2.2).2.symm
    · cases d
      · exact firU_eq_fir s _
      · exact firDPairs_eq_fir s _

/-- `poly_fir_d` (`d = true`) and `poly_fir_fade_u`: two output samples a round -/
def firF2 (d : Bool) (s : Stream) (olen : Nat) : Stream × Nat :=
  let r := firF d s ((olen + 1) / 2)
  (r.1, 2 * r.2)

def fadeStreamsF (c f : Stream) (olen2 : Nat) : Stream × Stream × Nat × Nat :=
  if c.isD && f.isD then
    let a := firF2 true c olen2; let b := firF2 true f a.2; (a.1, b.1, a.2, b.2)
  else if c.isD then
    let a := firF2 true c olen2; let b := firF2 false f a.2; (a.1, b.1, a.2, b.2)
  else
    let a := firF2 true f olen2; let b := firF2 false c a.2; (b.1, a.1, a.2, b.2)

/-- `kernels` with the loops replaced by their jumping versions -/
def kernelsF (s : St ρ) (olen mn mx : Int) : KRes ρ :=
  if s.fade ≠ 0 then
    let olen := min olen (s.fade / 2)
    let x := fadeStreamsF s.cur s.fo (2 * olen).toNat
    let fade := s.fade - x.2.2.1
    let done : Bool := decide (fade = 0)
    { st := { s with cur := x.1, fo := x.2.1, fade := fade, sw := if done && s.inc then mn else s.sw },
      olen := olen, od := x.2.2.1 / 2,
      mn := if done && s.inc then mn + 1 else mn,
      mx := if done && !s.inc then mx - 1 else mx,
      mis := x.2.2.1 != x.2.2.2 }
  else if s.cur.isD then
    let a := firF2 true s.cur (2 * olen).toNat
    { st := { s with cur := a.1 }, olen := olen, od := a.2 / 2, mn := mn, mx := mx, mis := false }
  else
    let a := firF false s.cur olen.toNat
    { st := { s with cur := a.1 }, olen := olen, od := a.2, mn := mn, mx := mx, mis := false }

theorem kernelsF_eq : @kernelsF ρ = kernels := by
  have hD : firF2 true = firD := by funext s n; simp only [firF2, firD, firF_eq, firDPairs_eq_fir]
  have hU : firF2 false = fadeU := by funext s n; simp only [firF2, fadeU, firF_eq, fadeUIter_eq_fir]
  have hF : fadeStreamsF = fadeStreams := by funext c f n; simp only [fadeStreamsF, fadeStreams, hD, hU]
  funext s olen mn mx
  simp only [kernelsF, kernels, hD, hF, firF_eq, firU_eq_fir]

/-! ### `vr_process` and call sequences over a given chunk -/

/-- one iteration of the `while` loop with `kf` for `kernels`; `rule a dif occ` is the value of `occupancy0` that
    `enter_new_stage` is called with at a stage switch (`switchOcc` in the current code) -/
def chunkG (kf : St ρ → Int → Int → Int → KRes ρ) (rule : St ρ → Int → Int → Int) (cfg : Cfg ρ) (olen0 : Nat)
    (l : LoopSt ρ) : LoopSt ρ × Bool :=
  let a := chunkStart cfg l.st (olen0 - l.od0)
  let dif := stageDif a.1
  let sw := doesSwitch a.1
  let s := if sw then switchStage a.1 dif (rule a.1 dif l.occ) else a.1
  let k := kf s a.2 (chunkMn l dif) (chunkMx l dif (decide (a.1.cur.sn + dif < a.1.ns)))
  ({ chunkFinish l sw (sw && negLeftShift a.1 dif) k with occ := if sw then rule a.1 dif l.occ else l.occ },
   decide ((k.od : Int) = k.olen))

def loopG (ch : LoopSt ρ → LoopSt ρ × Bool) (olen0 : Nat) : Nat → LoopSt ρ → LoopSt ρ
  | 0, l => l
  | f + 1, l =>
    if l.od0 < olen0 then
      let r := ch l
      if r.2 then loopG ch olen0 f r.1 else r.1
    else l

/-- `vr_process` around a given `while` loop (`lp olen0 fuel`) -/
def processG (lp : Nat → Nat → LoopSt ρ → LoopSt ρ) (cfg : Cfg ρ) (s : St ρ) (olen0 : Nat) : PRes ρ :=
  let p := preLoop cfg s olen0
  let l := lp olen0 (olen0 + 1) p.1
  let s := post l.st l.mn l.mx
  { st := { s with oocc := s.oocc - ((olen0 : Int) - l.od0) }, od := l.od0, nsw := l.nsw, nmis := l.nmis, nneg := l.nneg,
    nshl := l.nshl }

/-- `vr_process` with the jumping chunk -/
def processF (rule : St ρ → Int → Int → Int) (cfg : Cfg ρ) : St ρ → Nat → PRes ρ :=
  processG (fun olen0 => loopG (chunkG kernelsF rule cfg olen0) olen0) cfg

/-- a `vr_process` whose `while` loop `lp` satisfies the two equations of the loop over a chunk `ch` that is the model's
    with `rule` for `switchOcc` is `processF rule` -/
theorem processG_eq_processF (rule : St ρ → Int → Int → Int) (cfg : Cfg ρ) (ch : Nat → LoopSt ρ → LoopSt ρ × Bool)
    (lp : Nat → Nat → LoopSt ρ → LoopSt ρ) (hc : ∀ olen0 l, ch olen0 l = chunkG kernels rule cfg olen0 l)
    (h0 : ∀ olen0 l, lp olen0 0 l = l)
    (hs : ∀ olen0 f l, lp olen0 (f + 1) l =
      if l.od0 < olen0 then (if (ch olen0 l).2 then lp olen0 f (ch olen0 l).1 else (ch olen0 l).1) else l) :
    processG lp cfg = processF rule cfg := by
  have : lp = fun olen0 => loopG (chunkG kernelsF rule cfg olen0) olen0 := by
    funext olen0 f
    induction f with
    | zero => funext l; exact h0 olen0 l
    | succ f ih => funext l; rw [hs, ih, hc, ← kernelsF_eq]; rfl
  rw [this]; rfl

theorem process_eq_processF (cfg : Cfg ρ) : process cfg = processF (fun a dif occ => switchOcc a dif occ) cfg :=
  processG_eq_processF _ cfg (chunk cfg) (loop cfg) (fun _ _ => rfl) (fun _ _ => rfl) (fun _ _ _ => rfl)

/-- one call of a sequence, given `vr_set_io_ratio` and `vr_process` -/
def stepOpG (setR : St ρ → ρ → Nat → St ρ) (proc : St ρ → Nat → PRes ρ) (r : Run ρ) : Op ρ → Run ρ
  | .ratio x slew => { r with st := setR r.st x slew }
  | .proc ilen olen => r.after (proc (input r.st ilen) olen) olen
  | .flush olen => r.after (proc (flush r.st) olen) olen

/-- a call sequence on the current engine, evaluated with the jumping chunk -/
theorem run_eq_fast (cfg : Cfg ρ) (r : Run ρ) (ops : List (Op ρ)) :
    run cfg r ops = ops.foldl (stepOpG (setIoRatio cfg) (processF (fun a dif occ => switchOcc a dif occ) cfg)) r := by
  have hs : stepOp cfg = stepOpG (setIoRatio cfg) (process cfg) := by funext r o; cases o <;> rfl
  rw [← process_eq_processF, ← hs]; rfl

end Soxr.Vr
