import SoxrModel.Vr.Arith
import Mathlib.Tactic.Linarith
/-!
# Output count of the constant-step clock against `N / ratio`

Pure arithmetic (the clock facts come from `firU_const` / `firDPairs_const`): if the `k`-th output was the last one
with input — `A + (k−1)·S < N·2³² ≤ A + k·S`, `0 ≤ A < S` — then `k` is within one frame of `N·2³²/S`; and if `S` is
the rounded `r·2³²` for `r = p/q` and `k` stays below the clock's resolution (`(k+1)/r ≤ 2³²`), within two frames of
`N/r`.
-/
namespace Soxr.Vr

theorem count_vs_effective_ratio (k N S A : Int) (hA0 : 0 ≤ A) (hA : A < S)
    (hlast : 0 < k → A + (k - 1) * S < N * 4294967296) (hstop : N * 4294967296 ≤ A + k * S) :
    (0 < k → (k - 1) * S < N * 4294967296) ∧ N * 4294967296 < (k + 1) * S := by
  constructor
  · intro hk
    have := hlast hk
    linarith
  · linarith

theorem count_within_two (k N S A p q : Int) (_hS : 0 < S) (hA0 : 0 ≤ A) (hA : A < S) (hk : 0 ≤ k) (hN : 0 ≤ N)
    (hp : 0 < p) (hq : 0 < q)
    (hlast : 0 < k → A + (k - 1) * S < N * two32) (hstop : N * two32 ≤ A + k * S)
    (hr1 : S * q - p * two32 ≤ q) (hr2 : p * two32 - S * q ≤ q)
    (hres : (k + 1) * q ≤ p * two32) :
    k * p - N * q < 2 * p ∧ N * q - k * p < 2 * p := by
  unfold two32 at *
  constructor
  · by_cases h : k = 0
    · subst h
      have := mul_nonneg hN (le_of_lt hq)
      linarith
    · have h1 := hlast (by omega)
      -- the last frame's inequality times `q`, and `S·q ≥ p·2³² − q` times `k − 1`
      have e1 := mul_lt_mul_of_pos_right h1 hq
      have e2 := mul_le_mul_of_nonneg_left (show p * 4294967296 - q ≤ S * q by linarith) (show 0 ≤ k - 1 by omega)
      have e3 := mul_nonneg hA0 (le_of_lt hq)
      linarith
  · -- the stop inequality times `q`, and `S·q ≤ p·2³² + q` times `k`
    have e1 := mul_le_mul_of_nonneg_right hstop (le_of_lt hq)
    have e2 := mul_le_mul_of_nonneg_left (show S * q ≤ p * 4294967296 + q by linarith) (show 0 ≤ k by omega)
    have e3 := mul_lt_mul_of_pos_right hA hq
    linarith

end Soxr.Vr
