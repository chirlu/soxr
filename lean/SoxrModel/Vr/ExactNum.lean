import SoxrModel.Vr.Lemmas
import Mathlib.Tactic.IntervalCases
/-!
# The stage the first request chooses suits its increment — for the exact evaluation `Num.exact`

`frames_full_engine` assumes `InRange`: the increment `(int64)(io_ratio * step_mult + .5)` lies in the octave of the stage
chosen by `(int)floor(log(io_ratio) / M_LN2)`.  That is a fact about the floating-point evaluation.  For `Num.exact`
(exact dyadic arithmetic on the bit patterns, which the driver compares with IEEE arithmetic at every ratio) it is
proved here for every normal ratio `2⁻⁶ ≤ r ≤ max`, `max < 2³¹`.
-/
namespace Soxr.Vr

/-- `⌊m·mult / 2^a + 1/2⌋`: what `exactStepOf` computes for mantissa `m` and exponent `−a` -/
def stepNeg (m a mult : Nat) : Nat := (2 * m * mult + 2 ^ a) / 2 ^ (a + 1)

/-- a normal double of octave `52 − a < 52`: mantissa `2⁵² + fraction`, exponent `−a` -/
theorem exactStepOf_normal (bits mult a : Nat) (h : 1 ≤ (bits / 2 ^ 52) % 2048) (ha : 0 < a)
    (ho : exactOctave bits = 52 - (a : Int)) : exactStepOf bits mult = (stepNeg (bits % 2 ^ 52 + 2 ^ 52) a mult : Nat) := by
  unfold exactOctave at ho
  unfold exactStepOf decode stepNeg
  simp only at ho ⊢
  rw [if_neg (show ¬ bits / 2 ^ 52 % 2048 = 0 by omega)]
  simp only
  rw [if_neg (by omega), show (-(((bits / 2 ^ 52 % 2048 : Nat) : Int) - 1075)).toNat = a by omega]

/-- a power of two common to the multiplier and the divisor cancels -/
theorem stepNeg_scale (m a mult e : Nat) : stepNeg m (a + e) (mult * 2 ^ e) = stepNeg m a mult := by
  unfold stepNeg
  rw [show 2 * m * (mult * 2 ^ e) + 2 ^ (a + e) = (2 * m * mult + 2 ^ a) * 2 ^ e by
        rw [Nat.add_mul, Nat.pow_add, Nat.mul_assoc (2 * m)],
      show 2 ^ (a + e + 1) = 2 ^ (a + 1) * 2 ^ e by rw [← Nat.pow_add]; congr 1; omega]
  exact Nat.mul_div_mul_right _ _ (Nat.pow_pos (by decide))

theorem stageMult_half (o : Nat) (ho : o ≤ 30) : stageMult (o : Int) / 2 = 2 ^ (31 - o) := by
  interval_cases o <;> decide

theorem stageMult_neg_one : stageMult (-1) = 8589934592 := by decide

/-- down-sampling stage `o`, ratio in `[2^o, 2^(o+1))`: the increment is `m / 2²¹` rounded, in `[2³¹, 2³²]` -/
theorem stepNeg_stage (o : Nat) (ho : o ≤ 30) (m : Nat) (h1 : 2 ^ 52 ≤ m) (h2 : m < 2 ^ 53) :
    2147483648 ≤ stepNeg m (52 - o) (2 ^ (31 - o)) ∧ stepNeg m (52 - o) (2 ^ (31 - o)) ≤ 4294967296 := by
  rw [show 52 - o = 21 + (31 - o) by omega, ← Nat.one_mul (2 ^ (31 - o)), stepNeg_scale]
  unfold stepNeg
  omega

/-- the ratio exactly `2^(o+1)` rendered on stage `o` (the top stage of an engine whose maximum is that power of two) -/
theorem stepNeg_top (o : Nat) (ho : o ≤ 30) : stepNeg (2 ^ 52) (52 - (o + 1)) (2 ^ (31 - o)) = 4294967296 := by
  rw [show 52 - (o + 1) = 20 + (31 - o) by omega, ← Nat.one_mul (2 ^ (31 - o)), stepNeg_scale]
  decide

/-- up-sampling stage, ratio in `[2^-a', 2^(1-a'))` with `1 ≤ a' ≤ 6`: the increment is in `(0, 2³³]` -/
theorem stepNeg_up (a' : Nat) (h1 : 1 ≤ a') (h6 : a' ≤ 6) (m : Nat) (hm1 : 2 ^ 52 ≤ m) (hm2 : m < 2 ^ 53) :
    0 < stepNeg m (52 + a') 8589934592 ∧ stepNeg m (52 + a') 8589934592 ≤ 8589934592 := by
  rw [show 52 + a' = 19 + a' + 33 by omega, show 8589934592 = 1 * 2 ^ 33 by decide, stepNeg_scale]
  unfold stepNeg
  interval_cases a' <;> omega

/-- ratio exactly 1.0 on the up-sampling stage (declared maximum 1) -/
theorem stepNeg_one : stepNeg (2 ^ 52) 52 8589934592 = 8589934592 := by decide

/-- what the first `vr_set_io_ratio(r, 0)` stores -/
theorem first_ratio_fields {ρ : Type} (cfg : Cfg ρ) (s : St ρ) (r x : ρ) (hd : s.defR = some x) :
    (setIoRatio cfg s r 0).cur.sn = (if cfg.num.octave r < 0 then -1 else min (cfg.num.octave r) ((s.ns0 : Int) - 1)) ∧
    (setIoRatio cfg s r 0).cur.isD = decide ((setIoRatio cfg s r 0).cur.sn ≥ 0) ∧
    (setIoRatio cfg s r 0).cur.mult =
      (if (setIoRatio cfg s r 0).cur.sn ≥ 0 then stageMult (setIoRatio cfg s r 0).cur.sn / 2 else stageMult (setIoRatio cfg s r 0).cur.sn) ∧
    (setIoRatio cfg s r 0).cur.step = cfg.num.stepOf r (setIoRatio cfg s r 0).cur.mult := by
  rw [setIoRatio_first cfg s r x hd]
  exact ⟨rfl, rfl, by simp [setStep, enterStream], rfl⟩

/-- for bit patterns of positive doubles the octave is the exponent field (no sign bit to mask) -/
theorem exactOctave_eq (bits : Nat) (h : bits < 2 ^ 63) : exactOctave bits = ((bits / 2 ^ 52 : Nat) : Int) - 1023 := by
  unfold exactOctave; simp only; omega

/-- a ratio whose octave the engine has no stage for can only be the declared maximum itself, a power of two -/
theorem clamped_is_max (mx r k : Nat) (hmx : mx < 2 ^ 63) (hle : r ≤ mx) (hk : exactOctave r = (k : Int))
    (hfit : ¬ k + 1 ≤ exactNumStages mx) : exactNumStages mx = k ∧ r % 2 ^ 52 = 0 := by
  rw [exactOctave_eq r (by omega)] at hk
  unfold exactNumStages at hfit ⊢
  rw [exactOctave_eq mx hmx] at hfit ⊢
  have := Nat.div_le_div_right (c := 2 ^ 52) hle
  simp only at hfit ⊢
  split at hfit
  · omega
  · split at hfit
    · rename_i h0 hz; rw [if_neg h0, if_pos hz]; omega
    · omega

/-- **The stage chosen by the octave suits the increment** (exact evaluation): for every normal double `r` with
    `2⁻⁶ ≤ r ≤ max` and `max < 2³¹` the first request starts on a stage in whose octave the stored increment lies — the
    hypothesis `InRange` of `frames_full_engine` holds.  (Positive doubles are ordered as their bit patterns.) -/
theorem inRange_exact (mx r : Nat) (hmx : mx < 2 ^ 63) (hle : r ≤ mx) (hnorm : 1 ≤ (r / 2 ^ 52) % 2048)
    (hlo : -6 ≤ exactOctave r) (hhi : exactOctave mx ≤ 30) :
    InRange (setIoRatio ({ num := Num.exact } : Cfg Nat) (init { num := Num.exact } mx) r 0).cur := by
  obtain ⟨h1, h2, h3, h4⟩ := first_ratio_fields ({ num := Num.exact } : Cfg Nat) (init { num := Num.exact } mx) r mx rfl
  generalize setIoRatio _ _ r 0 = s0 at *
  replace h1 : s0.cur.sn = if exactOctave r < 0 then -1 else min (exactOctave r) ((exactNumStages mx : Int) - 1) := h1
  replace h4 : s0.cur.step = exactStepOf r s0.cur.mult := h4
  have hm1 : 2 ^ 52 ≤ r % 2 ^ 52 + 2 ^ 52 := Nat.le_add_left _ _
  have hm2 : r % 2 ^ 52 + 2 ^ 52 < 2 ^ 53 := by omega
  have hoo : exactOctave r ≤ 30 := by
    have := Nat.div_le_div_right (c := 2 ^ 52) hle
    rw [exactOctave_eq r (by omega)]; rw [exactOctave_eq mx hmx] at hhi; omega
  -- the stage, and the increment on it as a rounded quotient
  suffices ∃ a m : Nat, 0 < a ∧ exactOctave r = 52 - (a : Int) ∧
      ((s0.cur.sn = -1 ∧ 0 < stepNeg m a 8589934592 ∧ stepNeg m a 8589934592 ≤ 8589934592) ∨
       (∃ j : Nat, j ≤ 30 ∧ s0.cur.sn = (j : Int) ∧ 2147483648 ≤ stepNeg m a (2 ^ (31 - j)) ∧ stepNeg m a (2 ^ (31 - j)) ≤ 4294967296)) ∧
      m = r % 2 ^ 52 + 2 ^ 52 by
    obtain ⟨a, m, ha, ho, hcase, rfl⟩ := this
    unfold InRange
    rw [h2, h4, h3]
    rcases hcase with ⟨hsn, u⟩ | ⟨j, hj, hsn, u⟩
    · rw [hsn, if_neg (by decide), if_neg (by decide), stageMult_neg_one, exactStepOf_normal r _ a hnorm ha ho]
      omega
    · rw [hsn, if_pos (decide_eq_true (by omega)), if_pos (by omega), stageMult_half j hj, exactStepOf_normal r _ a hnorm ha ho]
      omega
  by_cases hneg : exactOctave r < 0
  · obtain ⟨a', ha'⟩ : ∃ a' : Nat, exactOctave r = -(a' : Int) := ⟨(-exactOctave r).toNat, by omega⟩
    exact ⟨52 + a', _, by omega, by omega, .inl ⟨by rw [h1, if_pos hneg], stepNeg_up a' (by omega) (by omega) _ hm1 hm2⟩, rfl⟩
  · obtain ⟨k, hk⟩ : ∃ k : Nat, exactOctave r = (k : Int) := ⟨(exactOctave r).toNat, by omega⟩
    rw [if_neg hneg, hk] at h1
    refine ⟨52 - k, _, by omega, by omega, ?_, rfl⟩
    by_cases hfit : k + 1 ≤ exactNumStages mx
    · exact .inr ⟨k, by omega, by rw [h1]; exact Int.min_eq_left (by omega), stepNeg_stage k (by omega) _ hm1 hm2⟩
    · -- clamped to the top stage: only for `r = max = 2^k`
      obtain ⟨n1, n2⟩ := clamped_is_max mx r k hmx hle hk hfit
      rw [n1, Int.min_eq_right (by omega)] at h1
      rw [n2, Nat.zero_add]
      cases k with
      | zero => exact .inl ⟨h1, by rw [stepNeg_one]; decide⟩
      | succ j => exact .inr ⟨j, by omega, by rw [h1]; omega, by rw [stepNeg_top j (by omega)]; decide⟩

end Soxr.Vr
