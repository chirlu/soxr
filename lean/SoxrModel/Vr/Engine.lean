import SoxrModel.Vr.Lemmas
/-!
# The whole engine at a constant ratio: how many frames come out of `N` frames of input

`Vr/Frames.lean` counts the outputs of the interpolator *clock* given its `len`.  This file supplies the rest of the
engine for a state in which nothing is outstanding and the current stage suits the ratio (so that no stage switch is
ever taken): `vr_input`, the half-band chain of `do_input_stage` with its preloads, `occupancy0`, the chunked `while`
loop, the hand-back of consumed input (`fifo_read` on every stage, clock rebased), `vr_flush`.

* one `vr_process` call runs the interpolator exactly as ONE call of `poly_fir_d` / `poly_fir_u` with `olen0` would
  (`loop_steady`): chunking is invisible at a constant ratio; what such a call does is `process_steady`, for either kind
  of stream;
* the clock bookkeeping of a call is the same for both kinds, in units of the hand-back (`clock_handback`);
* the occupancy of stage `j` of the chain is a fixed function of the input so far (`fed`, after the flush `fedF`) minus
  what the interpolator consumed, scaled to that stage (`Chain`); after the flush stage `k` has been fed
  `480 + ⌊N / 2^k⌋` samples, so the interpolator's absolute limit is `⌊N / 2^k⌋` samples of its stage;
* hence the absolute clock (`consumed · 2³² + at`) satisfies the two clock inequalities (`hlast`, `hstop` of
  `count_halfband` / `count_upsampling`, `Vr/C16Lemmas.lean`) with the whole input `N`, for every blocking of input and output requests (`Eng`, `EngU`;
  `frames_engine_D`, `frames_engine_U`).
-/
namespace Soxr.Vr
variable {ρ : Type}

/-- nothing outstanding, no cross-fade, and the stream suits its stage -/
def Steady (s : St ρ) : Prop :=
  s.slew = 0 ∧ s.newR = none ∧ s.fade = 0 ∧ s.cur.ss = 0 ∧ InRange s.cur

/-- a loop of a steady engine's stream leaves it steady: at `step_step = 0` only the clock moves -/
theorem Steady.fir {s : St ρ} (h : Steady s) (d : Bool) (n : Nat) : Steady { s with cur := (fir d s.cur n).1 } := by
  obtain ⟨h1, h2, h3, h4, h5⟩ := h
  rw [fir_const_state d n s.cur h4]
  exact ⟨h1, h2, h3, h4, h5⟩

/-! ### One chunk, and the whole `while` loop, of a steady engine -/

/-- `l'` is `l` with its stream run to `X.1`, delivering `X.2` frames: nothing else that the loop carries has changed
    (the ghost counters `nneg`, `nshl` aside) -/
def LoopSt.ranTo (l l' : LoopSt ρ) (X : Stream × Nat) : Prop :=
  l'.st = { l.st with cur := X.1 } ∧ l'.od0 = l.od0 + X.2 ∧ l'.mn = l.mn ∧ l'.mx = l.mx ∧ l'.occ = l.occ ∧
  l'.nsw = l.nsw ∧ l'.nmis = l.nmis

/-- a chunk of a steady engine: the interpolator loop for `min(remaining, 64)` frames and nothing else; the `while` loop
    goes on iff all of them were delivered -/
theorem chunk_steady (cfg : Cfg ρ) (olen0 : Nat) (l : LoopSt ρ) (h : Steady l.st) :
    l.ranTo (chunk cfg olen0 l).1 (fir l.st.cur.isD l.st.cur (min (olen0 - l.od0) chunkMax)) ∧
    (chunk cfg olen0 l).2 =
      decide ((fir l.st.cur.isD l.st.cur (min (olen0 - l.od0) chunkMax)).2 = min (olen0 - l.od0) chunkMax) := by
  obtain ⟨h1, h2, h3, h4, h5⟩ := h
  have hdif := stageDif_inRange l.st h5
  have hm : min (((olen0 - l.od0 : Nat) : Int)) (chunkMax : Int) = ((min (olen0 - l.od0) chunkMax : Nat) : Int) := by omega
  unfold chunk LoopSt.ranTo
  rw [chunkStart_idle cfg l.st _ h1 h2]
  simp only [doesSwitch, hdif, ne_eq, not_true_eq_false, false_and, decide_false, Bool.false_eq_true, if_false, Bool.false_and]
  rw [kernels_nofade _ _ _ _ h3, hm, Int.toNat_natCast]
  simp [chunkFinish, chunkMn, chunkMx, h1]
  omega

theorem LoopSt.ranTo.trans {l l1 l2 : LoopSt ρ} {X Y : Stream × Nat} (h1 : l.ranTo l1 X) (h2 : l1.ranTo l2 Y) :
    l.ranTo l2 (Y.1, X.2 + Y.2) :=
  ⟨by rw [h2.1, h1.1], by rw [h2.2.1, h1.2.1, Nat.add_assoc], h2.2.2.1.trans h1.2.2.1, h2.2.2.2.1.trans h1.2.2.2.1,
    h2.2.2.2.2.1.trans h1.2.2.2.2.1, h2.2.2.2.2.2.1.trans h1.2.2.2.2.2.1, h2.2.2.2.2.2.2.trans h1.2.2.2.2.2.2⟩

/-- **Chunking is invisible at a constant ratio.**  The `while` loop of one `vr_process` call — chunks of at most 64
    frames, stopping at the first chunk that runs out of input — leaves the engine exactly where ONE interpolator loop
    over all the frames still wanted would: same clock, same count; nothing else moves. -/
theorem loop_steady (cfg : Cfg ρ) (olen0 : Nat) : ∀ (f : Nat) (l : LoopSt ρ), Steady l.st → olen0 - l.od0 < f →
    l.ranTo (loop cfg olen0 f l) (fir l.st.cur.isD l.st.cur (olen0 - l.od0)) := by
  intro f
  induction f with
  | zero => intro l _ hf; omega
  | succ f ih =>
    intro l hs hf
    by_cases hlt : l.od0 < olen0
    · obtain ⟨c, c8⟩ := chunk_steady cfg olen0 l hs
      rw [loop_of_lt cfg olen0 f l hlt, c8]
      have hmpos : 0 < min (olen0 - l.od0) chunkMax := Nat.lt_min.mpr ⟨Nat.sub_pos_of_lt hlt, by decide⟩
      have hmle : min (olen0 - l.od0) chunkMax ≤ olen0 - l.od0 := Nat.min_le_left _ _
      generalize min (olen0 - l.od0) chunkMax = m at c hmpos hmle ⊢
      by_cases hfull : (fir l.st.cur.isD l.st.cur m).2 = m
      · -- a full chunk, then (by induction) one loop over the rest: together one loop (`iterWhile_add`)
        rw [decide_eq_true hfull, if_pos rfl]
        have h2 := ih (chunk cfg olen0 l).1 (by rw [c.1]; exact hs.fir _ m) (by rw [c.2.1]; omega)
        rw [show (chunk cfg olen0 l).1.st.cur = (fir l.st.cur.isD l.st.cur m).1 by rw [c.1], (fir_spec _ m _).2.2.2.2.1,
          show olen0 - (chunk cfg olen0 l).1.od0 = olen0 - l.od0 - m by rw [c.2.1]; omega] at h2
        have h := c.trans h2
        rw [hfull] at h
        rw [show olen0 - l.od0 = m + (olen0 - l.od0 - m) by omega, fir, iterWhile_add _ m _ hfull]
        exact h
      · -- the chunk ran dry, and so would the one loop, at the same place (`iterWhile_stuck`)
        rw [decide_eq_false hfull, if_neg (by simp)]
        have := iterWhile_count_le (g := Stream.ok l.st.cur.isD) (f := Stream.next l.st.cur.isD) l.st.cur m
        rw [fir, iterWhile_stuck l.st.cur m (olen0 - l.od0) (by unfold fir at hfull; omega) hmle]
        exact c
    · rw [loop_of_ge cfg olen0 l hlt, show olen0 - l.od0 = 0 by omega]
      exact ⟨rfl, rfl, rfl, rfl, rfl, rfl, rfl⟩

/-- `loop_steady` in the model's own loops.  The down-sampling stream: one `poly_fir_d`, -/
theorem loop_steadyD (cfg : Cfg ρ) (olen0 : Nat) : ∀ (f : Nat) (l : LoopSt ρ), Steady l.st → l.st.cur.isD = true →
    olen0 - l.od0 < f →
    (loop cfg olen0 f l).st = { l.st with cur := (firDPairs l.st.cur (olen0 - l.od0)).1 } ∧
    (loop cfg olen0 f l).od0 = l.od0 + (firDPairs l.st.cur (olen0 - l.od0)).2 ∧
    (loop cfg olen0 f l).mn = l.mn ∧ (loop cfg olen0 f l).mx = l.mx ∧ (loop cfg olen0 f l).occ = l.occ ∧
    (loop cfg olen0 f l).nsw = l.nsw ∧ (loop cfg olen0 f l).nmis = l.nmis := by
  intro f l hs hd hf
  rw [firDPairs_eq_fir, ← hd]
  exact loop_steady cfg olen0 f l hs hf

/-- the up-sampling stream: one `poly_fir_u`. -/
theorem loop_steadyU (cfg : Cfg ρ) (olen0 : Nat) : ∀ (f : Nat) (l : LoopSt ρ), Steady l.st → l.st.cur.isD = false →
    olen0 - l.od0 < f →
    (loop cfg olen0 f l).st = { l.st with cur := (firU l.st.cur (olen0 - l.od0)).1 } ∧
    (loop cfg olen0 f l).od0 = l.od0 + (firU l.st.cur (olen0 - l.od0)).2 ∧
    (loop cfg olen0 f l).mn = l.mn ∧ (loop cfg olen0 f l).mx = l.mx ∧ (loop cfg olen0 f l).occ = l.occ ∧
    (loop cfg olen0 f l).nsw = l.nsw ∧ (loop cfg olen0 f l).nmis = l.nmis := by
  intro f l hs hd hf
  rw [firU_eq_fir, ← hd]
  exact loop_steady cfg olen0 f l hs hf

/-! ### One `vr_process` call of a steady engine -/

/-- a steady engine after the `do_input_stage` loop of `vr_process` (from the default ratio to
    `if (p->flushing > 0) p->flushing = -1`; without a cross-fade the stages in use are those between stage 0 and the
    current one) -/
def fedSt (s : St ρ) (olen0 : Nat) : St ρ :=
  let t := inputStages { s with oocc := s.oocc + olen0 } s.cur.sn (intRange (min s.cur.sn 0) s.cur.sn)
  if t.fl > 0 then { t with fl := -1 } else t

theorem fedSt_ctl (s : St ρ) (olen0 : Nat) :
    (fedSt s olen0).ctl = { s.ctl with oocc := s.oocc + olen0, fl := if s.fl > 0 then -1 else s.fl } := by
  unfold fedSt
  generalize ht : inputStages _ _ _ = t
  have hc : t.ctl = ({ s with oocc := s.oocc + olen0 } : St ρ).ctl := by rw [← ht, inputStages_ctl]
  have hfl : t.fl = s.fl := congrArg Ctl.fl hc
  dsimp only
  rw [hfl]
  split
  · exact congrArg (fun c : Ctl ρ => { c with fl := -1 }) hc
  · exact hc

theorem fedSt_stages (s : St ρ) (olen0 : Nat) : (fedSt s olen0).stages =
    (inputStages { s with oocc := s.oocc + olen0 } s.cur.sn (intRange (min s.cur.sn 0) s.cur.sn)).stages := by
  unfold fedSt; dsimp only; split <;> rfl

/-- **One `vr_process` call of a steady engine**: the chain is fed, `occupancy0` and `len` are taken from the current
    stage, the interpolator loop runs ONCE over all `olen0` frames, the consumed input is handed back; no stage switch,
    no mismatch. -/
theorem process_steady (cfg : Cfg ρ) (s : St ρ) (olen0 : Nat) (h : Steady s) (hd : s.defR = none) (sn L : Int) (d : Bool)
    (hsn : s.cur.sn = sn) (hisd : s.cur.isD = d)
    (hL : shiftr (shiftl (max 0 (((fedSt s olen0).stg sn).occ - 4 * (H2 : Int))) sn) sn = L) :
    ∃ X p, X = fir d { s.cur with len := L } olen0 ∧ p = post { fedSt s olen0 with cur := X.1 } sn sn ∧
    (process cfg s olen0).st = { p with oocc := p.oocc - ((olen0 : Int) - X.2) } ∧
    (process cfg s olen0).od = X.2 ∧ (process cfg s olen0).nsw = 0 ∧ (process cfg s olen0).nmis = 0 := by
  subst hsn hisd hL
  refine ⟨_, _, rfl, rfl, ?_⟩
  generalize ht : fedSt s olen0 = t
  generalize hocc0 : shiftl (max 0 ((t.stg s.cur.sn).occ - 4 * (H2 : Int))) s.cur.sn = occ0
  obtain ⟨h1, h2, h3, h4, h5⟩ := h
  have hc := fedSt_ctl s olen0
  rw [ht] at hc
  have hcur : t.cur = s.cur := congrArg Ctl.cur hc
  have hf : ¬ (s.fade ≠ 0) := by rw [h3]; simp
  have hft : ¬ (t.fade ≠ 0) := by rw [show t.fade = s.fade from congrArg Ctl.fade hc]; exact hf
  have hpre : (preLoop cfg s olen0).1 =
      { st := { t with cur := { s.cur with len := shiftr occ0 s.cur.sn } }, mn := s.cur.sn, mx := s.cur.sn, occ := occ0 } := by
    subst ht hocc0
    unfold preLoop setLens
    rw [applyDefault_none cfg s hd]
    simp only [hf, if_false]
    show LoopSt.mk (if (fedSt s olen0).fade ≠ 0 then _ else
      { fedSt s olen0 with cur := { (fedSt s olen0).cur with len := shiftr _ (fedSt s olen0).cur.sn } }) _ _ _ _ _ _ _ _ = _
    rw [if_neg hft, hcur]
    rfl
  have hl := loop_steady cfg olen0 (olen0 + 1) (preLoop cfg s olen0).1
    (by rw [hpre]
        exact ⟨(congrArg Ctl.slew hc).trans h1, (congrArg Ctl.newR hc).trans h2, (congrArg Ctl.fade hc).trans h3, h4, h5⟩)
    (by rw [hpre]; exact Nat.lt_succ_of_le (Nat.sub_le _ _))
  unfold process
  dsimp only
  generalize loop cfg olen0 (olen0 + 1) (preLoop cfg s olen0).1 = l at hl ⊢
  rw [hpre] at hl
  obtain ⟨l1, l2, l3, l4, _, l6, l7⟩ := hl
  simp only [Nat.sub_zero, Nat.zero_add] at l1 l2
  rw [l1, l2, l3, l4, l6, l7]
  exact ⟨rfl, rfl, rfl, rfl⟩

theorem stg_setStg (s : St ρ) (i j : Int) (x : Stage) (hi : -1 ≤ i) (hj : -1 ≤ j) (hsz : (i + 1).toNat < s.stages.size) :
    (s.setStg i x).stg j = if j = i then x else s.stg j := by
  by_cases h : j = i
  · subst h; simp [St.stg, St.setStg, Array.set!, hsz]
  · have hne : (i + 1).toNat ≠ (j + 1).toNat := by omega
    simp [St.stg, St.setStg, h, Array.set!, Array.getElem!_eq_getD, Array.getD_eq_getD_getElem?,
      Array.getElem?_setIfInBounds_ne hne]

theorem size_setStg (s : St ρ) (i : Int) (x : Stage) : (s.setStg i x).stages.size = s.stages.size := by
  simp [St.setStg, Array.set!]

/-- `do_input_stage(sn, sign)`: if the neighbour's FIFO allows `ln > 0` new samples, stage `sn` grows by `ln` (plus its
    preload of zeros in the call that follows `vr_flush`); no other stage changes; nothing but FIFO bookkeeping changes. -/
theorem doInput_stg (s : St ρ) (sn sign mn : Int) (hsn : -1 ≤ sn) (hsz : (sn + 1).toNat < s.stages.size) :
    (doInput s sn sign mn).1.stages.size = s.stages.size ∧
    (doInput s sn sign mn).2 = decide (0 < doInputLen s sn sign) ∧
    (∀ j : Int, -1 ≤ j → j ≠ sn → (doInput s sn sign mn).1.stg j = s.stg j) ∧
    ((doInput s sn sign mn).1.stg sn).pre = (s.stg sn).pre ∧
    ((doInput s sn sign mn).1.stg sn).occ =
      (if 0 < doInputLen s sn sign then (s.stg sn).occ + doInputLen s sn sign + (if s.fl > 0 then ((s.stg sn).pre : Int) else 0)
       else (s.stg sn).occ) := by
  unfold doInput
  dsimp only
  by_cases hl : doInputLen s sn sign ≤ 0
  · rw [if_pos hl, if_neg (show ¬ 0 < doInputLen s sn sign by omega)]
    exact ⟨rfl, by simp; omega, fun _ _ _ => rfl, rfl, rfl⟩
  · rw [if_neg hl, if_pos (show 0 < doInputLen s sn sign by omega)]
    generalize xfadeStep _ _ _ _ _ _ = x
    refine ⟨size_setStg s sn _, by simp; omega, fun j hj hne => ?_, ?_, ?_⟩
    · show (s.setStg sn _).stg j = _; rw [stg_setStg s sn j _ hsn hj hsz, if_neg hne]
    · show ((s.setStg sn _).stg sn).pre = _; rw [stg_setStg s sn sn _ hsn hsn hsz, if_pos rfl]
    · show ((s.setStg sn _).stg sn).occ = _; rw [stg_setStg s sn sn _ hsn hsn hsz, if_pos rfl]

/-! ### The half-band chain: what each stage has been fed -/

/-- The generated filter lengths as numbers.  The totals below (`fed`, `fedF`, `FeedStep`, `flushPad`, `Eng`) are written
    with these values so that `omega` can work on them: `120 = H2`, `240 = 2·H2` (the preload of stage 0 and the offset of
    `stage_read_p`), `180 = 3·H2/2` (the preload of a half-band stage), `480 = 4·H2` (what `occupancy0` keeps back of a FIFO),
    `360 = 2·180`; this lemma is the one place that ties them to `Vr/Generated.lean`. -/
theorem filterLengths_eq : (H2 : Int) = 120 ∧ ((PD / 2 : Nat) : Int) = 10 ∧ stagePreload 0 = 240 ∧ (∀ j : Nat, stagePreload ((j : Int) + 1) = 180) := by
  refine ⟨by decide, by decide, by decide, fun j => ?_⟩
  unfold stagePreload
  rw [if_neg (by omega), if_neg (by omega)]
  decide

/-- samples ever appended to the FIFO of stage `j` (its preload included) once `N` input frames have been written and
    `vr_process` has run, before `vr_flush`: stage 0 holds its preload and the input; stage `j+1` its preload and half of
    what stage `j` holds beyond `2·HALF_FIR_LEN_2` -/
def fed (N : Int) : Nat → Int
  | 0 => 240 + N
  | j + 1 => 180 + max 0 ((fed N j - 240) / 2)

/-- … and after the `vr_process` call that follows `vr_flush` (every stage gets its preload of zeros once more) -/
def fedF (N : Int) : Nat → Int
  | 0 => 480 + N
  | j + 1 => 360 + (fedF N j - 240) / 2

theorem fed_succ (N : Int) (j : Nat) : fed N (j + 1) = 180 + max 0 ((fed N j - 240) / 2) := rfl
theorem fedF_succ (N : Int) (j : Nat) : fedF N (j + 1) = 360 + (fedF N j - 240) / 2 := rfl

theorem fed_mono (N N' : Int) (h : N ≤ N') (j : Nat) : fed N j ≤ fed N' j := by
  induction j with
  | zero => unfold fed; omega
  | succ j ih => rw [fed_succ, fed_succ]; omega

/-- after the flush stage `j` has been fed `480 + ⌊N / 2^j⌋` samples -/
theorem fedF_closed (N : Int) (j : Nat) : fedF N j = 480 + N / 2 ^ j := by
  induction j with
  | zero => simp [fedF]
  | succ j ih =>
    rw [fedF_succ, ih, Int.pow_succ, ← Int.ediv_ediv_of_nonneg (Int.le_of_lt (pow2_pos j))]
    omega

theorem fed_le_fedF (N : Int) (hN : 0 ≤ N) (j : Nat) : fed N j + 239 ≤ fedF N j ∧ 480 ≤ fedF N j := by
  induction j with
  | zero => unfold fed fedF; omega
  | succ j ih => rw [fed_succ, fedF_succ]; omega

/-- which total stage `j` has been fed: before (`b = false`) or after (`b = true`) the flush -/
def fedB (b : Bool) (N : Int) (j : Nat) : Int := if b then fedF N j else fed N j

theorem fedB_ge (b : Bool) (N : Int) (hN : 0 ≤ N) (j : Nat) : 120 ≤ fedB b N j := by
  cases b
  · cases j <;> simp only [fedB, Bool.false_eq_true, if_false, fed] <;> omega
  · have := (fed_le_fedF N hN j).2
    simp only [fedB, if_true]; omega

theorem fedB_mono (b : Bool) (N N' : Int) (h : N ≤ N') (j : Nat) : fedB b N j ≤ fedB b N' j := by
  cases b
  · exact fed_mono N N' h j
  · simp only [fedB, if_true, fedF_closed]
    have := Int.ediv_le_ediv (pow2_pos j) h
    omega

/-- the FIFO occupancies of the stages `lo ≤ j < hi` of a chain whose top stage `k` the interpolator reads, when stage
    `j` has been fed `F j` samples in all and the interpolator has consumed `C` samples of stage `k`: every stage holds
    what it was fed minus `C` scaled to its own rate; preloads as `vr_init` set them -/
def ChainR (k : Nat) (s : St ρ) (F : Nat → Int) (C : Int) (lo hi : Nat) : Prop :=
  ∀ j : Nat, lo ≤ j → j < hi →
    (s.stg (j : Int)).occ = F j - 2 ^ (k - j) * C ∧ (s.stg (j : Int)).pre = stagePreload (j : Int)

/-- the whole chain, after `N` input frames -/
def Chain (k : Nat) (s : St ρ) (b : Bool) (N C : Int) : Prop := ChainR k s (fedB b N) C 0 (k + 1)

theorem ChainR.congr {k : Nat} {s t : St ρ} {F : Nat → Int} {C : Int} {lo hi : Nat} (h : ChainR k s F C lo hi)
    (e : t.stages = s.stages) : ChainR k t F C lo hi := by
  unfold ChainR St.stg at *; rw [e]; exact h

theorem intRange_nil (a b : Int) (h : b < a) : intRange a b = [] := by
  unfold intRange
  rw [show (b - a + 1).toNat = 0 by omega]; rfl

theorem intRange_cons (a b : Int) (h : a ≤ b) : intRange a b = a :: intRange (a + 1) b := by
  unfold intRange
  obtain ⟨n, hn⟩ : ∃ n : Nat, (b - a + 1).toNat = n + 1 := ⟨(b - a).toNat, by omega⟩
  rw [hn, show (b - (a + 1) + 1).toNat = n by omega, List.range_succ_eq_map, List.map_cons, List.map_map]
  congr 1
  · simp
  · apply List.map_congr_left
    intro x _
    simp only [Function.comp]
    push_cast
    omega

theorem pow_split (k j : Nat) (h : j + 1 ≤ k) (C : Int) : (2 : Int) ^ (k - j) * C = 2 * ((2 : Int) ^ (k - (j + 1)) * C) := by
  rw [show k - j = (k - (j + 1)) + 1 by omega, Int.pow_succ, Int.mul_comm _ 2, Int.mul_assoc]

/-- what the `do_input_stage` loop needs of the totals before (`F`) and after (`F'`) it: a stage that finds new input
    (`len > 0`) ends at its new total (`pad`: the preload of zeros appended in the call after `vr_flush`), and when one
    finds none — the loop breaks there — it and all above it are at their new totals already -/
def FeedStep (k : Nat) (F F' : Nat → Int) (pad : Int) : Prop :=
  ∀ j : Nat, j + 1 ≤ k →
    (0 < 180 + (F' j - 240) / 2 - F (j + 1) → 180 + (F' j - 240) / 2 + pad = F' (j + 1)) ∧
    (180 + (F' j - 240) / 2 - F (j + 1) ≤ 0 → ∀ i, j + 1 ≤ i → i ≤ k → F i = F' i)

/-- **Feeding the chain.**  Stages below `j` are at their new totals, stages `j … k` still at the old ones: after the
    rest of the loop `for (j…k) if (!do_input_stage(j)) break;` all are at the new ones. -/
theorem feed_chain (k : Nat) (mn C pad : Int) (F F' : Nat → Int) (hF : FeedStep k F F' pad) :
    ∀ (d j : Nat) (s : St ρ), j + d = k + 1 → 1 ≤ j → k + 1 < s.stages.size → (if s.fl > 0 then 180 else 0) = pad →
    ChainR k s F' C 0 j → ChainR k s F C j (k + 1) →
    ChainR k (inputStages s mn (intRange (j : Int) (k : Int))) F' C 0 (k + 1) ∧
    (inputStages s mn (intRange (j : Int) (k : Int))).stages.size = s.stages.size := by
  intro d
  induction d with
  | zero =>
    intro j s hj _ _ _ hlo _
    rw [intRange_nil _ _ (by omega)]
    obtain rfl : j = k + 1 := by omega
    exact ⟨hlo, rfl⟩
  | succ d ih =>
    intro j s hj h1 hsz hfl hlo hhi
    obtain ⟨j, rfl⟩ : ∃ j', j = j' + 1 := ⟨j - 1, by omega⟩
    rw [intRange_cons _ _ (by omega), inputStages, if_neg (show ¬ ((j + 1 : Nat) : Int) = 0 by omega),
      if_neg (show ¬ ((j + 1 : Nat) : Int) < 0 by omega)]
    dsimp only
    obtain ⟨a0, _⟩ := hlo j (by omega) (by omega)
    obtain ⟨a1, p1⟩ := hhi (j + 1) (by omega) (by omega)
    have hpre : ((stagePreload ((j + 1 : Nat) : Int) : Nat) : Int) = 180 := congrArg Nat.cast (filterLengths_eq.2.2.2 j)
    have hln : doInputLen s ((j + 1 : Nat) : Int) 1 = 180 + (F' j - 240) / 2 - F (j + 1) := by
      unfold doInputLen
      dsimp only
      rw [show ((j + 1 : Nat) : Int) - 1 = (j : Int) by omega, a0, a1, p1, hpre, filterLengths_eq.1, shiftr_one, pow_split k j (by omega)]
      omega
    obtain ⟨g1, g2⟩ := hF j (by omega)
    obtain ⟨c2, c3, c4, c5, c6⟩ := doInput_stg s ((j + 1 : Nat) : Int) 1 mn (by omega) (by omega)
    rw [c3]
    by_cases hl : 0 < doInputLen s ((j + 1 : Nat) : Int) 1
    · rw [decide_eq_true hl, if_pos rfl, show (((j + 1 : Nat) : Int) + 1) = ((j + 1 + 1 : Nat) : Int) by omega]
      rw [if_pos hl, p1, hpre, hfl, a1, hln] at c6
      have := ih (j + 1 + 1) (doInput s ((j + 1 : Nat) : Int) 1 mn).1 (by omega) (by omega) (by omega)
        ((congrArg (fun c : Ctl ρ => if c.fl > 0 then (180 : Int) else 0) (doInput_ctl s _ 1 mn)).trans hfl)
        (fun i hi0 hik => by
          by_cases hij : i = j + 1
          · subst hij
            exact ⟨by rw [c6]; have := g1 (hln ▸ hl); omega, c5.trans p1⟩
          · rw [c4 (i : Int) (by omega) (by omega)]
            exact hlo i hi0 (by omega))
        (fun i hi0 hik => by
          rw [c4 (i : Int) (by omega) (by omega)]
          exact hhi i (by omega) hik)
      exact ⟨this.1, this.2.trans c2⟩
    · rw [decide_eq_false hl, if_neg (by simp)]
      have hst := g2 (by omega)
      rw [if_neg hl] at c6
      refine ⟨fun i hi0 hik => ?_, c2⟩
      by_cases hij : i < j + 1
      · rw [c4 (i : Int) (by omega) (by omega)]
        exact hlo i hi0 hij
      · by_cases hij' : i = j + 1
        · subst hij'
          exact ⟨by rw [c6, a1, hst (j + 1) (by omega) (by omega)], c5.trans p1⟩
        · rw [c4 (i : Int) (by omega) (by omega), ← hst i (by omega) (by omega)]
          exact hhi i (by omega) hik

/-- an ordinary call (no flush pending) after more input -/
theorem feedStep_input (k : Nat) (N N' : Int) (h : N ≤ N') : FeedStep k (fed N) (fed N') 0 := by
  intro j _
  have hm := fed_mono N N' h (j + 1)
  rw [fed_succ N' j, fed_succ N j] at *
  refine ⟨fun _ => by omega, fun hl i hi _ => ?_⟩
  have stable : ∀ d, fed N (j + 1 + d) = fed N' (j + 1 + d) := fun d => by
    induction d with
    | zero => rw [Nat.add_zero, fed_succ, fed_succ]; omega
    | succ d ih => rw [← Nat.add_assoc, fed_succ, fed_succ, ih]
  rw [show i = j + 1 + (i - (j + 1)) by omega]
  exact stable _

/-- the call after `vr_flush`: every stage in turn finds new input (`len ≥ 119`), so none is skipped, and each appends
    its own preload of zeros too -/
theorem feedStep_flush (k : Nat) (N : Int) (hN : 0 ≤ N) : FeedStep k (fed N) (fedF N) 180 := by
  intro j _
  have := fed_le_fedF N hN j
  rw [fed_succ, fedF_succ]
  exact ⟨fun _ => by omega, fun _ => by omega⟩

/-- once the flush has gone through nothing is fed any more: the first `do_input_stage` finds `len = −180` -/
theorem feedStep_done (k : Nat) (N : Int) : FeedStep k (fedF N) (fedF N) 0 := by
  intro j _
  rw [fedF_succ]
  exact ⟨fun _ => by omega, fun _ _ _ _ => rfl⟩

/-! ### Handing the consumed input back: `fifo_read` on every stage -/

/-- `for (i = from; …; --i, idone <<= 1) fifo_read(stage i, idone)` over `n` stages, every one of which holds what is
    read from it: stage `i − m` loses `idone · 2^m` samples -/
theorem readStages_stg : ∀ (n : Nat) (s : St ρ) (i d : Int), (n : Int) ≤ i + 2 → (i + 1).toNat < s.stages.size → 0 ≤ d →
    (∀ m : Nat, m < n → d * 2 ^ m ≤ (s.stg (i - m)).occ) →
    (readStages s i d n).stages.size = s.stages.size ∧
    ∀ j : Int, -1 ≤ j → (readStages s i d n).stg j =
      if i - n < j ∧ j ≤ i then { s.stg j with occ := (s.stg j).occ - d * 2 ^ (i - j).toNat } else s.stg j := by
  intro n
  induction n with
  | zero => intro s i d _ _ _ _; exact ⟨rfl, fun j _ => by rw [if_neg (by omega)]; rfl⟩
  | succ n ih =>
    intro s i d hn hsz hd hb
    have e := fun j hj => stg_setStg s i j { s.stg i with occ := readOcc (s.stg i).occ d } (by omega) hj hsz
    have h0 := hb 0 (by omega)
    rw [Int.pow_zero, Int.mul_one, show i - ((0 : Nat) : Int) = i by omega] at h0
    obtain ⟨z, r⟩ := ih (s.setStg i { s.stg i with occ := readOcc (s.stg i).occ d }) (i - 1) (d * 2) (by omega)
      (by rw [size_setStg]; omega) (by omega) (fun m hm => by
        have := hb (m + 1) (by omega)
        rw [e _ (by omega), if_neg (by omega), show i - 1 - (m : Int) = i - ((m + 1 : Nat) : Int) by omega, Int.mul_assoc,
          ← Int.pow_succ']
        exact this)
    rw [readStages]
    refine ⟨z.trans (size_setStg _ _ _), fun j hj => ?_⟩
    rw [r j hj, e j hj]
    by_cases h1 : j = i
    · subst h1
      rw [if_neg (by omega), if_pos rfl, if_pos (by omega), readOcc, if_pos ⟨hd, h0⟩, Int.sub_self]
      simp
    · rw [if_neg h1]
      by_cases h2 : i - 1 - (n : Int) < j ∧ j ≤ i - 1
      · rw [if_pos h2, if_pos (by omega), show (i - j).toNat = (i - 1 - j).toNat + 1 by omega, Int.pow_succ', Int.mul_assoc]
      · rw [if_neg h2, if_neg (by omega)]

theorem post_nofade (s : St ρ) (mn mx : Int) (h : s.fade = 0) :
    post s mn mx =
      readStages
        { s with cur := { s.cur with
                          clk := s.cur.clk - shiftl (shiftr (INT s.cur.clk) (max 0 mx - s.cur.sn)) (max 0 mx - s.cur.sn) * two32 } }
        (max 0 mx) (shiftr (INT s.cur.clk) (max 0 mx - s.cur.sn)) (max 0 mx - min 0 mn + 1).toNat := by
  unfold post
  simp [h]

/-- `t` is `s` after `vr_input` / `vr_flush`: stage 0 has `δ` more samples, `flushing` is `f`, nothing else differs -/
def Topped (s t : St ρ) (f δ : Int) : Prop :=
  t.ctl = { s.ctl with fl := f } ∧ t.stages.size = s.stages.size ∧
  t.stg 0 = { s.stg 0 with occ := (s.stg 0).occ + δ } ∧ ∀ j : Int, -1 ≤ j → j ≠ 0 → t.stg j = s.stg j

theorem topped_setStg (s : St ρ) (f δ : Int) (h : 1 < s.stages.size) :
    Topped s { s.setStg 0 { s.stg 0 with occ := (s.stg 0).occ + δ } with fl := f } f δ :=
  ⟨rfl, size_setStg _ _ _, (stg_setStg s 0 0 _ (by decide) (by decide) (by simp; omega)).trans (if_pos rfl),
    fun j hj hne => (stg_setStg s 0 j _ (by decide) hj (by simp; omega)).trans (if_neg hne)⟩

theorem topped_input (s : St ρ) (i : Nat) (h : 1 < s.stages.size) : Topped s (input s i) s.fl i :=
  topped_setStg s s.fl i h

theorem topped_flush (s : St ρ) (h : 1 < s.stages.size) (hfl : s.fl = 0) : Topped s (flush s) (s.fl + 1) (s.stg 0).pre := by
  rw [show flush s = _ from if_pos hfl]
  exact topped_setStg s (s.fl + 1) (s.stg 0).pre h

theorem topped_refl (s : St ρ) : Topped s s s.fl 0 :=
  ⟨rfl, rfl, by rw [Int.add_zero], fun _ _ _ => rfl⟩

/-- the run after a `vr_process` call with result `p` and the `vr_output` that follows it: what `stepOp` makes of a call
    with input (`p` from `vr_input`) and of a flush call (`p` from `vr_flush`) -/
def Run.after (r : Run ρ) (p : PRes ρ) (olen : Nat) : Run ρ :=
  { st := (output p.st olen).1, out := r.out + p.od, nsw := r.nsw + p.nsw, nmis := r.nmis + p.nmis,
    nneg := r.nneg + p.nneg, nshl := r.nshl + p.nshl }

theorem stepOp_flush (cfg : Cfg ρ) (r : Run ρ) (o : Nat) : stepOp cfg r (.flush o) = r.after (process cfg (flush r.st) o) o := rfl

/-! ### The clock across calls -/

/-- **The clock bookkeeping of one call**, in absolute clock units (input handed back so far included).  Before the
    call the clock stands at `a`, `K` frames of `u` units each after `A0`, and the last sample of the last frame lay
    below the old limit `lim`.  The call hands back nothing beyond `c ≤ a`, runs against the limit `max c lim'`
    (`lim ≤ lim'`) and delivers `x` of `n` frames, each reading `la` units ahead.  Then the last frame delivered lies
    below the new limit, a call that delivered less than asked stands against it, and the clock has not passed it by a
    whole unit `T` of the hand-back. -/
theorem clock_call (A0 u la a c lim lim' T : Int) (K x n : Nat) (hu : 0 ≤ u) (hla : 0 ≤ la)
    (ha : a = A0 + (K : Int) * u) (hc : c ≤ a) (hhist : 0 < K → A0 + ((K : Int) - 1) * u + la < lim) (hmono : lim ≤ lim')
    (hstop : x < n → max c lim' ≤ a + (x : Int) * u + la)
    (hall : ∀ i : Nat, i < x → a + (i : Int) * u + la < max c lim') (hT : u ≤ la + T) (haT : a < c + T) :
    (0 < K + x → A0 + (((K + x : Nat) : Int) - 1) * u + la < lim') ∧
    (x < n → lim' ≤ A0 + ((K + x : Nat) : Int) * u + la) ∧
    a + (x : Int) * u < max c lim' + T := by
  by_cases h0 : x = 0
  · subst h0
    simp only [Int.natCast_zero, Int.zero_mul, Int.add_zero, Nat.add_zero] at *
    omega
  · have hlast := hall (x - 1) (by omega)
    have hx : 0 ≤ ((x - 1 : Nat) : Int) * u := Int.mul_nonneg (by omega) hu
    rw [show ((x - 1 : Nat) : Int) = (x : Int) - 1 by omega, Int.sub_mul, Int.one_mul] at hlast hx
    push_cast
    rw [Int.add_mul, Int.sub_mul, Int.add_mul] at *
    generalize (x : Int) * u = xu at *
    generalize (K : Int) * u = Ku at *
    omega

/-- **… and the hand-back.**  The engine counts the input it has consumed in units of `T` clock units (`C` of them
    so far, at most the limit `M`) and keeps the clock rebased into `[0, T)`.  A call runs a constant-step loop from
    `clk` against `len = max(0, M' − C)` units (`f1`–`f3`: what `fir_const` says of it) and hands `⌊at / T⌋` units back.
    Then the absolute clock `C·T + at` has advanced by `u` per frame, the frames delivered lie below the limit, a call
    that delivered less than asked stands against it, and no more has been handed back than the limit allows. -/
theorem clock_handback (A0 u la T C M M' clk xclk : Int) (K x n : Nat) (hT : 0 < T) (hu : 0 ≤ u) (hla : 0 ≤ la)
    (huT : u ≤ la + T) (hC : C ≤ max 0 M) (hmono : M ≤ M') (hclk0 : 0 ≤ clk) (hclk1 : clk < T)
    (hclock : C * T + clk = A0 + (K : Int) * u) (hhist : 0 < K → A0 + ((K : Int) - 1) * u + la < M * T)
    (f1 : xclk = clk + (x : Int) * u) (f2 : x < n → max 0 (M' - C) * T ≤ clk + (x : Int) * u + la)
    (f3 : ∀ i : Nat, i < x → clk + (i : Int) * u + la < max 0 (M' - C) * T) :
    0 ≤ xclk / T ∧ C + xclk / T ≤ max 0 M' ∧ 0 ≤ xclk - xclk / T * T ∧ xclk - xclk / T * T < T ∧
    (C + xclk / T) * T + (xclk - xclk / T * T) = A0 + ((K + x : Nat) : Int) * u ∧
    (0 < K + x → A0 + (((K + x : Nat) : Int) - 1) * u + la < M' * T) ∧
    (x < n → M' * T ≤ A0 + ((K + x : Nat) : Int) * u + la) := by
  have hmax : C * T + max 0 (M' - C) * T = max (C * T) (M' * T) := by
    by_cases h : M' ≤ C
    · have := Int.mul_le_mul_of_nonneg_right h (Int.le_of_lt hT)
      rw [show max 0 (M' - C) = 0 by omega, Int.zero_mul]; omega
    · have := Int.mul_le_mul_of_nonneg_right (show C ≤ M' by omega) (Int.le_of_lt hT)
      rw [show max 0 (M' - C) = M' - C by omega, Int.sub_mul]; omega
  obtain ⟨g1, g2, g3⟩ := clock_call A0 u la (C * T + clk) (C * T) (M * T) (M' * T) T K x n hu hla hclock (by omega) hhist
    (Int.mul_le_mul_of_nonneg_right hmono (Int.le_of_lt hT)) (fun h => by have := f2 h; omega)
    (fun i hi => by have := f3 i hi; omega) huT (by omega)
  have hx : 0 ≤ (x : Int) * u := Int.mul_nonneg (by omega) hu
  have hq : xclk / T < max 0 (M' - C) + 1 := Int.ediv_lt_of_lt_mul hT (by rw [Int.add_mul, Int.one_mul]; omega)
  have hdm := Int.ediv_mul_add_emod xclk T
  have hm0 := Int.emod_nonneg xclk (Int.ne_of_gt hT)
  have hm1 := Int.emod_lt_of_pos xclk hT
  have hi1 : C + xclk / T ≤ max 0 M' := by clear hmax g1 g2 g3 f2 hhist hclock hdm; omega
  refine ⟨Int.ediv_nonneg (by omega) (Int.le_of_lt hT), hi1, by omega, by omega, ?_, g1, g2⟩
  push_cast
  rw [Int.add_mul, Int.add_mul]
  omega

/-! ### The engine between calls -/

/-- the control side of a steady engine between calls: nothing outstanding, stage `sn`, increment `S`, the clock rebased
    into `[0, B)`, at least `m + 1` stages -/
def EngAt (sn : Int) (d : Bool) (S B : Int) (m : Nat) (s : St ρ) : Prop :=
  Steady s ∧ s.defR = none ∧ s.cur.sn = sn ∧ s.cur.isD = d ∧ s.cur.step = S ∧ 0 ≤ s.cur.clk ∧ s.cur.clk < B ∧
  m < s.stages.size

/-- … and it looks at nothing but those fields -/
theorem EngAt.of_ctl {sn : Int} {d : Bool} {S B : Int} {m : Nat} {s p : St ρ} (h : EngAt sn d S B m s) (a L o f : Int)
    (hc : p.ctl = { s.ctl with cur := { s.cur with clk := a, len := L }, oocc := o, fl := f }) (ha : 0 ≤ a) (haB : a < B)
    (hsz : p.stages.size = s.stages.size) : EngAt sn d S B m p := by
  obtain ⟨⟨q1, q2, q3, q4, q5⟩, hdef, hsn, hisd, hstep, _, _, hsize⟩ := h
  have hcur : p.cur = { s.cur with clk := a, len := L } := congrArg Ctl.cur hc
  exact ⟨⟨(congrArg Ctl.slew hc).trans q1, (congrArg Ctl.newR hc).trans q2, (congrArg Ctl.fade hc).trans q3,
    by rw [hcur]; exact q4, by rw [hcur]; exact q5⟩, (congrArg Ctl.defR hc).trans hdef, by rw [hcur]; exact hsn,
    by rw [hcur]; exact hisd, by rw [hcur]; exact hstep, by rw [hcur]; exact ha, by rw [hcur]; exact haB, by omega⟩

theorem inputStages_zero_skip (s : St ρ) (mn : Int) (k : Nat) :
    inputStages s mn (intRange 0 (k : Int)) = inputStages s mn (intRange ((1 : Nat) : Int) (k : Int)) := by
  rw [intRange_cons _ _ (by omega), inputStages, if_pos rfl]; rfl

/-! ### The engine on a down-sampling stage `k ≥ 0` -/

/-- a stage `d` levels below has been fed at least `2^d` times what stage `j + d` has been fed beyond 480 samples -/
theorem fed_scale (N : Int) : ∀ (d j : Nat), 480 ≤ fed N (j + d) →
    480 ≤ fed N j ∧ 2 ^ d * (fed N (j + d) - 120) ≤ fed N j - 120 := by
  intro d
  induction d with
  | zero => intro j h; simp at h ⊢; omega
  | succ d ih =>
    intro j h
    rw [show j + (d + 1) = (j + 1) + d by omega] at h ⊢
    obtain ⟨i1, i2⟩ := ih (j + 1) h
    rw [fed_succ] at i1 i2
    rw [Int.pow_succ, Int.mul_comm _ 2, Int.mul_assoc]
    omega

/-- what the interpolator may consume from stage `k` (its total beyond 480), scaled to stage `j ≤ k`, is in stage `j` -/
theorem fedB_scale (b : Bool) (N : Int) (hN : 0 ≤ N) (k j : Nat) (hj : j ≤ k) (x : Int) (hx0 : 0 ≤ x)
    (hx : x ≤ max 0 (fedB b N k - 480)) : 2 ^ (k - j) * x ≤ fedB b N j - 120 := by
  have hge := fedB_ge b N hN j
  by_cases h480 : fedB b N k < 480
  · rw [show x = 0 by omega, Int.mul_zero]; omega
  obtain ⟨d, rfl⟩ : ∃ d, k = j + d := ⟨k - j, by omega⟩
  rw [Nat.add_sub_cancel_left]
  have hp : (0 : Int) ≤ 2 ^ d := Int.le_of_lt (pow2_pos _)
  cases b <;> simp only [fedB, Bool.false_eq_true, if_false, if_true] at hx h480 ⊢
  · have := (fed_scale N d j (by omega)).2
    have h1 := Int.mul_le_mul_of_nonneg_left (show x ≤ fed N (j + d) - 120 by omega) hp
    omega
  · rw [fedF_closed] at hx h480 ⊢
    rw [Int.pow_add, ← Int.ediv_ediv_of_nonneg (Int.le_of_lt (pow2_pos j))] at hx h480
    have h1 := Int.mul_le_mul_of_nonneg_left (show x ≤ N / 2 ^ j / 2 ^ d by omega) hp
    have h2 := Int.mul_ediv_self_le (x := N / 2 ^ j) (Int.ne_of_gt (pow2_pos d))
    omega

/-- **`for (i = k; i >= 0; --i, idone <<= 1) fifo_read(stage i, idone)`** moves the whole chain from `C` to `C + idone`
    consumed samples, provided every stage holds what is read from it. -/
theorem read_chain (k : Nat) (F : Nat → Int) (C idone : Int) (s : St ρ) (hid : 0 ≤ idone) (hsz : k + 1 < s.stages.size)
    (hc : ChainR k s F C 0 (k + 1)) (hb : ∀ j : Nat, j ≤ k → 2 ^ (k - j) * (C + idone) ≤ F j) :
    ChainR k (readStages s (k : Int) idone (k + 1)) F (C + idone) 0 (k + 1) ∧
    (readStages s (k : Int) idone (k + 1)).stages.size = s.stages.size := by
  obtain ⟨r1, r2⟩ := readStages_stg (k + 1) s (k : Int) idone (by omega) (by omega) hid (fun m hm => by
    obtain ⟨a, _⟩ := hc (k - m) (Nat.zero_le _) (by omega)
    have := hb (k - m) (Nat.sub_le _ _)
    rw [show (k : Int) - (m : Int) = ((k - m : Nat) : Int) by omega, a]
    rw [show k - (k - m) = m by omega] at this ⊢
    rw [Int.mul_add] at this
    rw [Int.mul_comm idone]; omega)
  refine ⟨fun j _ hj => ?_, r1⟩
  obtain ⟨a, q⟩ := hc j (Nat.zero_le j) hj
  rw [r2 j (by omega), if_pos (by omega)]
  refine ⟨?_, q⟩
  show (s.stg j).occ - _ = _
  rw [a, show ((k : Int) - (j : Int)).toNat = k - j by omega, Int.mul_add, Int.mul_comm idone]
  omega

theorem post_steady (s : St ρ) (k : Nat) (hf : s.fade = 0) (hsn : s.cur.sn = (k : Int)) :
    post s (k : Int) (k : Int) =
      readStages { s with cur := { s.cur with clk := s.cur.clk - INT s.cur.clk * two32 } } (k : Int) (INT s.cur.clk) (k + 1) := by
  rw [post_nofade s _ _ hf, hsn, show max 0 (k : Int) - (k : Int) = 0 by omega, shiftr_zero, shiftl_zero,
    show (max 0 (k : Int) - min 0 (k : Int) + 1).toNat = k + 1 by omega, show max 0 (k : Int) = (k : Int) by omega]

/-- the state of the engine between calls, reading stage `k ≥ 0` at the constant increment `S` -/
def EngSt (k : Nat) (S : Int) (s : St ρ) : Prop := EngAt (k : Int) true S two32 (k + 1) s

/-- The engine reading stage `k ≥ 0` at the constant increment `S`, seen between `soxr_process` calls:
    `N` input frames written so far (`b`: the flush has gone through), `C` samples of stage `k` consumed, `K` output frames
    delivered since the clock stood at `A0`.  The absolute clock `C·2³² + at` has advanced by exactly `2·S` per frame; the
    second sample of the last frame delivered lay inside the input available then. -/
def Eng (k : Nat) (S A0 : Int) (s : St ρ) (b : Bool) (N C : Int) (K : Nat) : Prop :=
  EngSt k S s ∧ 0 ≤ N ∧ 0 ≤ C ∧ C ≤ max 0 (fedB b N k - 480) ∧ Chain k s b N C ∧
  C * two32 + s.cur.clk = A0 + (K : Int) * (2 * S) ∧
  (0 < K → A0 + ((K : Int) - 1) * (2 * S) + S < (fedB b N k - 480) * two32) ∧
  s.fl = (if b then -1 else 0)

/-- the invariant looks at the control fields (but `output_fifo`) and the stages -/
theorem Eng.of_eq {k : Nat} {S A0 : Int} {s t : St ρ} {b : Bool} {N C : Int} {K : Nat} (h : Eng k S A0 s b N C K) (o : Int)
    (hc : t.ctl = { s.ctl with oocc := o }) (hs : t.stages = s.stages) : Eng k S A0 t b N C K := by
  obtain ⟨hE, hN, hC0, hC, hchain, hclock, hhist, hfl⟩ := h
  have hcur : t.cur = s.cur := congrArg Ctl.cur hc
  exact ⟨hE.of_ctl s.cur.clk s.cur.len o s.fl hc hE.2.2.2.2.2.1 hE.2.2.2.2.2.2.1 (congrArg Array.size hs), hN, hC0, hC,
    hchain.congr hs, hcur ▸ hclock, hhist, (congrArg Ctl.fl hc).trans hfl⟩

/-- the chain after `vr_input` / `vr_flush` (stage 0 has received `δ` more samples, which moves the totals from `F` to
    `F'`) and the `do_input_stage` loop of `vr_process` -/
theorem chain_fedSt (k : Nat) (s t : St ρ) (F F' : Nat → Int) (C δ : Int) (olen : Nat) (hc : ChainR k s F C 0 (k + 1))
    (hsn : t.cur.sn = (k : Int)) (hsz : k + 1 < t.stages.size)
    (ht0 : t.stg 0 = { s.stg 0 with occ := (s.stg 0).occ + δ }) (htj : ∀ j : Nat, j ≠ 0 → t.stg j = s.stg j)
    (hδ : F' 0 = F 0 + δ) (hF : FeedStep k F F' (if t.fl > 0 then 180 else 0)) :
    ChainR k (fedSt t olen) F' C 0 (k + 1) ∧ (fedSt t olen).stages.size = t.stages.size ∧
    shiftr (shiftl (max 0 (((fedSt t olen).stg (k : Int)).occ - 4 * (H2 : Int))) (k : Int)) (k : Int) = max 0 (F' k - 480 - C) := by
  obtain ⟨hfed, hfsz⟩ := feed_chain k (k : Int) C _ F F' hF k 1 ({ t with oocc := t.oocc + olen } : St ρ) (by omega)
    (Nat.le_refl 1) hsz rfl
    (fun j _ hj => by
      obtain rfl : j = 0 := by omega
      obtain ⟨a, p⟩ := hc 0 (Nat.le_refl 0) (by omega)
      show ((t.stg 0).occ = _ ∧ (t.stg 0).pre = _)
      rw [ht0]
      exact ⟨by show (s.stg 0).occ + δ = _; rw [hδ]; rw [show ((0 : Nat) : Int) = 0 from rfl] at a; omega, p⟩)
    (fun j hj1 hjk => by
      show ((t.stg j).occ = _ ∧ (t.stg j).pre = _)
      rw [htj j (by omega)]; exact hc j (by omega) hjk)
  have e : (fedSt t olen).stages =
      (inputStages ({ t with oocc := t.oocc + olen } : St ρ) (k : Int) (intRange ((1 : Nat) : Int) (k : Int))).stages := by
    rw [fedSt_stages, hsn, show min (k : Int) 0 = 0 by omega, inputStages_zero_skip]
  refine ⟨hfed.congr e, (congrArg Array.size e).trans hfsz, ?_⟩
  obtain ⟨ak, _⟩ := hfed.congr e k (Nat.zero_le k) (Nat.lt_succ_self k)
  rw [shiftr_shiftl, ak, Nat.sub_self, Int.pow_zero, Int.one_mul, filterLengths_eq.1]
  omega

/-- the engine on stage `k` at the head of a call sequence: the invariant with the frames delivered so far, no stage
    switch and no mismatch so far -/
def EngRun (k : Nat) (S A0 : Int) (r : Run ρ) (b : Bool) (N : Int) : Prop :=
  ∃ C, Eng k S A0 r.st b N C r.out ∧ r.nsw = 0 ∧ r.nmis = 0

/-- **One call.**  `t` is the engine after `vr_input` / `vr_flush`: stage 0 has received `δ` more samples, which moves
    the totals from `fedB b N` to `fedB b' N'`.  `vr_process` feeds the chain, runs `poly_fir_d` once over `olen` frames
    against `len = max(0, total − consumed − 480)` and hands the integer part of the clock back to every FIFO: the
    invariant holds again, with the frames delivered; a call that delivers less than asked stands against the limit. -/
theorem eng_call (cfg : Cfg ρ) (k : Nat) (S A0 : Int) (r : Run ρ) (t : St ρ) (b b' : Bool) (N N' f δ : Int) (olen : Nat)
    (h : EngRun k S A0 r b N) (ht : Topped r.st t f δ) (hδ : fedB b' N' 0 = fedB b N 0 + δ)
    (hF : FeedStep k (fedB b N) (fedB b' N') (if f > 0 then 180 else 0))
    (hfl : (if f > 0 then -1 else f) = if b' then -1 else 0) (hmono : fedB b N k ≤ fedB b' N' k) (hN' : 0 ≤ N') :
    EngRun k S A0 (r.after (process cfg t olen) olen) b' N' ∧
    ((r.after (process cfg t olen) olen).out < r.out + olen →
      (fedB b' N' k - 480) * two32 ≤ A0 + ((r.after (process cfg t olen) olen).out : Int) * (2 * S) + S) := by
  obtain ⟨C, he, hn, hm⟩ := h
  obtain ⟨htc, hts, ht0, htj⟩ := ht
  obtain ⟨s, hs⟩ : ∃ s, s = r.st := ⟨_, rfl⟩
  obtain ⟨K, hK⟩ : ∃ K, K = r.out := ⟨_, rfl⟩
  rw [← hs] at he htc hts ht0 htj
  rw [← hK] at he
  have hE := he.1
  have hEt : EngSt k S t := hE.of_ctl s.cur.clk s.cur.len s.oocc f htc hE.2.2.2.2.2.1 hE.2.2.2.2.2.2.1 hts
  obtain ⟨hst, hdef, hsn, hisd, hstep, hclk0, hclk1, hsize⟩ := hEt
  have hcur : t.cur = s.cur := congrArg Ctl.cur htc
  have htfl : t.fl = f := congrArg Ctl.fl htc
  have hSr : 2147483648 ≤ S ∧ S ≤ 4294967296 := by
    have := hst.2.2.2.2; unfold InRange at this; rw [hisd, hstep] at this; simpa using this
  have hS : 0 ≤ 2 * S ∧ 0 ≤ S ∧ 2 * S ≤ S + two32 ∧ fedB b N k - 480 ≤ fedB b' N' k - 480 := by unfold two32; omega
  obtain ⟨hfed, hfsz, hL⟩ := chain_fedSt k s t _ _ C δ olen he.2.2.2.2.1 hsn hsize ht0 (fun j hj => htj j (by omega) (by omega)) hδ (htfl ▸ hF)
  -- the interpolator
  obtain ⟨X, p, hX, hp, p1, p2, p3, p4⟩ := process_steady cfg t olen hst hdef (k : Int) _ true hsn hisd hL
  have hss : ({ t.cur with len := max 0 (fedB b' N' k - 480 - C) } : Stream).ss = 0 := hst.2.2.2.1
  obtain ⟨f1, f2, f3⟩ := fir_const true olen { t.cur with len := max 0 (fedB b' N' k - 480 - C) } hss
    (by show 0 ≤ t.cur.step; rw [hstep]; exact hS.2.1)
  have hX1 := fir_const_state true olen _ hss
  rw [← hX] at f1 f2 f3 hX1
  simp only [Stream.unit, Stream.look, if_true, hstep] at f1 f2 f3
  obtain ⟨i0, i1, c0, c1, ceq, g1, g2⟩ := clock_handback A0 (2 * S) S two32 C (fedB b N k - 480) (fedB b' N' k - 480)
    t.cur.clk X.1.clk K X.2 olen (by decide) hS.1 hS.2.1 hS.2.2.1 he.2.2.2.1 hS.2.2.2 hclk0 hclk1
    (hcur ▸ he.2.2.2.2.2.1) he.2.2.2.2.2.2.1 f1 f2 f3
  rw [show X.1.clk / two32 = INT X.1.clk from rfl] at i0 i1 c0 c1 ceq
  -- the hand-back
  rw [post_steady { fedSt t olen with cur := X.1 } k ((congrArg Ctl.fade (fedSt_ctl t olen)).trans hst.2.2.1)
    (by rw [hX1]; exact hsn)] at hp
  obtain ⟨r1, r2⟩ := read_chain k (fedB b' N') C (INT X.1.clk)
    ({ fedSt t olen with cur := { X.1 with clk := X.1.clk - INT X.1.clk * two32 } } : St ρ) i0
    (Nat.lt_of_lt_of_eq hsize hfsz.symm) (hfed.congr rfl)
    (fun j hj => Int.le_trans (fedB_scale b' N' hN' k j hj (C + INT X.1.clk) (Int.add_nonneg he.2.2.1 i0) i1)
      (Int.sub_le_self _ (by decide)))
  have hpc := readStages_ctl (k + 1)
    ({ fedSt t olen with cur := { X.1 with clk := X.1.clk - INT X.1.clk * two32 } } : St ρ) (k : Int) (INT X.1.clk)
  rw [← hp] at r1 r2 hpc
  have key : Eng k S A0 p b' N' (C + INT X.1.clk) (K + X.2) := by
    refine ⟨hE.of_ctl (X.1.clk - INT X.1.clk * two32) (max 0 (fedB b' N' k - 480 - C)) (t.oocc + olen)
      (if b' then -1 else 0) ?_ c0 c1 (r2.trans (hfsz.trans hts)), hN', Int.add_nonneg he.2.2.1 i0, i1, r1, ?_, g1,
      (congrArg Ctl.fl hpc).trans ?_⟩
    · rw [hpc, hX1]
      show ({ (fedSt t olen).ctl with cur := _ } : Ctl ρ) = _
      rw [fedSt_ctl, htc, hcur, htfl, hfl]
    · rw [show p.cur.clk = X.1.clk - INT X.1.clk * two32 from congrArg (fun c : Ctl ρ => c.cur.clk) hpc]
      exact ceq
    · show (fedSt t olen).fl = _
      rw [show (fedSt t olen).fl = _ from congrArg Ctl.fl (fedSt_ctl t olen), htfl, hfl]
  refine ⟨⟨C + INT X.1.clk, ?_, by show r.nsw + _ = 0; omega, by show r.nmis + _ = 0; omega⟩, fun hlt => ?_⟩
  · show Eng k S A0 _ b' N' _ (r.out + (process cfg t olen).od)
    rw [p2, ← hK]
    exact key.of_eq _ (by show (output (process cfg t olen).st olen).1.ctl = _; rw [p1]; rfl)
      (by show (output (process cfg t olen).st olen).1.stages = _; rw [p1]; rfl)
  · show _ ≤ A0 + ((r.out + (process cfg t olen).od : Nat) : Int) * (2 * S) + S
    rw [p2, ← hK]; exact g2 (by rw [← p2]; exact Nat.lt_of_add_lt_add_left hlt)

theorem run_append (cfg : Cfg ρ) (r : Run ρ) (a b : List (Op ρ)) : run cfg r (a ++ b) = run cfg (run cfg r a) b := by
  unfold run; rw [List.foldl_append]

def procOps (blocks : List (Nat × Nat)) : List (Op ρ) := blocks.map fun x => Op.proc x.1 x.2
def flushOps (drain : List Nat) : List (Op ρ) := drain.map fun o => Op.flush o
def totalIn (blocks : List (Nat × Nat)) : Nat := (blocks.map (·.1)).sum

/-- induction over `soxr_process` calls with input followed by flush calls: what holds of the run at the start (`J r b N`:
    `b` — a flush call has been made, `N` — input frames written), is kept by a call with input while no flush has been
    made, and by a flush call, holds before and after a last flush call — which also gives `Q` of those two runs -/
theorem run_blocks_drain (cfg : Cfg ρ) (J : Run ρ → Bool → Int → Prop) (Q : Run ρ → Nat → Int → Prop)
    (hproc : ∀ r N i o, J r false N → J (stepOp cfg r (.proc i o)) false (N + (i : Nat)))
    (hflush : ∀ r b N o, J r b N → J (stepOp cfg r (.flush o)) true N ∧ Q r o N)
    (blocks : List (Nat × Nat)) (drain : List Nat) (o : Nat) (r : Run ρ) (N : Int) (h : J r false N) :
    (∃ b, J (run cfg r (procOps blocks ++ flushOps drain)) b (N + (totalIn blocks : Nat))) ∧
    J (run cfg r (procOps blocks ++ flushOps drain ++ [.flush o])) true (N + (totalIn blocks : Nat)) ∧
    Q (run cfg r (procOps blocks ++ flushOps drain)) o (N + (totalIn blocks : Nat)) := by
  have hdrain : ∀ (r : Run ρ) (b : Bool) (N : Int), J r b N → ∃ b', J (run cfg r (flushOps drain)) b' N := by
    induction drain with
    | nil => exact fun r b N hb => ⟨b, hb⟩
    | cons o os ih => exact fun r b N hb => ih _ true N (hflush r b N o hb).1
  suffices ∃ b, J (run cfg r (procOps blocks ++ flushOps drain)) b (N + (totalIn blocks : Nat)) by
    obtain ⟨b, hb⟩ := this
    rw [run_append cfg r _ [.flush o]]
    exact ⟨⟨b, hb⟩, hflush _ b _ o hb⟩
  rw [run_append]
  induction blocks generalizing r N with
  | nil => rw [show N + ((totalIn [] : Nat) : Int) = N by simp [totalIn]]; exact hdrain r false N h
  | cons x xs ih =>
    have := ih _ _ (hproc r N x.1 x.2 h)
    rw [show N + (x.1 : Nat) + (totalIn xs : Nat) = N + (totalIn (x :: xs) : Nat) by
      simp only [totalIn, List.map_cons, List.sum_cons]; push_cast; omega] at this
    exact this

/-- **`soxr_process(in, ilen, …, olen)`** on the steady engine, before the flush -/
theorem eng_proc (cfg : Cfg ρ) (k : Nat) (S A0 : Int) (r : Run ρ) (N : Int) (i o : Nat) (h : EngRun k S A0 r false N) :
    EngRun k S A0 (stepOp cfg r (.proc i o)) false (N + (i : Nat)) := by
  obtain ⟨C, he, _⟩ := id h
  have hfl : r.st.fl = 0 := he.2.2.2.2.2.2.2
  exact (eng_call cfg k S A0 r _ false false N _ _ i o h (topped_input r.st i (by have := he.1.2.2.2.2.2.2.2; omega))
    (by simp only [fedB, fed, Bool.false_eq_true, if_false]; omega) (by rw [hfl]; exact feedStep_input k N _ (by omega))
    (by rw [hfl]; rfl) (fedB_mono false N _ (by omega) k) (by have := he.2.1; omega)).1

/-- **`soxr_process(NULL, …, olen)`.**  The first: `vr_flush` appends stage 0's preload of zeros, the call feeds it through
    the chain (each stage appending its own), and from then on the interpolator's limit is `⌊N / 2^k⌋` samples of stage `k`.
    Every later one: nothing is fed any more; the interpolator goes on against the same limit. -/
theorem eng_flush (cfg : Cfg ρ) (k : Nat) (S A0 : Int) (r : Run ρ) (b : Bool) (N : Int) (o : Nat) (h : EngRun k S A0 r b N) :
    EngRun k S A0 (stepOp cfg r (.flush o)) true N ∧
    ((stepOp cfg r (.flush o)).out < r.out + o →
      (fedB true N k - 480) * two32 ≤ A0 + ((stepOp cfg r (.flush o)).out : Int) * (2 * S) + S) := by
  obtain ⟨C, he, _⟩ := id h
  have hfl := he.2.2.2.2.2.2.2
  have hN := he.2.1
  rw [stepOp_flush]
  cases b
  · have hfl : r.st.fl = 0 := hfl
    refine eng_call cfg k S A0 r _ false true N N _ _ o h (topped_flush r.st (by have := he.1.2.2.2.2.2.2.2; omega) hfl)
      ?_ (by rw [hfl]; exact feedStep_flush k N hN) (by rw [hfl]; rfl) ?_ hN
    · rw [show (r.st.stg 0).pre = 240 from (he.2.2.2.2.1 0 (Nat.le_refl 0) (by omega)).2.trans filterLengths_eq.2.2.1]
      simp only [fedB, fed, fedF, Bool.false_eq_true, if_false, if_true]; omega
    · have := (fed_le_fedF N hN k).1; simp only [fedB, Bool.false_eq_true, if_false, if_true]; omega
  · have hfl : r.st.fl = -1 := hfl
    rw [show flush r.st = r.st from if_neg (by rw [hfl]; decide)]
    exact eng_call cfg k S A0 r _ true true N N _ 0 o h (topped_refl r.st) (Int.add_zero _).symm
      (by rw [hfl]; exact feedStep_done k N) (by rw [hfl]; rfl) (Int.le_refl _) hN

/-- **The whole engine, down-sampling stage `k`.**  From an engine that has just been given its ratio (clock at `A0`,
    nothing written, nothing delivered): after ANY sequence of `soxr_process` calls — any input block sizes, any output
    requests — followed by ANY flush calls the last of which delivers fewer frames than it was asked for, the number `K`
    of frames delivered in all satisfies the two clock inequalities against the WHOLE input `N`, in samples of stage `k`
    (`⌊N / 2^k⌋`): the second sample of frame `K − 1` lies inside it, the second sample of frame `K` does not.
    No stage switch was taken and the cross-faded streams never disagreed (there was no cross-fade). -/
theorem frames_engine_D (cfg : Cfg ρ) (k : Nat) (S A0 : Int) (s0 : St ρ) (blocks : List (Nat × Nat)) (drain : List Nat) (o : Nat)
    (h0 : Eng k S A0 s0 false 0 0 0)
    (hdr : (run cfg { st := s0 } (procOps blocks ++ flushOps drain ++ [.flush o])).out <
      (run cfg { st := s0 } (procOps blocks ++ flushOps drain)).out + o) :
    let R := run cfg { st := s0 } (procOps blocks ++ flushOps drain ++ [.flush o])
    (0 < R.out → A0 + ((R.out : Int) - 1) * (2 * S) + S < ((totalIn blocks : Int) / 2 ^ k) * two32) ∧
    ((totalIn blocks : Int) / 2 ^ k) * two32 ≤ A0 + (R.out : Int) * (2 * S) + S ∧ R.nsw = 0 ∧ R.nmis = 0 := by
  intro R
  obtain ⟨_, ⟨C, he, hn, hm⟩, hstop⟩ := run_blocks_drain cfg (EngRun k S A0)
    (fun r o N => (stepOp cfg r (.flush o)).out < r.out + o →
      (fedB true N k - 480) * two32 ≤ A0 + ((stepOp cfg r (.flush o)).out : Int) * (2 * S) + S)
    (eng_proc cfg k S A0) (eng_flush cfg k S A0) blocks drain o { st := s0 } 0 ⟨0, h0, rfl, rfl⟩
  rw [show stepOp cfg (run cfg { st := s0 } (procOps blocks ++ flushOps drain)) (.flush o) = R from
    (run_append cfg _ _ [.flush o]).symm] at hstop
  have hF : fedB true (0 + ((totalIn blocks : Nat) : Int)) k - 480 = (totalIn blocks : Int) / 2 ^ k := by
    simp only [fedB, if_true, fedF_closed]; rw [Int.zero_add]; omega
  have hhist := he.2.2.2.2.2.2.1
  rw [hF] at hhist hstop
  exact ⟨hhist, hstop hdr, hn, hm⟩

/-! ### A fresh engine that has just been given its (first) ratio -/

theorem init_stg (cfg : Cfg ρ) (mx : ρ) (j : Int) (h0 : -1 ≤ j) (h : j < max (cfg.num.numStages mx) 1) :
    ((init cfg mx).stg j).occ = stagePreload j ∧ ((init cfg mx).stg j).pre = stagePreload j := by
  unfold init St.stg
  have hlt : (j + 1).toNat < max (cfg.num.numStages mx) 1 + 1 := by omega
  simp [hlt, show max (j + 1) 0 - 1 = j by omega]

/-- `vr_create(max)` followed by the first `vr_set_io_ratio(r, 0)`: nothing outstanding, the FIFOs as `vr_init` left them,
    the clock half a step in, on a stage the engine has -/
theorem first_ratio_init (cfg : Cfg ρ) (mx r : ρ) :
    (setIoRatio cfg (init cfg mx) r 0).slew = 0 ∧ (setIoRatio cfg (init cfg mx) r 0).newR = none ∧
    (setIoRatio cfg (init cfg mx) r 0).fade = 0 ∧ (setIoRatio cfg (init cfg mx) r 0).cur.ss = 0 ∧
    (setIoRatio cfg (init cfg mx) r 0).defR = none ∧ (setIoRatio cfg (init cfg mx) r 0).fl = 0 ∧
    (setIoRatio cfg (init cfg mx) r 0).stages = (init cfg mx).stages ∧
    (setIoRatio cfg (init cfg mx) r 0).cur.isD = decide ((setIoRatio cfg (init cfg mx) r 0).cur.sn ≥ 0) ∧
    (setIoRatio cfg (init cfg mx) r 0).cur.clk = FRAC (setIoRatio cfg (init cfg mx) r 0).cur.step / 2 ∧
    -1 ≤ (setIoRatio cfg (init cfg mx) r 0).cur.sn ∧
    (setIoRatio cfg (init cfg mx) r 0).cur.sn < max (cfg.num.numStages mx) 1 := by
  obtain ⟨_, hlo, hhi⟩ := setIoRatio_first_sn cfg (init cfg mx) r mx rfl
  have hns : (init cfg mx).ns0 = cfg.num.numStages mx := rfl
  refine ⟨?_, ?_, ?_, ?_, ?_, ?_, ?_, ?_, ?clk, hlo, by omega⟩ <;> rw [setIoRatio_first cfg (init cfg mx) r mx rfl]
  case clk => show INT 0 * two32 + _ = _; simp [INT]
  all_goals rfl

theorem fed_zero (j : Nat) : fed 0 j = stagePreload (j : Int) := by
  cases j with
  | zero => rfl
  | succ j =>
    rw [show ((j + 1 : Nat) : Int) = (j : Int) + 1 from rfl, filterLengths_eq.2.2.2 j]
    induction j with
    | zero => rfl
    | succ j ih => rw [fed_succ, ih]; rfl

/-- `vr_create(max)` followed by the first `vr_set_io_ratio(r, 0)`, when that starts on the down-sampling stage `k` with
    an increment `S` inside the stage's octave: the invariant `Eng` with nothing written, consumed or delivered, and the
    clock half a step in (`FRAC(step) >> 1`). -/
theorem eng_init (cfg : Cfg ρ) (mx r : ρ) (k : Nat) (hk : (setIoRatio cfg (init cfg mx) r 0).cur.sn = (k : Int))
    (hS : 2147483648 ≤ (setIoRatio cfg (init cfg mx) r 0).cur.step ∧ (setIoRatio cfg (init cfg mx) r 0).cur.step ≤ 4294967296) :
    Eng k (setIoRatio cfg (init cfg mx) r 0).cur.step (FRAC (setIoRatio cfg (init cfg mx) r 0).cur.step / 2)
      (setIoRatio cfg (init cfg mx) r 0) false 0 0 0 := by
  obtain ⟨z1, z2, z3, z4, z5, z6, z7, z8, z9, _, z11⟩ := first_ratio_init cfg mx r
  generalize setIoRatio cfg (init cfg mx) r 0 = s0 at *
  have hd : s0.cur.isD = true := by rw [z8, hk]; simp
  refine ⟨⟨⟨z1, z2, z3, z4, by unfold InRange; rw [hd]; exact hS⟩, z5, hk, hd, rfl, ?_, ?_, ?_⟩, Int.le_refl _, Int.le_refl _,
    by omega, fun j _ hj => ?_, by rw [z9]; simp, fun h => absurd h (by omega), z6⟩
  · rw [z9]; unfold FRAC two32; omega
  · rw [z9]; unfold FRAC two32; omega
  · rw [z7]; unfold init; simp; omega
  · rw [show s0.stg j = (init cfg mx).stg j by unfold St.stg; rw [z7]]
    obtain ⟨a, b⟩ := init_stg cfg mx j (by omega) (by omega)
    exact ⟨by rw [a, Int.mul_zero, Int.sub_zero]; exact (fed_zero j).symm, b⟩

/-! ## The up-sampling stage (`stage_num = −1`, `poly_fir_u`)

Stage −1 holds the input doubled (`double_fir0/1`): `do_input_stage(−1, −1)` keeps its occupancy at twice what stage 0
holds beyond `2·HALF_FIR_LEN_2`; its preload is 0.  The interpolator reads stage −1, one output per iteration; the
hand-back converts the integer part of the clock to whole input frames (`idone = INT(at) >> 1`). -/

/-- zeros appended to stage 0 by `vr_flush` -/
def flushPad (b : Bool) : Int := if b then 240 else 0

/-- occupancies of stages 0 and −1 when `N` input frames have been written (`b`: flushed) and `C` input frames consumed -/
def ChainU (s : St ρ) (b : Bool) (N C : Int) : Prop :=
  (s.stg 0).occ = 240 + N + flushPad b - C ∧ (s.stg 0).pre = 240 ∧
  (s.stg (-1)).occ = 2 * (N + flushPad b) - 2 * C ∧ (s.stg (-1)).pre = 0

theorem ChainU.congr {s t : St ρ} {b : Bool} {N C : Int} (h : ChainU s b N C) (e : t.stages = s.stages) : ChainU t b N C := by
  unfold ChainU St.stg at *; rw [e]; exact h

def EngStU (S : Int) (s : St ρ) : Prop :=
  Steady s ∧ s.defR = none ∧ s.cur.sn = -1 ∧ s.cur.isD = false ∧ s.cur.step = S ∧ 0 ≤ s.cur.clk ∧ s.cur.clk < 2 * two32 ∧
  1 < s.stages.size

/-- the invariant between calls for the up-sampling stage: `C` input frames consumed, the absolute clock in half input
    frames (samples of stage −1) `2·C·2³² + at` has advanced by `S` per output frame -/
def EngU (S A0 : Int) (s : St ρ) (b : Bool) (N C : Int) (K : Nat) : Prop :=
  EngStU S s ∧ 0 ≤ N ∧ 0 ≤ C ∧ C ≤ max 0 (N + flushPad b - 240) ∧ ChainU s b N C ∧
  2 * C * two32 + s.cur.clk = A0 + (K : Int) * S ∧
  (0 < K → A0 + ((K : Int) - 1) * S < 2 * (N + flushPad b - 240) * two32) ∧
  s.fl = (if b then -1 else 0)

theorem post_steadyU (s : St ρ) (hf : s.fade = 0) (hsn : s.cur.sn = -1) :
    post s (-1) (-1) =
      readStages { s with cur := { s.cur with clk := s.cur.clk - INT s.cur.clk / 2 * 2 * two32 } } 0 (INT s.cur.clk / 2) 2 := by
  rw [post_nofade s _ _ hf, hsn, show max 0 (-1 : Int) - (-1 : Int) = 1 by decide, shiftr_one, shiftl_one]
  rfl

/-- `do_input_stage(−1, −1)`: afterwards stage −1 holds twice what stage 0 holds beyond 240, if that is not less than
    what it held -/
theorem doInput_up (s : St ρ) (mn a : Int) (hsz : 1 < s.stages.size) (h0 : (s.stg 0).occ = a + 240)
    (hpre : (s.stg (-1)).pre = 0) (hle : (s.stg (-1)).occ ≤ 2 * a) :
    ((doInput s (-1) (-1) mn).1.stg (-1)).occ = 2 * a ∧ ((doInput s (-1) (-1) mn).1.stg (-1)).pre = 0 ∧
    (doInput s (-1) (-1) mn).1.stg 0 = s.stg 0 ∧ (doInput s (-1) (-1) mn).1.stages.size = s.stages.size := by
  have hln : doInputLen s (-1) (-1) = 2 * a - (s.stg (-1)).occ := by
    unfold doInputLen
    dsimp only
    rw [show ((-1 : Int) - -1) = 0 by decide, h0, hpre, filterLengths_eq.1, shiftr_neg_one]
    omega
  obtain ⟨c2, _, c4, c5, c6⟩ := doInput_stg s (-1) (-1) mn (by decide) (by simp; omega)
  refine ⟨?_, c5.trans hpre, c4 0 (by decide) (by decide), c2⟩
  rw [c6, hln, hpre]
  split
  · split <;> simp <;> omega
  · omega

/-- the chain after `vr_input` / `vr_flush` (stage 0 has received `δ ≥ 0` more samples) and `do_input_stage(−1, −1)` -/
theorem chainU_fedSt (s t : St ρ) (b b' : Bool) (N N' C δ : Int) (olen : Nat) (hc : ChainU s b N C)
    (hsn : t.cur.sn = -1) (hsz : 1 < t.stages.size)
    (ht0 : t.stg 0 = { s.stg 0 with occ := (s.stg 0).occ + δ }) (ht1 : t.stg (-1) = s.stg (-1))
    (hδ : N' + flushPad b' = N + flushPad b + δ) (hδ0 : 0 ≤ δ) :
    ChainU (fedSt t olen) b' N' C ∧ (fedSt t olen).stages.size = t.stages.size ∧
    shiftr (shiftl (max 0 (((fedSt t olen).stg (-1)).occ - 4 * (H2 : Int))) (-1)) (-1) =
      max 0 (2 * (N' + flushPad b' - 240 - C)) := by
  obtain ⟨a0, p0, a1, p1⟩ := hc
  have e : (fedSt t olen).stages = (doInput ({ t with oocc := t.oocc + olen } : St ρ) (-1) (-1) (-1)).1.stages := by
    rw [fedSt_stages, hsn, show min (-1 : Int) 0 = -1 by decide, intRange_cons _ _ (Int.le_refl _), intRange_nil _ _ (by decide),
      inputStages, if_neg (show ¬ (-1 : Int) = 0 by decide), if_pos (show (-1 : Int) < 0 by decide)]
    dsimp only
    split <;> rfl
  have hstg : ∀ j, (fedSt t olen).stg j = (doInput ({ t with oocc := t.oocc + olen } : St ρ) (-1) (-1) (-1)).1.stg j :=
    fun j => by unfold St.stg; rw [e]
  obtain ⟨d1, d2, d3, d4⟩ := doInput_up ({ t with oocc := t.oocc + olen } : St ρ) (-1) (N' + flushPad b' - C) hsz
    (by show (t.stg 0).occ = _; rw [ht0]; show (s.stg 0).occ + δ = _; omega)
    (by show (t.stg (-1)).pre = _; rw [ht1]; exact p1) (by show (t.stg (-1)).occ ≤ _; rw [ht1]; omega)
  refine ⟨⟨?_, ?_, by rw [hstg, d1]; omega, by rw [hstg, d2]⟩, (congrArg Array.size e).trans d4, ?_⟩
  · rw [hstg, d3]; show (t.stg 0).occ = _; rw [ht0]; show (s.stg 0).occ + δ = _; omega
  · rw [hstg, d3]; show (t.stg 0).pre = _; rw [ht0]; exact p0
  · rw [shiftl_neg_one, shiftr_neg_one, hstg, d1, filterLengths_eq.1]; omega

/-- `fifo_read` on stages 0 and −1: `idone` input frames handed back -/
theorem readU_chain (s : St ρ) (b : Bool) (N C idone : Int) (hc : ChainU s b N C) (hsz : 1 < s.stages.size) (hN : 0 ≤ N)
    (h0 : 0 ≤ idone) (hb : C + idone ≤ max 0 (N + flushPad b - 240)) :
    ChainU (readStages s 0 idone 2) b N (C + idone) ∧ (readStages s 0 idone 2).stages.size = s.stages.size := by
  obtain ⟨a0, q0, a1, q1⟩ := hc
  have hpad : 0 ≤ flushPad b := by unfold flushPad; split <;> decide
  obtain ⟨r2, r1⟩ := readStages_stg 2 s 0 idone (by decide) (by simp; omega) h0 (fun m hm => by
    obtain rfl | rfl : m = 0 ∨ m = 1 := by omega
    · rw [show (0 : Int) - ((0 : Nat) : Int) = 0 by decide, a0]; omega
    · rw [show (0 : Int) - ((1 : Nat) : Int) = -1 by decide, a1]; omega)
  refine ⟨⟨?_, ?_, ?_, ?_⟩, r2⟩
  · rw [r1 0 (by decide), if_pos (by decide)]; show (s.stg 0).occ - _ = _; rw [a0]; simp; omega
  · rw [r1 0 (by decide), if_pos (by decide)]; exact q0
  · rw [r1 (-1) (by decide), if_pos (by decide)]; show (s.stg (-1)).occ - _ = _; rw [a1]; simp; omega
  · rw [r1 (-1) (by decide), if_pos (by decide)]; exact q1

/-- `clock_handback` in the units of the up-sampling stage: the clock counts half input frames, the hand-back whole ones
    (`T = 2·2³²`), a frame is one step and reads nothing ahead -/
theorem clock_handbackU (A0 S C M M' clk xclk : Int) (K x n : Nat) (hS : 0 < S) (hS2 : S ≤ 8589934592)
    (hC : C ≤ max 0 M) (hmono : M ≤ M') (hclk0 : 0 ≤ clk) (hclk1 : clk < 2 * two32)
    (hclock : 2 * C * two32 + clk = A0 + (K : Int) * S) (hhist : 0 < K → A0 + ((K : Int) - 1) * S < 2 * M * two32)
    (f1 : xclk = clk + (x : Int) * S) (f2 : x < n → max 0 (2 * (M' - C)) * two32 ≤ clk + (x : Int) * S + 0)
    (f3 : ∀ i : Nat, i < x → clk + (i : Int) * S + 0 < max 0 (2 * (M' - C)) * two32) :
    0 ≤ INT xclk / 2 ∧ C + INT xclk / 2 ≤ max 0 M' ∧ 0 ≤ xclk - INT xclk / 2 * 2 * two32 ∧
    xclk - INT xclk / 2 * 2 * two32 < 2 * two32 ∧
    2 * (C + INT xclk / 2) * two32 + (xclk - INT xclk / 2 * 2 * two32) = A0 + ((K + x : Nat) : Int) * S ∧
    (0 < K + x → A0 + (((K + x : Nat) : Int) - 1) * S < 2 * M' * two32) ∧
    (x < n → 2 * M' * two32 ≤ A0 + ((K + x : Nat) : Int) * S) := by
  have e : INT xclk / 2 = xclk / (two32 * 2) := Int.ediv_ediv_of_nonneg (by decide)
  rw [e]
  unfold two32 at *
  obtain ⟨i0, i1, c0, c1, ceq, g1, g2⟩ := clock_handback A0 S 0 (4294967296 * 2) C M M' clk xclk K x n (by decide) (by omega)
    (Int.le_refl 0) (by omega) hC hmono hclk0 (by omega) (by omega) (fun h => by have := hhist h; omega) f1
    (fun h => by have := f2 h; omega) (fun i hi => by have := f3 i hi; omega)
  clear f2 f3 hhist hC hmono
  exact ⟨i0, i1, by omega, by omega, by omega, fun h => by have := g1 h; omega, fun h => by have := g2 h; omega⟩

theorem EngU.of_eq {S A0 : Int} {s t : St ρ} {b : Bool} {N C : Int} {K : Nat} (h : EngU S A0 s b N C K) (o : Int)
    (hc : t.ctl = { s.ctl with oocc := o }) (hs : t.stages = s.stages) : EngU S A0 t b N C K := by
  obtain ⟨hE, hN, hC0, hC, hchain, hclock, hhist, hfl⟩ := h
  have hcur : t.cur = s.cur := congrArg Ctl.cur hc
  exact ⟨EngAt.of_ctl (sn := -1) (d := false) hE s.cur.clk s.cur.len o s.fl hc hE.2.2.2.2.2.1 hE.2.2.2.2.2.2.1
    (congrArg Array.size hs), hN, hC0, hC, hchain.congr hs, hcur ▸ hclock, hhist,
    (congrArg Ctl.fl hc).trans hfl⟩

def EngRunU (S A0 : Int) (r : Run ρ) (b : Bool) (N : Int) : Prop :=
  ∃ C, EngU S A0 r.st b N C r.out ∧ r.nsw = 0 ∧ r.nmis = 0

/-- **One call on the up-sampling stage**: as `eng_call`, with `poly_fir_u` against `len = max(0, 2·(written − 240 −
    consumed))` half frames. -/
theorem engU_call (cfg : Cfg ρ) (S A0 : Int) (r : Run ρ) (t : St ρ) (b b' : Bool) (N N' f δ : Int) (olen : Nat)
    (h : EngRunU S A0 r b N) (ht : Topped r.st t f δ) (hδ : N' + flushPad b' = N + flushPad b + δ) (hδ0 : 0 ≤ δ)
    (hfl : (if f > 0 then -1 else f) = if b' then -1 else 0) (hN' : 0 ≤ N') :
    EngRunU S A0 (r.after (process cfg t olen) olen) b' N' ∧
    ((r.after (process cfg t olen) olen).out < r.out + olen →
      2 * (N' + flushPad b' - 240) * two32 ≤ A0 + ((r.after (process cfg t olen) olen).out : Int) * S) := by
  obtain ⟨C, he, hn, hm⟩ := h
  obtain ⟨htc, hts, ht0, htj⟩ := ht
  have ht1 := htj (-1) (by decide) (by decide)
  obtain ⟨s, hs⟩ : ∃ s, s = r.st := ⟨_, rfl⟩
  obtain ⟨K, hK⟩ : ∃ K, K = r.out := ⟨_, rfl⟩
  rw [← hs] at he htc hts ht0 ht1
  rw [← hK] at he
  have hE := he.1
  have hmono : N + flushPad b - 240 ≤ N' + flushPad b' - 240 := by omega
  have hEt : EngStU S t :=
    EngAt.of_ctl (sn := -1) (d := false) hE s.cur.clk s.cur.len s.oocc f htc hE.2.2.2.2.2.1 hE.2.2.2.2.2.2.1 hts
  obtain ⟨hst, hdef, hsn, hisd, hstep, hclk0, hclk1, hsize⟩ := hEt
  have hcur : t.cur = s.cur := congrArg Ctl.cur htc
  have htfl : t.fl = f := congrArg Ctl.fl htc
  have hSr : 0 < S ∧ S ≤ 8589934592 := by
    have := hst.2.2.2.2; unfold InRange at this; rw [hisd, hstep] at this; simpa using this
  obtain ⟨hfed, hfsz, hL⟩ := chainU_fedSt s t b b' N N' C δ olen he.2.2.2.2.1 hsn hsize ht0 ht1 hδ hδ0
  -- the interpolator
  obtain ⟨X, p, hX, hp, p1, p2, p3, p4⟩ := process_steady cfg t olen hst hdef (-1) _ false hsn hisd hL
  have hss : ({ t.cur with len := max 0 (2 * (N' + flushPad b' - 240 - C)) } : Stream).ss = 0 := hst.2.2.2.1
  obtain ⟨f1, f2, f3⟩ := fir_const false olen { t.cur with len := max 0 (2 * (N' + flushPad b' - 240 - C)) } hss (Int.le_refl 0)
  have hX1 := fir_const_state false olen _ hss
  rw [← hX] at f1 f2 f3 hX1
  simp only [Stream.unit, Stream.look, Bool.false_eq_true, if_false, hstep] at f1 f2 f3
  obtain ⟨i0, i1, c0, c1, ceq, g1, g2⟩ := clock_handbackU A0 S C (N + flushPad b - 240) (N' + flushPad b' - 240) t.cur.clk
    X.1.clk K X.2 olen hSr.1 hSr.2 he.2.2.2.1 hmono hclk0 hclk1 (hcur ▸ he.2.2.2.2.2.1) he.2.2.2.2.2.2.1 f1 f2 f3
  -- the hand-back
  rw [post_steadyU { fedSt t olen with cur := X.1 } ((congrArg Ctl.fade (fedSt_ctl t olen)).trans hst.2.2.1)
    (by rw [hX1]; exact hsn)] at hp
  obtain ⟨r1, r2⟩ := readU_chain
    ({ fedSt t olen with cur := { X.1 with clk := X.1.clk - INT X.1.clk / 2 * 2 * two32 } } : St ρ) b' N' C (INT X.1.clk / 2)
    (hfed.congr rfl) (Nat.lt_of_lt_of_eq hsize hfsz.symm) hN' i0 i1
  have hpc := readStages_ctl 2
    ({ fedSt t olen with cur := { X.1 with clk := X.1.clk - INT X.1.clk / 2 * 2 * two32 } } : St ρ) 0 (INT X.1.clk / 2)
  rw [← hp] at r1 r2 hpc
  have key : EngU S A0 p b' N' (C + INT X.1.clk / 2) (K + X.2) := by
    refine ⟨EngAt.of_ctl (sn := -1) (d := false) hE (X.1.clk - INT X.1.clk / 2 * 2 * two32)
      (max 0 (2 * (N' + flushPad b' - 240 - C))) (t.oocc + olen) (if b' then -1 else 0) ?_ c0 c1 (r2.trans (hfsz.trans hts)),
      hN', Int.add_nonneg he.2.2.1 i0, i1, r1, ?_, g1, (congrArg Ctl.fl hpc).trans ?_⟩
    · rw [hpc, hX1]
      show ({ (fedSt t olen).ctl with cur := _ } : Ctl ρ) = _
      rw [fedSt_ctl, htc, hcur, htfl, hfl]
    · rw [show p.cur.clk = X.1.clk - INT X.1.clk / 2 * 2 * two32 from congrArg (fun c : Ctl ρ => c.cur.clk) hpc]
      exact ceq
    · show (fedSt t olen).fl = _
      rw [show (fedSt t olen).fl = _ from congrArg Ctl.fl (fedSt_ctl t olen), htfl, hfl]
  refine ⟨⟨C + INT X.1.clk / 2, ?_, by show r.nsw + _ = 0; omega, by show r.nmis + _ = 0; omega⟩, fun hlt => ?_⟩
  · show EngU S A0 _ b' N' _ (r.out + (process cfg t olen).od)
    rw [p2, ← hK]
    exact key.of_eq _ (by show (output (process cfg t olen).st olen).1.ctl = _; rw [p1]; rfl)
      (by show (output (process cfg t olen).st olen).1.stages = _; rw [p1]; rfl)
  · show _ ≤ A0 + ((r.out + (process cfg t olen).od : Nat) : Int) * S
    rw [p2, ← hK]; exact g2 (by rw [← p2]; exact Nat.lt_of_add_lt_add_left hlt)

/-- `soxr_process(in, ilen, …, olen)` on the up-sampling stage, before the flush -/
theorem engU_proc (cfg : Cfg ρ) (S A0 : Int) (r : Run ρ) (N : Int) (i o : Nat) (h : EngRunU S A0 r false N) :
    EngRunU S A0 (stepOp cfg r (.proc i o)) false (N + (i : Nat)) := by
  obtain ⟨C, he, _⟩ := id h
  have hfl : r.st.fl = 0 := he.2.2.2.2.2.2.2
  exact (engU_call cfg S A0 r _ false false N _ _ i o h (topped_input r.st i he.1.2.2.2.2.2.2.2) (by omega) (by omega)
    (by rw [hfl]; rfl) (by have := he.2.1; omega)).1

/-- `soxr_process(NULL, …, olen)` on the up-sampling stage: the first appends stage 0's preload of zeros, the later ones
    nothing; a call that delivers less than asked has run the clock past the whole input -/
theorem engU_flush (cfg : Cfg ρ) (S A0 : Int) (r : Run ρ) (b : Bool) (N : Int) (o : Nat) (h : EngRunU S A0 r b N) :
    EngRunU S A0 (stepOp cfg r (.flush o)) true N ∧
    ((stepOp cfg r (.flush o)).out < r.out + o →
      2 * (N + flushPad true - 240) * two32 ≤ A0 + ((stepOp cfg r (.flush o)).out : Int) * S) := by
  obtain ⟨C, he, _⟩ := id h
  have hfl := he.2.2.2.2.2.2.2
  rw [stepOp_flush]
  cases b
  · have hfl : r.st.fl = 0 := hfl
    exact engU_call cfg S A0 r _ false true N N _ _ o h (topped_flush r.st he.1.2.2.2.2.2.2.2 hfl)
      (by rw [he.2.2.2.2.1.2.1]; show N + 240 = N + 0 + 240; omega) (by omega) (by rw [hfl]; rfl) he.2.1
  · have hfl : r.st.fl = -1 := hfl
    rw [show flush r.st = r.st from if_neg (by rw [hfl]; decide)]
    exact engU_call cfg S A0 r _ true true N N _ 0 o h (topped_refl r.st) (Int.add_zero _).symm (Int.le_refl 0)
      (by rw [hfl]; rfl) he.2.1

/-- **The whole engine, up-sampling stage.**  As `frames_engine_D`, in samples of stage −1 (half input frames): the whole
    input is `2·N` of them. -/
theorem frames_engine_U (cfg : Cfg ρ) (S A0 : Int) (s0 : St ρ) (blocks : List (Nat × Nat)) (drain : List Nat) (o : Nat)
    (h0 : EngU S A0 s0 false 0 0 0)
    (hdr : (run cfg { st := s0 } (procOps blocks ++ flushOps drain ++ [.flush o])).out <
      (run cfg { st := s0 } (procOps blocks ++ flushOps drain)).out + o) :
    let R := run cfg { st := s0 } (procOps blocks ++ flushOps drain ++ [.flush o])
    (0 < R.out → A0 + ((R.out : Int) - 1) * S < 2 * (totalIn blocks : Int) * two32) ∧
    2 * (totalIn blocks : Int) * two32 ≤ A0 + (R.out : Int) * S ∧ R.nsw = 0 ∧ R.nmis = 0 := by
  intro R
  obtain ⟨_, ⟨C, he, hn, hm⟩, hstop⟩ := run_blocks_drain cfg (EngRunU S A0)
    (fun r o N => (stepOp cfg r (.flush o)).out < r.out + o →
      2 * (N + flushPad true - 240) * two32 ≤ A0 + ((stepOp cfg r (.flush o)).out : Int) * S)
    (engU_proc cfg S A0) (engU_flush cfg S A0) blocks drain o { st := s0 } 0 ⟨0, h0, rfl, rfl⟩
  rw [show stepOp cfg (run cfg { st := s0 } (procOps blocks ++ flushOps drain)) (.flush o) = R from
    (run_append cfg _ _ [.flush o]).symm] at hstop
  have hF : 2 * ((0 : Int) + ((totalIn blocks : Nat) : Int) + flushPad true - 240) = 2 * (totalIn blocks : Int) := by
    show 2 * ((0 : Int) + _ + 240 - 240) = _; omega
  have hhist := he.2.2.2.2.2.2.1
  rw [hF] at hhist hstop
  exact ⟨hhist, hstop hdr, hn, hm⟩

/-- `vr_create(max)` followed by a first `vr_set_io_ratio(r, 0)` that starts on the up-sampling stage -/
theorem engU_init (cfg : Cfg ρ) (mx r : ρ) (hk : (setIoRatio cfg (init cfg mx) r 0).cur.sn = -1)
    (hS : 0 < (setIoRatio cfg (init cfg mx) r 0).cur.step ∧ (setIoRatio cfg (init cfg mx) r 0).cur.step ≤ 8589934592) :
    EngU (setIoRatio cfg (init cfg mx) r 0).cur.step (FRAC (setIoRatio cfg (init cfg mx) r 0).cur.step / 2)
      (setIoRatio cfg (init cfg mx) r 0) false 0 0 0 := by
  obtain ⟨z1, z2, z3, z4, z5, z6, z7, z8, z9, _, z11⟩ := first_ratio_init cfg mx r
  generalize setIoRatio cfg (init cfg mx) r 0 = s0 at *
  have hd : s0.cur.isD = false := by rw [z8, hk]; decide
  have hstg : ∀ j, s0.stg j = (init cfg mx).stg j := fun j => by unfold St.stg; rw [z7]
  obtain ⟨i0, i1⟩ := init_stg cfg mx 0 (by decide) (by omega)
  obtain ⟨j0, j1⟩ := init_stg cfg mx (-1) (by decide) (by omega)
  refine ⟨⟨⟨z1, z2, z3, z4, by unfold InRange; rw [hd]; exact hS⟩, z5, hk, hd, rfl, ?_, ?_, ?_⟩, Int.le_refl _, Int.le_refl _,
    by decide, ⟨by rw [hstg, i0]; rfl, by rw [hstg, i1]; rfl, by rw [hstg, j0]; rfl, by rw [hstg, j1]; rfl⟩, by rw [z9]; simp,
    fun h => absurd h (by omega), z6⟩
  · rw [z9]; unfold FRAC two32; omega
  · rw [z9]; unfold FRAC two32; omega
  · rw [z7]; unfold init; simp; omega

/-- **Draining.**  After any call sequence, a flush request larger than the whole input at the engine's rate
    (`o·S > 2·N·2³² + S`) cannot be met: that call ends the stream — and then every further flush call returns nothing. -/
theorem engU_drains (cfg : Cfg ρ) (S A0 : Int) (s0 : St ρ) (blocks : List (Nat × Nat)) (drain : List Nat) (o o2 : Nat)
    (h0 : EngU S A0 s0 false 0 0 0) (hA : 0 ≤ A0) (hS : 0 < S) (ho : 2 * (totalIn blocks : Int) * two32 + S < (o : Int) * S) :
    (run cfg { st := s0 } (procOps blocks ++ flushOps drain ++ [.flush o])).out <
      (run cfg { st := s0 } (procOps blocks ++ flushOps drain)).out + o ∧
    (run cfg { st := s0 } (procOps blocks ++ flushOps drain ++ [.flush o] ++ [.flush o2])).out =
      (run cfg { st := s0 } (procOps blocks ++ flushOps drain ++ [.flush o])).out := by
  obtain ⟨⟨b, hJ⟩, _⟩ := run_blocks_drain cfg (EngRunU S A0) (fun _ _ _ => True) (engU_proc cfg S A0)
    (fun r b N o h => ⟨(engU_flush cfg S A0 r b N o h).1, trivial⟩) blocks drain o { st := s0 } 0 ⟨0, h0, rfl, rfl⟩
  rw [run_append cfg _ _ [.flush o2], run_append cfg _ _ [.flush o]]
  generalize run cfg { st := s0 } (procOps blocks ++ flushOps drain) = R' at *
  obtain ⟨hJ1, hstop⟩ := engU_flush cfg S A0 R' b _ o hJ
  obtain ⟨⟨_, he2, _, _⟩, _⟩ := engU_flush cfg S A0 _ true _ o2 hJ1
  obtain ⟨_, he1, _, _⟩ := hJ1
  have hle1 : R'.out ≤ (stepOp cfg R' (.flush o)).out := Nat.le_add_right _ _
  have hle2 : (stepOp cfg R' (.flush o)).out ≤ (stepOp cfg (stepOp cfg R' (.flush o)) (.flush o2)).out := Nat.le_add_right _ _
  show (stepOp cfg R' (.flush o)).out < _ ∧
    (stepOp cfg (stepOp cfg R' (.flush o)) (.flush o2)).out = (stepOp cfg R' (.flush o)).out
  generalize stepOp cfg (stepOp cfg R' (.flush o)) (.flush o2) = R2 at *
  generalize stepOp cfg R' (.flush o) = R at *
  have hpad : 2 * ((0 : Int) + ((totalIn blocks : Nat) : Int) + flushPad true - 240) = 2 * (totalIn blocks : Int) := by
    show 2 * ((0 : Int) + _ + 240 - 240) = _; omega
  have hh1 := he1.2.2.2.2.2.2.1
  have hh2 := he2.2.2.2.2.2.2.1
  rw [hpad] at hh1 hh2 hstop
  -- frames `a ≤ b` apart are at least `(b − a)·S` clock units apart
  have hmul : ∀ a c : Nat, a ≤ c → (a : Int) * S ≤ (c : Int) * S := fun a c h =>
    Int.mul_le_mul_of_nonneg_right (by omega) (Int.le_of_lt hS)
  have h2N : 0 ≤ 2 * (totalIn blocks : Int) * two32 := by unfold two32; omega
  have hdr : R.out < R'.out + o := by
    refine Nat.lt_of_not_le fun hge => ?_
    have ho0 : 0 < o := Nat.pos_of_ne_zero fun h => by subst h; simp at ho; omega
    have := hh1 (by omega)
    have := hmul o R.out (by omega)
    rw [Int.sub_mul] at *
    omega
  refine ⟨hdr, Nat.le_antisymm (Nat.le_of_not_lt fun hlt => ?_) hle2⟩
  have := hh2 (by omega)
  have := hmul (R.out + 1) R2.out hlt
  have := hstop hdr
  push_cast at *
  rw [Int.sub_mul, Int.add_mul] at *
  omega

end Soxr.Vr
