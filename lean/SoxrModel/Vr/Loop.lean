import SoxrModel.Vr.Model
/-!
# The interpolator loops as one loop

`poly_fir_u`, `poly_fir_fade_u` and the pairs of `poly_fir_d` are the same loop: up to `n` rounds of "advance the clock"
for as long as the sample(s) the round needs are inside the input.  `iterWhile` is that loop over any guard and step;
what is proved about it here (composition, running dry, invariants, two loops in lock-step) is all the other files use.
-/
namespace Soxr.Vr

/-- up to `n` rounds of `f`, stopping at the first state where `g` fails: the state reached and the rounds done -/
def iterWhile {α : Type} (g : α → Prop) [DecidablePred g] (f : α → α) : α → Nat → α × Nat
  | a, 0 => (a, 0)
  | a, n + 1 => if g a then ((iterWhile g f (f a) n).1, (iterWhile g f (f a) n).2 + 1) else (a, 0)

section
variable {α : Type} {g : α → Prop} [DecidablePred g] {f : α → α}

theorem iterWhile_zero (a : α) : iterWhile g f a 0 = (a, 0) := rfl

theorem iterWhile_succ {a : α} (h : g a) (n : Nat) :
    iterWhile g f a (n + 1) = ((iterWhile g f (f a) n).1, (iterWhile g f (f a) n).2 + 1) := if_pos h

theorem iterWhile_of_not {a : α} (h : ¬ g a) : ∀ n, iterWhile g f a n = (a, 0)
  | 0 => rfl
  | _ + 1 => if_neg h

theorem iterWhile_count_le (a : α) (n : Nat) : (iterWhile g f a n).2 ≤ n := by
  induction n generalizing a with
  | zero => exact Nat.le_refl 0
  | succ n ih =>
    by_cases h : g a
    · rw [iterWhile_succ h]; exact Nat.succ_le_succ (ih _)
    · rw [iterWhile_of_not h]; exact Nat.zero_le _

/-- a loop that did fewer rounds than it was allowed stands at a state where the guard fails -/
theorem iterWhile_stop (a : α) (n : Nat) (h : (iterWhile g f a n).2 < n) : ¬ g (iterWhile g f a n).1 := by
  induction n generalizing a with
  | zero => omega
  | succ n ih =>
    by_cases hg : g a
    · rw [iterWhile_succ hg] at h ⊢
      exact ih _ (by simpa using h)
    · rw [iterWhile_of_not hg]; exact hg

/-- a relation between the start and (state, rounds so far) that every guarded round keeps holds at the end -/
theorem iterWhile_inv (P : α → Nat → Prop) (hs : ∀ b i, P b i → g b → P (f b) (i + 1)) (a : α) (n : Nat) (h0 : P a 0) :
    P (iterWhile g f a n).1 (iterWhile g f a n).2 := by
  induction n generalizing a P with
  | zero => exact h0
  | succ n ih =>
    by_cases hg : g a
    · rw [iterWhile_succ hg]
      exact ih (fun b i => P b (i + 1)) (fun b i => hs b (i + 1)) (f a) (hs a 0 h0 hg)
    · rw [iterWhile_of_not hg]; exact h0

/-- a loop that did all its `m` rounds, continued for `n` more, is the loop of `m + n` rounds -/
theorem iterWhile_add (a : α) (m n : Nat) (h : (iterWhile g f a m).2 = m) :
    iterWhile g f a (m + n) =
      ((iterWhile g f (iterWhile g f a m).1 n).1, m + (iterWhile g f (iterWhile g f a m).1 n).2) := by
  induction m generalizing a with
  | zero => simp [iterWhile_zero]
  | succ m ih =>
    by_cases hg : g a
    · have h' : (iterWhile g f (f a) m).2 = m := by rw [iterWhile_succ hg] at h; simpa using h
      rw [show m + 1 + n = (m + n) + 1 by omega, iterWhile_succ hg, ih (f a) h', iterWhile_succ hg]
      exact Prod.ext rfl (by dsimp only; omega)
    · rw [iterWhile_of_not hg] at h; exact absurd h (by simp)

/-- a loop that ran dry within `m` rounds does the same whatever more it is allowed -/
theorem iterWhile_stuck (a : α) (m n : Nat) (h : (iterWhile g f a m).2 < m) (hmn : m ≤ n) :
    iterWhile g f a n = iterWhile g f a m := by
  induction m generalizing a n with
  | zero => omega
  | succ m ih =>
    obtain ⟨n, rfl⟩ : ∃ n', n = n' + 1 := ⟨n - 1, by omega⟩
    by_cases hg : g a
    · rw [iterWhile_succ hg] at h ⊢
      rw [iterWhile_succ hg, ih (f a) n (by simpa using h) (by omega)]
    · rw [iterWhile_of_not hg, iterWhile_of_not hg]

/-- **Two loops in lock-step.**  If a relation `R i` (`i`: rounds so far) between the states of a second loop and of this
    one makes every round this loop can do a round the other can do too, and is kept by the pair of rounds, then the
    other loop, asked for as many rounds as this one did, does them all, and the relation holds at the end. -/
theorem iterWhile_follow {β : Type} {g' : β → Prop} [DecidablePred g'] {f' : β → β} (R : Nat → β → α → Prop) (n : Nat) :
    ∀ (i : Nat) (b : β) (a : α), R i b a →
      (∀ j b a, i ≤ j → j < i + n → R j b a → g a → g' b ∧ R (j + 1) (f' b) (f a)) →
      (iterWhile g' f' b (iterWhile g f a n).2).2 = (iterWhile g f a n).2 ∧
      R (i + (iterWhile g f a n).2) (iterWhile g' f' b (iterWhile g f a n).2).1 (iterWhile g f a n).1 := by
  induction n with
  | zero => intro i b a h _; exact ⟨rfl, h⟩
  | succ n ih =>
    intro i b a h hR
    by_cases hg : g a
    · obtain ⟨hg', h1⟩ := hR i b a (Nat.le_refl i) (by omega) h hg
      obtain ⟨e, r⟩ := ih (i + 1) (f' b) (f a) h1 (fun j b a hj hj' => hR j b a (by omega) (by omega))
      rw [iterWhile_succ hg, iterWhile_succ hg']
      exact ⟨by rw [e], by rw [← Nat.add_assoc, Nat.add_right_comm]; exact r⟩
    · rw [iterWhile_of_not hg]; exact ⟨rfl, h⟩

end

/-! ### The two kinds of stream -/

/-- one round: `at += step` once (`poly_fir_u`) or twice (a pair of `poly_fir_d`), then `step += step_step` -/
def Stream.next (d : Bool) (s : Stream) : Stream :=
  { s with clk := if d then s.clk + s.step + s.step else s.clk + s.step, step := s.step + s.ss }

/-- the round has its input: the sample at the clock and, for a pair of `poly_fir_d`, the one a step later -/
def Stream.ok (d : Bool) (s : Stream) : Prop :=
  INT s.clk < s.len ∧ (d = true → INT (s.clk + s.step) < s.len)

instance (d : Bool) : DecidablePred (Stream.ok d) := fun s => by unfold Stream.ok; infer_instance

/-- the interpolator loop of a stream of kind `d` (`true`: down-sampling, counted in pairs) -/
def fir (d : Bool) (s : Stream) (n : Nat) : Stream × Nat := iterWhile (Stream.ok d) (Stream.next d) s n

theorem firU_eq_fir (s : Stream) (n : Nat) : firU s n = fir false s n := by
  induction n generalizing s with
  | zero => rfl
  | succ n ih =>
    unfold firU fir
    by_cases h : INT s.clk < s.len
    · rw [if_pos h, iterWhile_succ ⟨h, fun x => absurd x (by decide)⟩, ih]; rfl
    · rw [if_neg h, iterWhile_of_not (fun x => h x.1)]

theorem fadeUIter_eq_fir (s : Stream) (n : Nat) : fadeUIter s n = fir false s n := by
  induction n generalizing s with
  | zero => rfl
  | succ n ih =>
    unfold fadeUIter fir
    by_cases h : INT s.clk < s.len
    · rw [if_pos h, iterWhile_succ ⟨h, fun x => absurd x (by decide)⟩, ih]; rfl
    · rw [if_neg h, iterWhile_of_not (fun x => h x.1)]

theorem firDPairs_eq_fir (s : Stream) (n : Nat) : firDPairs s n = fir true s n := by
  induction n generalizing s with
  | zero => rfl
  | succ n ih =>
    unfold firDPairs fir
    by_cases h : INT s.clk < s.len
    · by_cases h2 : INT (s.clk + s.step) < s.len
      · rw [if_pos h, iterWhile_succ ⟨h, fun _ => h2⟩]; dsimp only; rw [if_pos h2, ih]; rfl
      · rw [if_pos h, iterWhile_of_not (fun x => h2 (x.2 rfl))]; dsimp only; rw [if_neg h2]
    · rw [if_neg h, iterWhile_of_not (fun x => h x.1)]

/-- `iterWhile_follow` for two streams -/
theorem fir_follow (d d' : Bool) (R : Nat → Stream → Stream → Prop) (n i : Nat) (b a : Stream) (h0 : R i b a)
    (hR : ∀ j b a, i ≤ j → j < i + n → R j b a → a.ok d → b.ok d' ∧ R (j + 1) (b.next d') (a.next d)) :
    (fir d' b (fir d a n).2).2 = (fir d a n).2 ∧ R (i + (fir d a n).2) (fir d' b (fir d a n).2).1 (fir d a n).1 :=
  iterWhile_follow R n i b a h0 hR

/-- a loop moves the clock, adds `step_step` to `step` once per round, and touches nothing else -/
theorem fir_spec (d : Bool) (n : Nat) (s : Stream) :
    (fir d s n).1.step = s.step + ((fir d s n).2 : Int) * s.ss ∧ (fir d s n).1.ss = s.ss ∧
    (fir d s n).1.mult = s.mult ∧ (fir d s n).1.sn = s.sn ∧ (fir d s n).1.isD = s.isD ∧ (fir d s n).1.len = s.len ∧
    (fir d s n).2 ≤ n := by
  obtain ⟨h1, h2, h3, h4, h5, h6⟩ := iterWhile_inv (g := Stream.ok d) (f := Stream.next d)
    (fun b i => b.step = s.step + (i : Int) * s.ss ∧ b.ss = s.ss ∧ b.mult = s.mult ∧ b.sn = s.sn ∧ b.isD = s.isD ∧
      b.len = s.len)
    (fun b i ⟨h1, h2, h3, h4, h5, h6⟩ _ =>
      ⟨by show b.step + b.ss = _; rw [h1, h2]; push_cast; rw [Int.add_mul]; omega, h2, h3, h4, h5, h6⟩)
    s n ⟨by simp, rfl, rfl, rfl, rfl, rfl⟩
  exact ⟨h1, h2, h3, h4, h5, h6, iterWhile_count_le s n⟩

/-- `fir_spec` as one record equation -/
theorem fir_state (d : Bool) (n : Nat) (s : Stream) :
    (fir d s n).1 = { s with clk := (fir d s n).1.clk, step := s.step + ((fir d s n).2 : Int) * s.ss } := by
  obtain ⟨h1, h2, h3, h4, h5, h6, _⟩ := fir_spec d n s
  cases hX : (fir d s n).1
  rw [hX] at h1 h2 h3 h4 h5 h6
  cases s
  simp_all

/-- at `step_step = 0` a loop moves the clock and nothing else -/
theorem fir_const_state (d : Bool) (n : Nat) (s : Stream) (h0 : s.ss = 0) :
    (fir d s n).1 = { s with clk := (fir d s n).1.clk } :=
  (fir_state d n s).trans (by rw [h0, Int.mul_zero, Int.add_zero])

theorem firD_eq_fir (s : Stream) (olen : Nat) :
    firD s olen = ((fir true s ((olen + 1) / 2)).1, 2 * (fir true s ((olen + 1) / 2)).2) := by
  unfold firD; rw [firDPairs_eq_fir]

theorem fadeU_eq_fir (s : Stream) (olen : Nat) :
    fadeU s olen = ((fir false s ((olen + 1) / 2)).1, 2 * (fir false s ((olen + 1) / 2)).2) := by
  unfold fadeU; rw [fadeUIter_eq_fir]

end Soxr.Vr
