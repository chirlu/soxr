import SoxrModel.Vr.Lemmas
/-!
# Alignment of the two cross-faded streams (the C assertion `odone == odone2`)

After a **down**-switch both streams are down-sampling streams (`poly_fir_fade_d`), and the new current stream is the
old one *exactly* doubled: clock, increment and slew increment are shifted left by one, and so is `len` provided
`occupancy0` is a multiple of the coarser stage's sample (`2^sn` input frames).  Two exactly doubled streams take the
same decisions in `poly_fir_fade_d` — same number of pairs, same abandoned pair — and stay exactly doubled; so the
assertion holds in every chunk of such a fade.  The hypothesis on `occupancy0` is what F35 violated (an up-switch earlier in
the same `vr_process` call made a coarser stage the coarsest *after* `occupancy0` had been computed); since the repair
(`switchOcc`) it is an invariant of the loop: `chunk_OccInv`, `loop_OccInv`, `chunk_down_switch_aligned`.
-/
namespace Soxr.Vr
variable {ρ : Type}

/-- `c` is `f` in the units of the next finer stage: everything doubled -/
def Doubled (c f : Stream) : Prop :=
  c.clk = 2 * f.clk ∧ c.step = 2 * f.step ∧ c.ss = 2 * f.ss ∧ c.len = 2 * f.len

/-- **Alignment of a down-switch fade, one chunk.**  Two down-sampling streams of which the current one is the
    fade-out one exactly doubled take the same decisions in `poly_fir_fade_d` — same number of pairs, same abandoned
    pair — so they deliver the same number of samples (`odone == odone2`), and remain exactly doubled. -/
theorem fadeStreams_doubled (c f : Stream) (n : Nat) (hc : c.isD = true) (hf : f.isD = true) (h : Doubled c f) :
    (fadeStreams c f n).2.2.1 = (fadeStreams c f n).2.2.2 ∧ Doubled (fadeStreams c f n).1 (fadeStreams c f n).2.1 := by
  rw [fadeStreams_eq, hc, hf, if_pos rfl]
  obtain ⟨e, r⟩ := fir_follow true true (fun _ f c => Doubled c f) ((n + 1) / 2) 0 f c h
    (fun _ f c _ _ ⟨h1, h2, h3, h4⟩ hok => by
      refine ⟨⟨?_, fun _ => ?_⟩, ?_, ?_, h3, h4⟩
      · exact (INT_lt_doubled _ _).mp (h1 ▸ h4 ▸ hok.1)
      · have := hok.2 rfl
        rw [h1, h2, h4, show 2 * f.clk + 2 * f.step = 2 * (f.clk + f.step) by omega] at this
        exact (INT_lt_doubled _ _).mp this
      · show c.clk + c.step + c.step = 2 * (f.clk + f.step + f.step); omega
      · show c.step + c.ss = 2 * (f.step + f.ss); omega)
  exact ⟨congrArg (2 * ·) e.symm, r⟩

/-- The chunk of a cross-fade interpolates by `fadeStreams` and counts a mismatch iff the two counts differ.  So what is
    shown of `fadeStreams` on the pair — equal counts, and a relation `R` between the streams after it, which may mention
    the frames delivered — holds of the chunk's interpolation. -/
theorem kernels_of_fadeStreams (R : Stream → Stream → Nat → Prop) (s : St ρ) (olen mn mx : Int) (hfade : s.fade ≠ 0)
    (h : let x := fadeStreams s.cur s.fo (2 * min olen (s.fade / 2)).toNat
         x.2.2.1 = x.2.2.2 ∧ R x.1 x.2.1 (x.2.2.1 / 2)) :
    (kernels s olen mn mx).mis = false ∧
    R (kernels s olen mn mx).st.cur (kernels s olen mn mx).st.fo (kernels s olen mn mx).od := by
  rw [kernels_fade s olen mn mx hfade]
  exact ⟨by simp [h.1], h.2⟩

/-- the same, at the level of one chunk's interpolation: no mismatch is counted, the pair stays doubled -/
theorem kernels_doubled (s : St ρ) (olen mn mx : Int) (hfade : s.fade ≠ 0) (hc : s.cur.isD = true) (hf : s.fo.isD = true)
    (h : Doubled s.cur s.fo) :
    (kernels s olen mn mx).mis = false ∧ Doubled (kernels s olen mn mx).st.cur (kernels s olen mn mx).st.fo :=
  kernels_of_fadeStreams (fun c f _ => Doubled c f) s olen mn mx hfade (fadeStreams_doubled _ _ _ hc hf h)

/-- **A down-switch starts an exactly doubled pair** — provided the stream switched away from had its `len` from the
    same `occupancy0` and `occupancy0` is a whole number of its samples (`2^sn ∣ occupancy0`; true when `occupancy0` was
    computed from a stage at least as coarse, false in the F35 witness). -/
theorem switch_down_doubled (s : St ρ) (occ0 : Int) (hsn : 1 ≤ s.cur.sn) (hd : s.cur.isD = true)
    (hlen : s.cur.len = shiftr occ0 s.cur.sn) (hdiv : occ0 % 2 ^ s.cur.sn.toNat = 0) :
    Doubled (switchStage s (-1) occ0).cur (switchStage s (-1) occ0).fo ∧
    (switchStage s (-1) occ0).cur.isD = true ∧ (switchStage s (-1) occ0).fo.isD = true ∧
    (switchStage s (-1) occ0).fade ≠ 0 := by
  obtain ⟨_, _, _, _, _, h6, h7, _, _, h10, _, h12, h13, h14⟩ := switchStage_spec s (-1) occ0
  have hl := switchStage_len s (-1) occ0
  have hsh : switchShift s (-1) = 1 := by
    unfold switchShift
    rw [hd]
    have : decide (s.cur.sn + -1 ≥ 0) = true := by simp; omega
    rw [this]; decide
  rw [hsh] at h13 h14
  rw [lshift_one] at h13 h14
  have h12' : (switchStage s (-1) occ0).cur.clk = s.cur.clk * 2 := by rw [h12]; exact lshift_one _
  refine ⟨⟨by rw [h12', h6]; omega, by rw [h13, h6]; omega, by rw [h14, h6]; omega, ?_⟩, ?_, by rw [h6]; exact hd, ?_⟩
  · rw [hl, h6, hlen]
    obtain ⟨k, hk⟩ := Int.eq_ofNat_of_zero_le (show 0 ≤ s.cur.sn + -1 by omega)
    have e1 : s.cur.sn = ((k + 1 : Nat) : Int) := by omega
    unfold shiftr
    rw [if_neg (by omega), if_neg (by omega), hk, e1, Int.toNat_natCast, Int.toNat_natCast]
    rw [e1, Int.toNat_natCast] at hdiv
    rw [Int.pow_succ] at hdiv ⊢
    have hp : (0 : Int) < 2 ^ k := Int.pow_pos (by decide)
    generalize (2 : Int) ^ k = P at *
    -- occ0 = (P*2)*q  ⇒  occ0 / P = 2 * (occ0 / (P*2))
    have hq := Int.mul_ediv_add_emod occ0 (P * 2)
    rw [hdiv, Int.add_zero] at hq
    generalize occ0 / (P * 2) = q at *
    rw [← hq, show P * 2 * q = (2 * q) * P by rw [Int.mul_comm P 2, Int.mul_assoc, Int.mul_comm P q, ← Int.mul_assoc]]
    rw [Int.mul_ediv_cancel _ (Int.ne_of_gt hp)]
  · rw [h10]; simp; omega
  · rw [h7]; decide

/-! ### `occupancy0` stays a whole number of samples of the current stage (the repair of F35 as a loop invariant) -/

/-- what the loop of `vr_process` maintains: `occupancy0` is a whole number of samples of the current stage, and the
    current stream's `len` is `occupancy0` in those samples -/
def OccInv (l : LoopSt ρ) : Prop :=
  (0 ≤ l.st.cur.sn → l.occ % 2 ^ l.st.cur.sn.toNat = 0) ∧ l.st.cur.len = shiftr l.occ l.st.cur.sn

theorem stageDif_cases (s : St ρ) : stageDif s = 0 ∨ stageDif s = 1 ∨ (stageDif s = -1 ∧ s.cur.isD = true) := by
  unfold stageDif
  split
  · split
    · rename_i hd
      split
      · right; left; rfl
      · split
        · right; right; exact ⟨rfl, hd⟩
        · left; rfl
    · split
      · right; left; rfl
      · left; rfl
  · left; rfl

theorem chunkStart_cur (cfg : Cfg ρ) (s : St ρ) (rem : Nat) :
    (chunkStart cfg s rem).1.cur.sn = s.cur.sn ∧ (chunkStart cfg s rem).1.cur.len = s.cur.len := by
  unfold chunkStart
  dsimp only
  split
  · exact ⟨rfl, rfl⟩
  · split <;> exact ⟨rfl, rfl⟩

theorem switchPrep_sn (s : St ρ) (dif : Int) : (switchPrep s dif).cur.sn = s.cur.sn + dif := by
  have := congrArg (fun c : Ctl ρ => c.cur.sn) (switchPrep_ctl s dif)
  exact this

/-- after an up-switch `occupancy0` is a whole number of samples of the new stage -/
theorem switchOcc_up (s : St ρ) (occ0 : Int) (h : 0 ≤ s.cur.sn + 1) : switchOcc s 1 occ0 % 2 ^ (s.cur.sn + 1).toNat = 0 := by
  unfold switchOcc
  dsimp only
  rw [switchPrep_sn]
  split
  · exact Int.mul_emod_left _ _
  · rename_i hn
    have : s.cur.sn + 1 = 0 := by omega
    rw [this]
    simp

/-- a down-switch leaves `occupancy0` alone -/
theorem switchOcc_down (s : St ρ) (occ0 : Int) : switchOcc s (-1) occ0 = occ0 := by
  unfold switchOcc
  dsimp only
  rw [if_neg (by omega)]

/-- `occupancy0` never grows at a switch -/
theorem switchOcc_le (s : St ρ) (dif occ0 : Int) : switchOcc s dif occ0 ≤ occ0 := by
  unfold switchOcc
  dsimp only
  split
  · have hp : (0 : Int) < 2 ^ (switchPrep s dif).cur.sn.toNat := Int.pow_pos (by decide)
    generalize hX : shiftl _ (switchPrep s dif).cur.sn = X
    have h1 := Int.ediv_mul_le (min occ0 X) (Int.ne_of_gt hp)
    have h2 : min occ0 X ≤ occ0 := Int.min_le_left _ _
    omega
  · exact Int.le_refl _

/-- **The restarted stage is not read beyond what it holds (F36 repaired).**  After an up-switch to a half-band stage the
    new current stream's `len` — the samples it may consume in this call — is at most the occupancy of that stage's FIFO
    minus `2·HALF_FIR_LEN_2 + POLY_FIR_LEN_D/2` (the offset of `stage_read_p` plus the look-ahead of the interpolator): the
    interpolator's highest read index `2·HALF_FIR_LEN_2 + (len − 1) + POLY_FIR_LEN_D/2` is inside the FIFO. -/
theorem switch_up_len_within_stage (s : St ρ) (occ0 : Int) (hsn : 0 ≤ s.cur.sn) :
    (switchStage s 1 (switchOcc s 1 occ0)).cur.len ≤
      max 0 (((switchPrep s 1).stg (s.cur.sn + 1)).occ - 2 * (H2 : Int) - ((PD / 2 : Nat) : Int)) := by
  rw [switchStage_len]
  unfold switchOcc
  dsimp only
  rw [switchPrep_sn, if_pos ⟨by decide, by omega⟩]
  obtain ⟨k, hk⟩ := Int.eq_ofNat_of_zero_le (show 0 ≤ s.cur.sn + 1 by omega)
  have hk1 : 1 ≤ k := by omega
  generalize max 0 (((switchPrep s 1).stg (s.cur.sn + 1)).occ - 2 * (H2 : Int) - ((PD / 2 : Nat) : Int)) = A
  rw [hk, shiftl_natCast _ _ hk1, shiftr_natCast, Int.toNat_natCast]
  have hp : (0 : Int) < 2 ^ k := Int.pow_pos (by decide)
  generalize (2 : Int) ^ k = P at *
  rw [Int.mul_ediv_cancel _ (Int.ne_of_gt hp)]
  have h2 : min occ0 (A * P) ≤ A * P := Int.min_le_right _ _
  exact Int.ediv_le_of_le_mul hp h2

theorem pow_dvd_of_succ (x : Int) (k : Nat) (h : x % 2 ^ (k + 1) = 0) : x % 2 ^ k = 0 := by
  have hd : (2 : Int) ^ (k + 1) ∣ x := Int.dvd_of_emod_eq_zero h
  have h2 : (2 : Int) ^ k ∣ 2 ^ (k + 1) := ⟨2, by rw [Int.pow_succ]⟩
  exact Int.emod_eq_zero_of_dvd (Int.dvd_trans h2 hd)

/-- the interpolation of a chunk leaves the current stream on its stage with its `len` -/
theorem kernels_cur (s : St ρ) (olen mn mx : Int) :
    (kernels s olen mn mx).st.cur.sn = s.cur.sn ∧ (kernels s olen mn mx).st.cur.len = s.cur.len := by
  obtain ⟨_, _, _, _, ⟨_, _, h, _⟩, _⟩ := kernels_spec s olen mn mx
  exact ⟨by rw [h], by rw [h]⟩

/-- what a chunk leaves of its interpolation in the loop-carried state -/
theorem chunk_of_kernels (cfg : Cfg ρ) (olen0 : Nat) (l : LoopSt ρ) :
    let a := chunkStart cfg l.st (olen0 - l.od0)
    let K := kernels (chunkBase cfg olen0 l) a.2 (chunkMn l (stageDif a.1))
      (chunkMx l (stageDif a.1) (decide (a.1.cur.sn + stageDif a.1 < a.1.ns)))
    (chunk cfg olen0 l).1.st.cur = K.st.cur ∧ (chunk cfg olen0 l).1.st.fo = K.st.fo ∧
    (chunk cfg olen0 l).1.nmis = l.nmis + (if K.mis then 1 else 0) ∧
    (chunk cfg olen0 l).1.occ = if doesSwitch a.1 then switchOcc a.1 (stageDif a.1) l.occ else l.occ := by
  intro a K
  have hst : (chunk cfg olen0 l).1.st = _ :=
    chunkFinish_st l (doesSwitch a.1) (doesSwitch a.1 && negLeftShift a.1 (stageDif a.1)) K
  exact ⟨by rw [hst], by rw [hst], rfl, rfl⟩

/-- **Every chunk preserves the alignment of `occupancy0`** — whatever it does: snap, up-switch (re-aligned), down-switch
    (a whole number of coarser samples is a whole number of finer ones), fade, plain interpolation. -/
theorem chunk_OccInv (cfg : Cfg ρ) (olen0 : Nat) (l : LoopSt ρ) (h : OccInv l) : OccInv (chunk cfg olen0 l).1 := by
  obtain ⟨h1, h2⟩ := h
  obtain ⟨a1, a2⟩ := chunkStart_cur cfg l.st (olen0 - l.od0)
  obtain ⟨c1, _, _, c4⟩ := chunk_of_kernels cfg olen0 l
  unfold OccInv
  rw [c1, c4, (kernels_cur _ _ _ _).1, (kernels_cur _ _ _ _).2]
  unfold chunkBase
  generalize chunkStart cfg l.st (olen0 - l.od0) = A at a1 a2
  dsimp only
  cases hsw : doesSwitch A.1
  · simp only [Bool.false_eq_true, if_false]
    rw [a1, a2]
    exact ⟨h1, h2⟩
  · simp only [if_true]
    rw [switchStage_sn, switchStage_len]
    refine ⟨fun hpos => ?_, rfl⟩
    rcases stageDif_cases A.1 with hd | hd | ⟨hd, _⟩
    · unfold doesSwitch at hsw; rw [hd] at hsw; simp at hsw
    · rw [hd] at hpos ⊢
      exact switchOcc_up _ _ hpos
    · rw [hd] at hpos ⊢
      rw [switchOcc_down]
      have := h1 (by rw [← a1]; omega)
      rw [← a1] at this
      obtain ⟨k, hk⟩ := Int.eq_ofNat_of_zero_le hpos
      rw [show A.1.cur.sn = ((k + 1 : Nat) : Int) by omega, Int.toNat_natCast] at this
      rw [hk, Int.toNat_natCast]
      exact pow_dvd_of_succ _ _ this

/-- … so it holds after the whole `while` loop if it held before it -/
theorem loop_OccInv (cfg : Cfg ρ) (olen0 : Nat) (f : Nat) (l : LoopSt ρ) (h : OccInv l) : OccInv (loop cfg olen0 f l) :=
  loop_induct cfg olen0 OccInv (fun l hl _ => chunk_OccInv cfg olen0 l hl) f l h

theorem shiftl_dvd (x mx sn : Int) (h0 : 0 ≤ sn) (h : sn ≤ mx) : shiftl x mx % 2 ^ sn.toNat = 0 := by
  unfold shiftl shiftr
  by_cases hm : mx = 0
  · have : sn = 0 := by omega
    rw [this]; simp
  · rw [if_pos (by omega)]
    obtain ⟨k, hk⟩ := Int.eq_ofNat_of_zero_le h0
    obtain ⟨d, hd⟩ := Int.eq_ofNat_of_zero_le (show 0 ≤ mx - sn by omega)
    have e : (- -mx).toNat = k + d := by omega
    rw [e, hk, Int.toNat_natCast, Int.pow_add, ← Int.mul_assoc, Int.mul_comm (x * 2 ^ k), Int.mul_comm x,
      Int.mul_comm (2 ^ d), Int.mul_assoc]
    exact Int.mul_emod_right _ _

theorem setLens_cur (s : St ρ) (occ0 : Int) :
    (setLens s occ0).cur.sn = s.cur.sn ∧ (setLens s occ0).cur.len = shiftr occ0 s.cur.sn := by
  unfold setLens; dsimp only; split <;> exact ⟨rfl, rfl⟩

/-- **`vr_process` enters its loop with `occupancy0` aligned** — from any state: it is computed from the coarsest stage in
    use, which is at least as coarse as the current one. -/
theorem preLoop_OccInv (cfg : Cfg ρ) (s : St ρ) (olen0 : Nat) : OccInv (preLoop cfg s olen0).1 := by
  unfold preLoop OccInv
  dsimp only
  generalize hX : inputStages _ _ _ = X
  have hc : X.cur = (applyDefault cfg s).cur ∧ X.fade = (applyDefault cfg s).fade ∧ X.fo = (applyDefault cfg s).fo := by
    have : X.ctl = ({ applyDefault cfg s with oocc := (applyDefault cfg s).oocc + olen0 } : St ρ).ctl := by
      rw [← hX, inputStages_ctl]
    exact ⟨congrArg Ctl.cur this, congrArg Ctl.fade this, congrArg Ctl.fo this⟩
  generalize hY : (if X.fl > 0 then ({ X with fl := -1 } : St ρ) else X) = Y
  have hy : Y.cur = X.cur := by rw [← hY]; split <;> rfl
  obtain ⟨e1, e2⟩ := setLens_cur Y (shiftl (max 0 ((Y.stg (if (applyDefault cfg s).fade ≠ 0 then max (applyDefault cfg s).cur.sn (applyDefault cfg s).fo.sn
      else (applyDefault cfg s).cur.sn)).occ - 4 * (H2 : Int))) (if (applyDefault cfg s).fade ≠ 0 then max (applyDefault cfg s).cur.sn (applyDefault cfg s).fo.sn
      else (applyDefault cfg s).cur.sn))
  refine ⟨fun hpos => ?_, by rw [e1]; exact e2⟩
  rw [e1] at hpos ⊢
  apply shiftl_dvd _ _ _ hpos
  rw [hy, hc.1]
  split <;> omega

/-- **A switch down, anywhere in the loop, that starts an aligned fade.**  If the interpolation from the switched state
    counts no mismatch and relates the two streams by `R`, the chunk of the switch counts no mismatch
    (`odone == odone2`) and ends with `R`. -/
theorem chunk_switch_down (R : Stream → Stream → Prop) (cfg : Cfg ρ) (olen0 : Nat) (l : LoopSt ρ)
    (hsw : doesSwitch (chunkStart cfg l.st (olen0 - l.od0)).1 = true)
    (hdif : stageDif (chunkStart cfg l.st (olen0 - l.od0)).1 = -1)
    (hker : ∀ olen mn mx, (kernels (switchStage (chunkStart cfg l.st (olen0 - l.od0)).1 (-1) l.occ) olen mn mx).mis = false ∧
      R (kernels (switchStage (chunkStart cfg l.st (olen0 - l.od0)).1 (-1) l.occ) olen mn mx).st.cur
        (kernels (switchStage (chunkStart cfg l.st (olen0 - l.od0)).1 (-1) l.occ) olen mn mx).st.fo) :
    (chunk cfg olen0 l).1.nmis = l.nmis ∧ R (chunk cfg olen0 l).1.st.cur (chunk cfg olen0 l).1.st.fo := by
  obtain ⟨c1, c2, c3, _⟩ := chunk_of_kernels cfg olen0 l
  rw [c1, c2, c3]
  unfold chunkBase
  simp only [hsw, hdif, if_true, switchOcc_down]
  obtain ⟨k1, k2⟩ := hker (chunkStart cfg l.st (olen0 - l.od0)).2 (chunkMn l (-1))
    (chunkMx l (-1) (decide ((chunkStart cfg l.st (olen0 - l.od0)).1.cur.sn + -1 < (chunkStart cfg l.st (olen0 - l.od0)).1.ns)))
  exact ⟨by rw [k1]; rfl, k2⟩

/-- a chunk that switches down does so from a down-sampling stream -/
theorem isD_of_dif_neg (s : St ρ) (h : stageDif s = -1) : s.cur.isD = true := by
  rcases stageDif_cases s with hd | hd | ⟨_, hd⟩
  · omega
  · omega
  · exact hd

/-- **A down-switch anywhere in the loop starts an aligned fade.**  In any chunk of any `vr_process` call whose loop state
    satisfies the invariant, a switch from a down-sampling stage `sn ≥ 1` to the next finer one makes the two streams
    exact doubles, the chunk counts no mismatch (`odone == odone2`), and they are exact doubles after it. -/
theorem chunk_down_switch_aligned (cfg : Cfg ρ) (olen0 : Nat) (l : LoopSt ρ) (h : OccInv l)
    (hsw : doesSwitch (chunkStart cfg l.st (olen0 - l.od0)).1 = true)
    (hdif : stageDif (chunkStart cfg l.st (olen0 - l.od0)).1 = -1) (hsn : 1 ≤ l.st.cur.sn) :
    (chunk cfg olen0 l).1.nmis = l.nmis ∧ Doubled (chunk cfg olen0 l).1.st.cur (chunk cfg olen0 l).1.st.fo := by
  obtain ⟨a1, a2⟩ := chunkStart_cur cfg l.st (olen0 - l.od0)
  obtain ⟨d1, d2, d3, d4⟩ := switch_down_doubled (chunkStart cfg l.st (olen0 - l.od0)).1 l.occ (by omega)
    (isD_of_dif_neg _ hdif) (by rw [a1, a2]; exact h.2) (by rw [a1]; exact h.1 (by omega))
  exact chunk_switch_down Doubled cfg olen0 l hsw hdif (fun _ _ _ => kernels_doubled _ _ _ _ d4 d2 d3 d1)

/-! ### The fade from stage 0 down to the up-sampling stage (`poly_fir_fade_d` on the fade-out, `poly_fir_fade_u` on the current stream)

The new current stream (stage −1, one clock step per output frame) is the old one exactly: clock doubled, increment and
slew increment quadrupled, `len` doubled.  The fade-out stream runs first (it is the 2x-rate one); every pair it
delivers had its first sample inside the input, which is exactly the condition of the current stream's iteration. -/

/-- `c` (up-sampling stream on stage −1) is `f` (down-sampling stream on stage 0) in half samples, per whole frame -/
def Quad (c f : Stream) : Prop :=
  c.clk = 2 * f.clk ∧ c.step = 4 * f.step ∧ c.ss = 4 * f.ss ∧ c.len = 2 * f.len

/-- **Alignment of the fade from stage 0 to the up-sampling stage, one chunk** — slews included: everything is exact. -/
theorem fadeStreams_quad (c f : Stream) (n : Nat) (hc : c.isD = false) (h : Quad c f) :
    (fadeStreams c f n).2.2.1 = (fadeStreams c f n).2.2.2 ∧ Quad (fadeStreams c f n).1 (fadeStreams c f n).2.1 := by
  rw [fadeStreams_eq, hc, if_neg (by decide)]
  obtain ⟨e, r⟩ := fir_follow true false (fun _ c f => Quad c f) ((n + 1) / 2) 0 c f h
    (fun _ c f _ _ ⟨h1, h2, h3, h4⟩ hok => by
      refine ⟨⟨by rw [h1, h4]; exact (INT_lt_doubled _ _).mpr hok.1, fun x => absurd x (by decide)⟩, ?_, ?_, h3, h4⟩
      · show c.clk + c.step = 2 * (f.clk + f.step + f.step); omega
      · show c.step + c.ss = 4 * (f.step + f.ss); omega)
  exact ⟨congrArg (2 * ·) e.symm, r⟩

theorem kernels_quad (s : St ρ) (olen mn mx : Int) (hfade : s.fade ≠ 0) (hc : s.cur.isD = false) (h : Quad s.cur s.fo) :
    (kernels s olen mn mx).mis = false ∧ Quad (kernels s olen mn mx).st.cur (kernels s olen mn mx).st.fo :=
  kernels_of_fadeStreams (fun c f _ => Quad c f) s olen mn mx hfade (fadeStreams_quad _ _ _ hc h)

/-- the switch from stage 0 to the up-sampling stage starts such a pair, whatever `occupancy0` is -/
theorem switch_to_upsampling_quad (s : St ρ) (occ0 : Int) (hsn : s.cur.sn = 0) (hd : s.cur.isD = true)
    (hlen : s.cur.len = shiftr occ0 s.cur.sn) :
    Quad (switchStage s (-1) occ0).cur (switchStage s (-1) occ0).fo ∧
    (switchStage s (-1) occ0).cur.isD = false ∧ (switchStage s (-1) occ0).fo.isD = true ∧
    (switchStage s (-1) occ0).fade ≠ 0 := by
  obtain ⟨_, _, _, _, _, h6, h7, _, _, h10, _, h12, h13, h14⟩ := switchStage_spec s (-1) occ0
  have hl := switchStage_len s (-1) occ0
  have hsh : switchShift s (-1) = 2 := by
    unfold switchShift
    rw [hd, hsn]; decide
  rw [hsh, lshift_two] at h13 h14
  have h12' : (switchStage s (-1) occ0).cur.clk = s.cur.clk * 2 := by rw [h12]; exact lshift_one _
  refine ⟨⟨by rw [h12', h6]; omega, by rw [h13, h6]; omega, by rw [h14, h6]; omega, ?_⟩, ?_, by rw [h6]; exact hd, ?_⟩
  · rw [hl, h6, hlen, hsn]
    simp [shiftr]
    omega
  · rw [h10, hsn]; decide
  · rw [h7]; decide

/-- **Every switch from stage 0 to the up-sampling stage, anywhere in the loop, starts an aligned fade**, and every
    chunk of it is aligned (`kernels_quad`). -/
theorem chunk_switch_to_upsampling_aligned (cfg : Cfg ρ) (olen0 : Nat) (l : LoopSt ρ) (h : OccInv l)
    (hsw : doesSwitch (chunkStart cfg l.st (olen0 - l.od0)).1 = true)
    (hdif : stageDif (chunkStart cfg l.st (olen0 - l.od0)).1 = -1) (hsn : l.st.cur.sn = 0) :
    (chunk cfg olen0 l).1.nmis = l.nmis ∧ Quad (chunk cfg olen0 l).1.st.cur (chunk cfg olen0 l).1.st.fo := by
  obtain ⟨a1, a2⟩ := chunkStart_cur cfg l.st (olen0 - l.od0)
  obtain ⟨d1, d2, _, d4⟩ := switch_to_upsampling_quad (chunkStart cfg l.st (olen0 - l.od0)).1 l.occ (by rw [a1]; exact hsn)
    (isD_of_dif_neg _ hdif) (by rw [a1, a2]; exact h.2)
  exact chunk_switch_down Quad cfg olen0 l hsw hdif (fun _ _ _ => kernels_quad _ _ _ _ d4 d2 d1)

/-! ### The fade from the up-sampling stage up to stage 0, at a constant ratio

The new current stream (stage 0, `poly_fir_fade_d`, run first) is the old one floored: clock `>> 1`, increment `>> 2`.
The fade-out stream (stage −1, `poly_fir_fade_u`) needs ONE sample per output frame, at the position of the pair's
first sample; the current stream has also placed the pair's second sample, half a frame later, inside the input.
That half frame (`2·step ≥ 2³²` units) dwarfs the drift between the two clocks (at most 3 units per pair), so the
fade-out stream always has its sample: aligned, for every chunk of the fade, as long as `step_step = 0`. -/

/-- `f` (up-sampling stream, stage −1) is at most `d` units ahead of `c` (down-sampling stream, stage 0) in half samples,
    its increment at most 3 units above four times `c`'s; no slew -/
def NearU (c f : Stream) (d : Int) : Prop :=
  0 ≤ f.clk - 2 * c.clk ∧ f.clk - 2 * c.clk ≤ d ∧ 0 ≤ f.step - 4 * c.step ∧ f.step - 4 * c.step ≤ 3 ∧
  c.ss = 0 ∧ f.ss = 0 ∧ f.len = 2 * c.len ∧ 0 ≤ c.step

/-- one chunk of such a fade: every pair the current stream delivers has its second sample, half a frame after the first,
    inside the input, so the fade-out stream, at most `d + 3i ≤ 2·step` units ahead after `i` pairs, has its one -/
theorem fadeStreams_near (c f : Stream) (n : Nat) (d : Int) (hc : c.isD = true) (hf : f.isD = false) (h : NearU c f d)
    (hd : d + 3 * (((n + 1) / 2 : Nat) : Int) ≤ 2 * c.step) :
    (fadeStreams c f n).2.2.1 = (fadeStreams c f n).2.2.2 ∧
    NearU (fadeStreams c f n).1 (fadeStreams c f n).2.1 (d + 3 * (((fadeStreams c f n).2.2.1 / 2 : Nat) : Int)) := by
  rw [fadeStreams_eq, hc, hf, if_pos rfl]
  obtain ⟨e, r, _⟩ := fir_follow true false (fun i f' c' => NearU c' f' (d + 3 * (i : Int)) ∧ c'.step = c.step)
    ((n + 1) / 2) 0 f c ⟨by simpa using h, rfl⟩
    (fun i f' c' _ hi ⟨⟨h1, h2, h3, h4, h5, h6, h7, h8⟩, h9⟩ hok => by
      have a2 := (INT_lt_iff _ _).mp (hok.2 rfl)
      refine ⟨⟨by rw [INT_lt_iff, h7]; unfold two32 at *; omega, fun x => absurd x (by decide)⟩, ⟨?_, ?_, ?_, ?_, h5, h6, h7, ?_⟩, ?_⟩
      · show 0 ≤ f'.clk + f'.step - 2 * (c'.clk + c'.step + c'.step); omega
      · show f'.clk + f'.step - 2 * (c'.clk + c'.step + c'.step) ≤ d + 3 * ((i + 1 : Nat) : Int); omega
      · show 0 ≤ f'.step + f'.ss - 4 * (c'.step + c'.ss); omega
      · show f'.step + f'.ss - 4 * (c'.step + c'.ss) ≤ 3; omega
      · show 0 ≤ c'.step + c'.ss; omega
      · show c'.step + c'.ss = c.step; omega)
  refine ⟨congrArg (2 * ·) e.symm, ?_⟩
  rw [Nat.zero_add] at r
  rw [show 2 * (fir true c ((n + 1) / 2)).2 / 2 = (fir true c ((n + 1) / 2)).2 by omega]
  exact r

/-- the switch from the up-sampling stage up to stage 0 at a constant ratio starts such a pair, one unit apart at most,
    with the new increment above `2³¹` -/
theorem switch_from_upsampling_near (s : St ρ) (occ0 : Int) (hsn : s.cur.sn = -1) (hd : s.cur.isD = false)
    (hss : s.cur.ss = 0) (hstep : 8589934592 ≤ s.cur.step) (hlen : s.cur.len = shiftr occ0 s.cur.sn) :
    NearU (switchStage s 1 (switchOcc s 1 occ0)).cur (switchStage s 1 (switchOcc s 1 occ0)).fo 1 ∧
    (switchStage s 1 (switchOcc s 1 occ0)).cur.isD = true ∧ (switchStage s 1 (switchOcc s 1 occ0)).fo.isD = false ∧
    (switchStage s 1 (switchOcc s 1 occ0)).fade ≠ 0 ∧ 2147483648 ≤ (switchStage s 1 (switchOcc s 1 occ0)).cur.step := by
  obtain ⟨_, _, _, _, _, h6, h7, _, _, h10, _, h12, h13, h14⟩ := switchStage_spec s 1 (switchOcc s 1 occ0)
  have hl := switchStage_len s 1 (switchOcc s 1 occ0)
  have hocc : switchOcc s 1 occ0 = occ0 := by
    unfold switchOcc
    dsimp only
    rw [switchPrep_sn, hsn, if_neg (by decide)]
  have hsh : switchShift s 1 = -2 := by
    unfold switchShift
    rw [hd, hsn]; decide
  rw [hsh, lshift_neg_two] at h13 h14
  rw [lshift_neg_one] at h12
  refine ⟨⟨?_, ?_, ?_, ?_, by rw [h14, hss]; decide, by rw [h6]; exact hss, ?_, ?_⟩, by rw [h10, hsn]; decide, by rw [h6]; exact hd,
    by rw [h7]; decide, by rw [h13]; omega⟩
  · rw [h12, h6]; omega
  · rw [h12, h6]; omega
  · rw [h13, h6]; omega
  · rw [h13, h6]; omega
  · rw [hl, h6, hlen, hsn, hocc]
    simp [shiftr]
    omega
  · rw [h13]; omega

/-- … and the chunk of the switch, and by `fadeStreams_near` every later chunk of the fade while `step_step = 0`, is aligned -/
theorem kernels_near (s : St ρ) (olen mn mx : Int) (d : Int) (hfade : s.fade ≠ 0) (hc : s.cur.isD = true) (hf : s.fo.isD = false)
    (h : NearU s.cur s.fo d) (hd : d + 3 * max 0 (min olen (s.fade / 2)) ≤ 2 * s.cur.step) :
    (kernels s olen mn mx).mis = false ∧
    NearU (kernels s olen mn mx).st.cur (kernels s olen mn mx).st.fo (d + 3 * ((kernels s olen mn mx).od : Int)) :=
  kernels_of_fadeStreams (fun c f od => NearU c f (d + 3 * (od : Int))) s olen mn mx hfade
    (fadeStreams_near _ _ _ d hc hf h
      (by rw [show ((((2 * min olen (s.fade / 2)).toNat + 1) / 2 : Nat) : Int) = max 0 (min olen (s.fade / 2)) by omega]; exact hd))

end Soxr.Vr
