import SoxrModel.Vr.Loop
/-!
# Arithmetic of the slew increment and of the constant-step clock (`Vr/Model.lean`)
-/
namespace Soxr.Vr

/-! ### `INT` and the shifts -/

theorem pow2_pos (n : Nat) : (0 : Int) < 2 ^ n := Int.pow_pos (by decide)

theorem INT_lt_iff (a len : Int) : INT a < len ↔ a < len * two32 := by
  unfold INT two32
  exact Int.ediv_lt_iff_lt_mul (by decide)

theorem INT_lt_doubled (a len : Int) : INT (2 * a) < 2 * len ↔ INT a < len := by
  rw [INT_lt_iff, INT_lt_iff]
  unfold two32
  omega

theorem INT_mono {a b : Int} (h : a ≤ b) : INT a ≤ INT b := Int.ediv_le_ediv (by decide) h

theorem lshift_zero (k : Int) : lshift 0 k = 0 := by
  unfold lshift; split <;> simp

theorem lshift_nonneg (x k : Int) (h : 0 ≤ x) : 0 ≤ lshift x k := by
  unfold lshift
  split
  · exact Int.mul_nonneg h (Int.le_of_lt (pow2_pos _))
  · exact (Int.ediv_nonneg_iff_of_pos (pow2_pos _)).mpr h

theorem lshift_nonpos (x k : Int) (h : x ≤ 0) : lshift x k ≤ 0 := by
  unfold lshift
  split
  · exact Int.mul_nonpos_of_nonpos_of_nonneg h (Int.le_of_lt (pow2_pos _))
  · exact Int.ediv_nonpos_of_nonpos_of_neg h (pow2_pos _)

theorem lshift_one (x : Int) : lshift x 1 = x * 2 := by simp [lshift]
theorem lshift_two (x : Int) : lshift x 2 = x * 4 := by simp [lshift]
theorem lshift_neg_one (x : Int) : lshift x (-1) = x / 2 := by simp [lshift]
theorem lshift_neg_two (x : Int) : lshift x (-2) = x / 4 := by simp [lshift]

theorem shiftr_zero (x : Int) : shiftr x 0 = x := by simp [shiftr]
theorem shiftl_zero (x : Int) : shiftl x 0 = x := by simp [shiftl, shiftr]
theorem shiftr_one (x : Int) : shiftr x 1 = x / 2 := by simp [shiftr]
theorem shiftl_one (x : Int) : shiftl x 1 = x * 2 := by simp [shiftl, shiftr]
theorem shiftr_neg_one (x : Int) : shiftr x (-1) = x * 2 := by simp [shiftr]
theorem shiftl_neg_one (x : Int) : shiftl x (-1) = x / 2 := by simp [shiftl, shiftr]

theorem shiftl_natCast (x : Int) (k : Nat) (h : 1 ≤ k) : shiftl x (k : Int) = x * 2 ^ k := by
  unfold shiftl shiftr
  rw [if_pos (by omega), Int.neg_neg, Int.toNat_natCast]

theorem shiftr_natCast (x : Int) (k : Nat) : shiftr x (k : Int) = x / 2 ^ k := by
  unfold shiftr
  rw [if_neg (by omega), Int.toNat_natCast]

theorem shiftr_shiftl (y : Int) (k : Nat) : shiftr (shiftl y (k : Int)) (k : Int) = y := by
  by_cases hk : k = 0
  · subst hk; simp [shiftl, shiftr]
  · rw [shiftl_natCast _ _ (by omega), shiftr_natCast, Int.mul_ediv_cancel _ (Int.ne_of_gt (pow2_pos k))]

/-! ### `set_step_step`: the increment is the rounded quotient -/

/-- `tdiv` rounds towards zero: a numerator `x ≤ 0` is divided as `−x` and the quotient negated -/
theorem tdiv_of_nonpos (x L : Int) (h : x ≤ 0) : Int.tdiv x L = -((-x) / L) := by
  have := Int.neg_tdiv (-x) L
  rw [Int.neg_neg] at this
  rw [this, Int.tdiv_eq_ediv_of_nonneg (by omega)]

/-- the increment is `|target − step|` divided by `L` to nearest, with the sign of `target − step` -/
theorem slewInc_eq (target step : Int) (L : Nat) :
    slewInc target step L =
      if target - step < 0 then -((-(target - step) + ((L / 2 : Nat) : Int)) / (L : Int))
      else (target - step + ((L / 2 : Nat) : Int)) / (L : Int) := by
  unfold slewInc
  dsimp only
  split
  · rw [tdiv_of_nonpos _ _ (by omega), Int.neg_sub, Int.sub_eq_add_neg, Int.add_comm]
  · rw [Int.tdiv_eq_ediv_of_nonneg (by omega)]

/-- division to nearest: `L · ⌊(x + ⌊L/2⌋) / L⌋` misses `x` by at most `L/2` -/
theorem round_div_bound (x : Int) (L : Nat) (hL : 0 < L) :
    2 * ((L : Int) * ((x + ((L / 2 : Nat) : Int)) / (L : Int)) - x) ≤ L ∧
    2 * (x - (L : Int) * ((x + ((L / 2 : Nat) : Int)) / (L : Int))) ≤ L := by
  have hLi : (0 : Int) < (L : Int) := by omega
  have h1 := Int.mul_ediv_add_emod (x + ((L / 2 : Nat) : Int)) (L : Int)
  have h2 := Int.emod_nonneg (x + ((L / 2 : Nat) : Int)) (Int.ne_of_gt hLi)
  have h3 := Int.emod_lt_of_pos (x + ((L / 2 : Nat) : Int)) hLi
  generalize (x + ((L / 2 : Nat) : Int)) / (L : Int) = q at *
  generalize (x + ((L / 2 : Nat) : Int)) % (L : Int) = r at *
  omega

/-- For `dif = target − step` and `L = slew_len > 0`: `L · step_step` misses `dif` by at most `L/2`. -/
theorem slewInc_bound (target step : Int) (L : Nat) (hL : 0 < L) :
    2 * ((L : Int) * slewInc target step L - (target - step)) ≤ L ∧
    2 * ((target - step) - (L : Int) * slewInc target step L) ≤ L := by
  rw [slewInc_eq]
  split
  · have := round_div_bound (-(target - step)) L hL
    rw [Int.mul_neg]
    omega
  · exact round_div_bound (target - step) L hL

/-- the increment has the sign of `target − step` (or is 0) -/
theorem slewInc_sign (target step : Int) (L : Nat) (hL : 0 < L) :
    (step ≤ target → 0 ≤ slewInc target step L) ∧ (target ≤ step → slewInc target step L ≤ 0) := by
  rw [slewInc_eq]
  constructor
  · intro h
    rw [if_neg (by omega)]
    exact Int.ediv_nonneg (by omega) (by omega)
  · intro h
    split
    · exact Int.neg_nonpos_of_nonneg (Int.ediv_nonneg (by omega) (by omega))
    · rw [show target - step = 0 by omega, Int.zero_add, Int.ediv_eq_zero_of_lt (by omega) (by omega)]
      exact Int.le_refl 0

/-! ### The clock at a constant step -/

/-- clock units per round of a loop of kind `d`: a pair of `poly_fir_d` advances the clock twice -/
def Stream.unit (d : Bool) (s : Stream) : Int := if d then 2 * s.step else s.step
/-- how far beyond the clock a round reads: the second sample of a pair -/
def Stream.look (d : Bool) (s : Stream) : Int := if d then s.step else 0

/-- a round has its input iff its last sample has (the increment is not negative) -/
theorem Stream.ok_iff (d : Bool) (s : Stream) (hs : 0 ≤ s.look d) : s.ok d ↔ s.clk + s.look d < s.len * two32 := by
  unfold Stream.ok Stream.look at *
  rw [INT_lt_iff, INT_lt_iff]
  cases d <;> simp at hs ⊢
  omega

/-- **A loop at a constant `step`** (`step_step = 0`): after `k` rounds the clock is `at + k·unit`; every round had its
    input, and if fewer rounds than requested were done the next one has not. -/
theorem fir_const (d : Bool) (n : Nat) (s : Stream) (h0 : s.ss = 0) (hs : 0 ≤ s.look d) :
    (fir d s n).1.clk = s.clk + ((fir d s n).2 : Int) * s.unit d ∧
    ((fir d s n).2 < n → s.len * two32 ≤ s.clk + ((fir d s n).2 : Int) * s.unit d + s.look d) ∧
    (∀ i : Nat, i < (fir d s n).2 → s.clk + (i : Int) * s.unit d + s.look d < s.len * two32) := by
  let P (b : Stream) (i : Nat) : Prop := b.clk = s.clk + (i : Int) * s.unit d ∧ b.step = s.step ∧ b.ss = 0 ∧ b.len = s.len ∧
    ∀ j : Nat, j < i → s.clk + (j : Int) * s.unit d + s.look d < s.len * two32
  have key : P (fir d s n).1 (fir d s n).2 := by
    refine iterWhile_inv P (fun b i hP hb => ?_) s n ⟨by simp, rfl, h0, rfl, fun j hj => absurd hj (by omega)⟩
    obtain ⟨h1, h2, h3, h4, h5⟩ := hP
    have hl : b.look d = s.look d := by unfold Stream.look; rw [h2]
    refine ⟨?_, by show b.step + b.ss = _; omega, h3, h4, fun j hj => ?_⟩
    · show (if d then b.clk + b.step + b.step else b.clk + b.step) = _
      rw [h1, h2]; push_cast; rw [Int.add_mul]; unfold Stream.unit
      cases d <;> simp <;> omega
    · by_cases hji : j < i
      · exact h5 j hji
      · have := (Stream.ok_iff d b (hl ▸ hs)).mp hb
        rw [show j = i by omega, ← h1, ← h4, ← hl]; exact this
  obtain ⟨h1, h2, _, h4, h5⟩ := key
  refine ⟨h1, fun hk => ?_, h5⟩
  have hl : (fir d s n).1.look d = s.look d := by unfold Stream.look; rw [h2]
  have := mt (Stream.ok_iff d (fir d s n).1 (hl ▸ hs)).mpr (iterWhile_stop s n hk)
  rw [hl, h4] at this
  rw [← h1]; omega

theorem firU_const (n : Nat) (s : Stream) (h0 : s.ss = 0) :
    (firU s n).1.clk = s.clk + ((firU s n).2 : Int) * s.step ∧
    ((firU s n).2 < n → s.len * two32 ≤ s.clk + ((firU s n).2 : Int) * s.step) ∧
    (∀ i : Nat, i < (firU s n).2 → s.clk + (i : Int) * s.step < s.len * two32) := by
  rw [firU_eq_fir]
  simpa [Stream.unit, Stream.look] using fir_const false n s h0 (Int.le_refl 0)

theorem firDPairs_const (n : Nat) (s : Stream) (h0 : s.ss = 0) (hs : 0 ≤ s.step) :
    (firDPairs s n).1.clk = s.clk + ((firDPairs s n).2 : Int) * (2 * s.step) ∧
    ((firDPairs s n).2 < n → s.len * two32 ≤ s.clk + ((firDPairs s n).2 : Int) * (2 * s.step) + s.step) ∧
    (∀ i : Nat, i < (firDPairs s n).2 → s.clk + (i : Int) * (2 * s.step) + s.step < s.len * two32) := by
  rw [firDPairs_eq_fir]
  exact fir_const true n s h0 hs

/-! ### Input time: one unit for every stage

A stage-`sn` sample lasts `2^sn` input frames (`sn = −1`: half a frame), so a clock value `at` of stage `sn` is the
position `at · 2^(sn+1)` in units of `2⁻³³` input frames, whatever the stage.  A down-sampling stream (`is_d`) advances
twice per output frame. -/

/-- units of `2⁻³³` input frames per clock unit (`2⁻³²` sample) of stage `sn ≥ −1` -/
def posScale (sn : Int) : Int := 2 ^ (sn + 1).toNat
/-- read position in input time -/
def posIn (c : Stream) : Int := c.clk * posScale c.sn
/-- units of `2⁻³³` input frames per output frame for one unit of `step` -/
def rateScale (c : Stream) : Int := posScale c.sn * (if c.isD then 2 else 1)
/-- the instantaneous ratio: input time per output frame, in units of `2⁻³³` input frames (`≈ io_ratio · 2³³`) -/
def rateIn (c : Stream) : Int := c.step * rateScale c
/-- the slew: change of `rateIn` per output frame -/
def slewIn (c : Stream) : Int := c.ss * rateScale c

theorem posScale_pos (sn : Int) : 0 < posScale sn := pow2_pos _

theorem posScale_succ (sn : Int) (h : -1 ≤ sn) : posScale (sn + 1) = 2 * posScale sn := by
  unfold posScale
  obtain ⟨n, hn⟩ := Int.eq_ofNat_of_zero_le (show 0 ≤ sn + 1 by omega)
  rw [hn, show ((n : Int) + 1) = ((n + 1 : Nat) : Int) by omega, Int.toNat_natCast, Int.toNat_natCast, Int.pow_succ]
  omega

/-- `x·P − (x/2)·(2P)` is `0` or `P`: halving a clock value loses less than one unit of the coarser clock. -/
theorem half_floor_scaled (x P : Int) (hP : 0 < P) : 0 ≤ x * P - x / 2 * (2 * P) ∧ x * P - x / 2 * (2 * P) < 2 * P := by
  have h1 : x = 2 * (x / 2) + x % 2 := by omega
  have h2 : x % 2 = 0 ∨ x % 2 = 1 := by omega
  have e : x * P - x / 2 * (2 * P) = (x % 2) * P := by
    have : x * P = (2 * (x / 2) + x % 2) * P := by rw [← h1]
    rw [this, Int.add_mul, Int.mul_assoc, Int.mul_comm 2 (x / 2 * P), Int.mul_assoc (x / 2) P 2, Int.mul_comm P 2]
    omega
  rw [e]
  rcases h2 with h | h <;> rw [h] <;> omega

theorem quarter_floor (x : Int) : 0 ≤ x - x / 4 * 4 ∧ x - x / 4 * 4 < 4 := by omega

/-! ### The repaired left shift (F14)

Since the `fix:` commit for F14 the macro is `(x) = (by) > 0 ? (int64_t)((uint64_t)(x) << (by)) : (x) >> -(by)`: the left
shift is done on the unsigned representation (defined for every value) and converted back (modulo `2⁶⁴`: gcc, clang
and MSVC).  The model's `lshift` multiplies unbounded integers; the two agree — for negative values too — whenever the
product fits `int64_t`.  (Before the repair `x << by` with `x < 0` was undefined behaviour.) -/

/-- `(uint64_t)x`: the two's-complement representation of an `int64_t` -/
def toU64 (x : Int) : Int := x % 2 ^ 64
/-- `(int64_t)u` for a `uint64_t` (modulo `2⁶⁴`) -/
def toI64 (u : Int) : Int := if u % 2 ^ 64 < 2 ^ 63 then u % 2 ^ 64 else u % 2 ^ 64 - 2 ^ 64
/-- `(int64_t)((uint64_t)x << k)`: the `uint64_t` shift drops the bits above `2⁶⁴` -/
def shlC (x : Int) (k : Nat) : Int := toI64 (toU64 x * 2 ^ k % 2 ^ 64)
/-- the repaired macro `lshift(x, by)` of vr32.c (`>>` of a negative `int64_t` is the arithmetic shift: floor) -/
def lshiftC (x by_ : Int) : Int := if by_ > 0 then shlC x by_.toNat else x / 2 ^ (-by_).toNat

theorem toI64_of_range (y : Int) (hlo : -2 ^ 63 ≤ y) (hhi : y < 2 ^ 63) : toI64 (y % 2 ^ 64) = y := by
  unfold toI64
  rw [Int.emod_emod_of_dvd y (Int.dvd_refl _)]
  split <;> omega

/-- the shift on the unsigned representation is multiplication by `2^k`, whatever the sign of `x`, as long as the
    product is an `int64_t` -/
theorem shlC_eq_mul (x : Int) (k : Nat) (hlo : -2 ^ 63 ≤ x * 2 ^ k) (hhi : x * 2 ^ k < 2 ^ 63) : shlC x k = x * 2 ^ k := by
  unfold shlC toU64
  rw [Int.mul_emod, Int.emod_emod, ← Int.mul_emod]
  exact toI64_of_range _ hlo hhi

/-- **F14, repaired.**  The macro of the repaired code computes what the model's `lshift` computes, for every `x`
    (negative ones in particular: `step_step` of a downward slew) and every shift amount, provided the result of a
    left shift fits 64 bits (it does: `at`, `step`, `step_step` are below `2⁴⁷` in magnitude and the shift is 1 or 2). -/
theorem lshiftC_eq_lshift (x by_ : Int) (h : by_ > 0 → -2 ^ 63 ≤ x * 2 ^ by_.toNat ∧ x * 2 ^ by_.toNat < 2 ^ 63) :
    lshiftC x by_ = lshift x by_ := by
  unfold lshiftC lshift
  split
  · rename_i hb
    exact shlC_eq_mul x _ (h hb).1 (h hb).2
  · rfl

/-- the values of the UBSan reports on the pinned tree (`left shift of negative value -1073742`), and a large one -/
example : lshiftC (-1073742) 1 = -2147484 ∧ lshiftC (-2720146) 2 = -10880584 ∧ lshiftC (-1073742) (-1) = -536871 ∧
    lshiftC (-(2 ^ 46)) 2 = -(2 ^ 48) := by decide
/-- … which is what the machine types do: `Int64 → UInt64`, `<<<`, back -/
example : ((Int64.ofInt (-1073742)).toUInt64 <<< 1).toInt64.toInt = lshiftC (-1073742) 1 ∧
    ((Int64.ofInt (-2720146)).toUInt64 <<< 2).toInt64.toInt = lshiftC (-2720146) 2 := by decide

end Soxr.Vr
