import SoxrModel.Conc.Safety
import SoxrModel.Conc.Witness
import SoxrModel.Conc.Vr
import SoxrModel.Conc.Two
/-!
# C17 — distinct resamplers can be used concurrently

"Different resampler objects may be created, run and deleted at the same time from different threads.  Under every
interleaving each object produces exactly the output it produces when run alone, and the process-wide FFT cache and
coefficient tables are never read while being rebuilt nor initialised twice."

The theorems are about the counter-abstraction model `Soxr.Conc` of one FFT cache (`fft4g_cache.h` + `ccrw2.h`; the model's
step function is checked against event traces of the real code on every run, see `Conc/Main.lean`) and the model
`Soxr.Conc.Vr` of `vr_init`'s tables.  They hold for **any number of threads** and **every interleaving** (induction over the
reachable states).

* After initialisation (`Good`): writer/reader exclusion, no read during a rebuild, readers find the tables built, the
  re-test after the upgrade makes every rebuild a strict growth (`FFT_LEN` and the tables are monotone, rebuilt at most once
  per growth), and nothing changes under a reader inside a transform.
* The initialisers themselves (`LSX_INIT_FFT_CACHE`, `vr_init`) are unguarded in the pinned tree: "never initialised twice"
  is **false** — negations proved by reachable witnesses (`init_twice_reachable`, `late_init_breaks_exclusion`, …; defect F9) —
  and holds only under the explicit hypothesis that initialisation has completed before a second thread enters
  (`init_once_partial`, `vr_init_once_partial`).
* "Each object produces exactly the output it produces when run alone" is not a statement about this model; it is what the
  falsifier measures on the real code under every explored schedule (the tables' content for a given length is a pure
  function of the length, so by `tables_stable_while_read` + `readers_find_tables_built` a transform sees the same
  tables as in a serial run; that the kernels are deterministic is the recorded assumption).
-/
namespace Soxr.C17
open Soxr.Conc

/-- "after initialisation": reachable under **every** interleaving from a state in which one complete, undisturbed
    `LSX_INIT_FFT_CACHE` has happened (`warm n`), or reachable from process start (`cold n`) by steps in which a thread enters
    the initialiser only while no other thread is inside it -/
inductive Good : St → Prop
  | warm (n : Nat) {s : St} : Reachable (warm n) s → Good s
  | coldSerial (n : Nat) {s : St} : ReachableS (cold n) s → Good s

theorem good_inv {s : St} (h : Good s) : Inv s := by
  cases h with
  | warm n h => exact (inv_of_reachable_warm h).1
  | coldSerial n h => exact inv_of_reachableS_cold h

/-- at most one thread holds the writer role, and then no thread holds the reader role -/
theorem writer_excludes_all {s : St} (h : Good s) : s.writersIn ≤ 1 ∧ (0 < s.writersIn → s.readersIn = 0) :=
  (good_inv h).writer_excl

/-- while any thread holds the reader role, no thread holds the writer role -/
theorem readers_exclude_writer {s : St} (h : Good s) : 0 < s.readersIn → s.writersIn = 0 :=
  (good_inv h).readers_excl

/-- no thread is inside a transform reading the tables while another re-allocates or rebuilds them (and at most one does) -/
theorem no_read_during_rebuild {s : St} (h : Good s) : s.rebuilding ≤ 1 ∧ (0 < s.rebuilding → s.reading = 0) :=
  ⟨(good_inv h).one_rebuilder, (good_inv h).no_read_during_rebuild⟩

/-- a reader inside a transform finds tables that are complete for the current `FFT_LEN`: it never builds them itself -/
theorem readers_find_tables_built {s : St} (h : Good s) : 0 < s.reading → 0 < s.flen ∧ s.tab = s.flen :=
  (good_inv h).tables_ready

/-- the thread that waited for the writer role re-tests `len > FFT_LEN`: whenever the store `FFT_LEN = len` is executed,
    `len` exceeds the current `FFT_LEN` (every rebuild is a strict growth) -/
theorem upgrade_rechecks {s t : St} (h : Good s) {len : Int} {z : Bool} (hf : fire (.store len z) s = some t) :
    s.flen < len ∧ t.flen = len ∧ t.nStore = s.nStore + 1 := by
  obtain ⟨g, rfl⟩ := fire_some hf
  exact ⟨(good_inv h).store_grows g, rfl, rfl⟩

/-- `FFT_LEN` and the length the tables are built for never decrease, whichever thread steps -/
theorem tables_monotone {s t : St} (h : Good s) (st : Step s t) : s.flen ≤ t.flen ∧ s.tab ≤ t.tab := by
  obtain ⟨l, hf⟩ := st
  obtain ⟨g, rfl⟩ := fire_some hf
  exact (good_inv h).mono l g

/-- the tables are re-allocated at most once per growth: never more often than `FFT_LEN` is large -/
theorem rebuilt_once_per_growth {s : St} (h : Good s) : 0 ≤ s.flen → (s.nStore : Int) ≤ s.flen :=
  (good_inv h).stores_le

/-- while a reader is inside a transform, no step of any thread changes `FFT_LEN` or the tables -/
theorem tables_stable_while_read {s t : St} (h : Good s) (st : Step s t) (hr : 0 < s.reading) :
    t.flen = s.flen ∧ t.tab = s.tab := by
  obtain ⟨l, hf⟩ := st
  obtain ⟨g, rfl⟩ := fire_some hf
  exact (good_inv h).stable_while_read l g hr

/-- from a finished initialisation, **every** interleaving of any number of threads is `Good` (no hypothesis on the schedule) -/
theorem all_interleavings_good_after_init {n : Nat} {s : St} (h : Reachable (warm n) s) : Good s := .warm n h

/-- PARTIAL (the unconditional statement is false, see below): if initialisation completes before a second thread enters it,
    the initialiser runs at most once, `FFT_LEN = 0` is stored at most once, and everything above holds from process start.
    Missing: the guard that would establish the hypothesis (the pinned `LSX_INIT_FFT_CACHE` has none). -/
theorem init_once_partial {n : Nat} {s : St} (h : ReachableS (cold n) s) :
    s.nInit ≤ 1 ∧ s.nReset ≤ 1 ∧ s.inInit ≤ 1 ∧ Good s :=
  have i := (inv_of_reachableS_cold h).init_once
  ⟨i.1, i.2.1, i.2.2, .coldSerial n h⟩

/-- NEGATION of "never initialised twice" on the model of the pinned code: with two threads the initialiser is entered twice -/
theorem init_twice_reachable : ∃ s, Reachable (cold 2) s ∧ s.nInit = 2 := by
  obtain ⟨s, hr, ho⟩ := exists_of_run_obs bothPass_run
  refine ⟨s, hr, ?_⟩
  simp only [obs, List.cons.injEq] at ho
  omega

theorem not_init_once : ¬ ∀ (n : Nat) (s : St), Reachable (cold n) s → s.nInit ≤ 1 := by
  intro h
  obtain ⟨s, hr, h2⟩ := init_twice_reachable
  have := h 2 s hr
  omega

/-- NEGATION of "never read while being rebuilt" from process start: the late second initialisation re-creates the locks and
    stores `FFT_LEN = 0` while the other thread is inside a transform; the late thread then holds the writer role and
    re-allocates the tables under the reader (F9) -/
theorem late_init_breaks_exclusion :
    ∃ s, Reachable (cold 2) s ∧ s.nInit = 2 ∧ s.nReset = 2 ∧ 0 < s.reading ∧ 0 < s.rebuilding := by
  obtain ⟨s, hr, ho⟩ := exists_of_run_obs f9Trace_run
  refine ⟨s, hr, ?_⟩
  simp only [obs, List.cons.injEq] at ho
  omega

theorem not_no_read_during_rebuild_from_start :
    ¬ ∀ (n : Nat) (s : St), Reachable (cold n) s → 0 < s.rebuilding → s.reading = 0 := by
  intro h
  obtain ⟨s, hr, -, -, h1, h2⟩ := late_init_breaks_exclusion
  have := h 2 s hr h2
  omega

/-- … and after that thread's store the reader is inside a transform with `FFT_LEN` reset to a smaller value and the tables
    marked empty (negation of `readers_find_tables_built` / `tables_monotone` from process start) -/
theorem late_init_shrinks_tables : ∃ s, Reachable (cold 2) s ∧ 0 < s.reading ∧ s.flen = 4 ∧ s.tab = 0 ∧ s.nStore = 2 := by
  obtain ⟨s, hr, ho⟩ := exists_of_run_obs f9Trace_store_obs
  refine ⟨s, hr, ?_⟩
  simp only [obs, Prod.mk.injEq, List.cons.injEq] at ho
  omega

/-- two threads hold the writer role at once after a late second initialisation -/
theorem two_writers_reachable : ∃ s, Reachable (cold 2) s ∧ s.writersIn = 2 ∧ s.rebuilding = 2 := by
  obtain ⟨s, hr, ho⟩ := exists_of_run_obs twoWriters_run
  refine ⟨s, hr, ?_⟩
  simp only [obs, List.cons.injEq] at ho
  omega

/-! ## the point of use

`rdft`/`cdft` report the first dereference of the shared tables (`ip[0]`, then the twiddles) through the hook
`soxr_verif_table_use`; in the model that is the visible step `use_r` (a reader, `rd → ru`) or `use_w` (the writer, `wt → wu`,
before it rebuilds).  No other step of the model is a table use: a use by a thread that is neither a registered reader nor the
writer (e.g. a transform called on the shared tables without `UPDATE_FFT_CACHE`, or after `DONE_WITH_FFT_CACHE`) is not a step of
the model, the driver rejects the trace (TABLE-USE-OUTSIDE-LOCK). -/

/-- a table use is a step of the model only for a thread that holds the reader role or the writer role -/
theorem table_use_requires_role {l : Label} {s t : St} (hf : fire l s = some t) (hv : l.vis = .use) :
    (l = .use_r ∧ 0 < s.readersIn) ∨ (l = .use_w ∧ 0 < s.writersIn) := by
  obtain ⟨g, -⟩ := fire_some hf
  cases l <;> simp [Label.vis] at hv
  · exact .inl ⟨rfl, num_pos s readersW .rd g.1 rfl⟩
  · exact .inr ⟨rfl, num_pos s writersW .wt g.1 rfl⟩

/-- "never read while being rebuilt", at the point of use: when a reader dereferences the tables no thread is re-allocating or
    rebuilding them, they are complete for the current `FFT_LEN`, and the step changes neither -/
theorem reader_use_no_rebuild {s t : St} (h : Good s) (hf : fire .use_r s = some t) :
    s.rebuilding = 0 ∧ 0 < s.flen ∧ s.tab = s.flen ∧ t.flen = s.flen ∧ t.tab = s.tab := by
  obtain ⟨g, rfl⟩ := fire_some hf
  have hr : 0 < s.reading := num_pos s readingW .rd g.1 rfl
  have nr := no_read_during_rebuild h
  have tb := readers_find_tables_built h hr
  refine ⟨?_, tb.1, tb.2, rfl, rfl⟩
  by_cases hne : s.rebuilding = 0
  · exact hne
  · have := nr.2 (Nat.pos_of_ne_zero hne); omega

/-- … and when the writer dereferences them (to rebuild them) it is the only thread that re-allocates or rebuilds, no thread is
    inside a transform reading them, and no thread holds the reader role -/
theorem writer_use_exclusive {s t : St} (h : Good s) (hf : fire .use_w s = some t) :
    s.rebuilding = 1 ∧ s.reading = 0 ∧ s.writersIn = 1 ∧ s.readersIn = 0 ∧ t.flen = s.flen ∧ t.tab = s.tab := by
  obtain ⟨g, rfl⟩ := fire_some hf
  have h1 : 0 < s.rebuilding := num_pos s rebuildingW .wt g.1 rfl
  have h2 : 0 < s.writersIn := num_pos s writersW .wt g.1 rfl
  have nr := no_read_during_rebuild h
  have we := writer_excludes_all h
  refine ⟨by omega, nr.2 h1, by omega, we.2 h2, rfl, rfl⟩

/-! ## two caches: the locks of the double and of the float cache are different objects

Everything above is about one cache.  The process has two; that they do not interfere is the assumption built into `SysStep`
(a step with respect to one cache changes nothing of the other: different `ccrw2_t`, `FFT_LEN`, tables), checked on the real
code by the harness monitor `LOCK-SHARED-BETWEEN-CACHES`. -/

/-- HYPOTHESIS EXPLICIT (`SysStep`): if the two caches share no variable, then after both are initialised every interleaving of
    any number of threads through both caches keeps BOTH `Good`, i.e. every theorem above holds for each of them -/
theorem both_caches_good {n m : Nat} {s : Sys} (h : SysReachable ⟨warm n, warm m⟩ s) : Good s.d ∧ Good s.f :=
  ⟨.warm n (sys_proj h).1, .warm m (sys_proj h).2⟩

/-- … and from process start, as long as neither cache's initialisation is raced -/
theorem both_caches_good_partial {n m : Nat} {d f : St} (hd : ReachableS (cold n) d) (hf : ReachableS (cold m) f) :
    Good d ∧ Good f := ⟨.coldSerial n hd, .coldSerial m hf⟩

/-- NEGATION with the hypothesis dropped (one `ccrw2_t` serving both caches, each cache keeping its own first-use guard): the
    other cache's initialiser re-creates the lock words while a reader of this cache is inside a transform; a second thread
    then takes `w` and re-allocates the tables under that reader — from a `Good` state, with no raced initialisation of THIS
    cache.  With the lock intact the same thread is stopped at `P(w)` (`grow_blocked_run`). -/
theorem shared_lock_breaks_exclusion :
    ∃ s u, Good s ∧ run growUnderReaderTrace (foreignInit s) = some u ∧ 0 < u.reading ∧ 0 < u.rebuilding ∧
      run growUnderReaderTrace s = none := by
  have h1 := grow_after_foreignInit_run
  have h2 := grow_blocked_run
  -- (propositional rewriting only: a definitional unfolding of `run` on a symbolic state is hopeless for the kernel)
  cases hr : run readerInTrace (warm 2) with
  | none => rw [hr] at h1; exact absurd h1 (by simp)
  | some s =>
    rw [hr, Option.bind_some] at h1 h2
    cases hu : run growUnderReaderTrace (foreignInit s) with
    | none => rw [hu] at h1; exact absurd h1 (by simp)
    | some u =>
      rw [hu, Option.map_some] at h1
      have h3 := Option.some.inj h1
      simp only [obs, List.cons.injEq] at h3
      refine ⟨s, u, .warm 2 (reach_of_run _ hr), hu, by omega, by omega, ?_⟩
      cases hb : run growUnderReaderTrace s with
      | none => rfl
      | some _ => rw [hb] at h2; exact absurd h2 (by simp)

/-! ## `vr_init`'s tables -/

/-- PARTIAL: if no thread executes the test `fade_coefs[0]==0` while another is inside the initialiser, the tables are written
    at most once and never used while being written.  Missing: any guard in `vr_init`. -/
theorem vr_init_once_partial {n : Nat} {s : Vr.St} (h : Vr.ReachableS (Vr.cold n) s) :
    s.nFill ≤ 1 ∧ (0 < s.vu → s.v2 = 0 ∧ s.fade0 = 1) := by
  obtain ⟨h1, h2, h3, h4, h5⟩ := Vr.inv_of_reachableS h
  refine ⟨?_, fun hu => ⟨h5 hu, ?_⟩⟩
  · by_cases hf : s.fade0 = 0
    · have := h3 hf; omega
    · have := h4 (by omega); omega
  · by_cases hf : s.fade0 = 0
    · have := h3 hf; omega
    · omega

/-- NEGATION: two threads pass the test before either stores `fade_coefs[0]`; the tables are written twice -/
theorem vr_init_twice_reachable : ∃ s, Vr.Reachable (Vr.cold 2) s ∧ s.nFill = 2 :=
  ⟨_, Vr.run_reachable _ _ _ .init Vr.twice_run, rfl⟩

/-- NEGATION: a second thread sees `fade_coefs[0] != 0` and uses the tables while the first is still computing them -/
theorem vr_use_during_init_reachable : ∃ s, Vr.Reachable (Vr.cold 2) s ∧ 0 < s.vu ∧ 0 < s.v2 :=
  ⟨_, Vr.run_reachable _ _ _ .init Vr.earlyUse_run, by decide, by decide⟩

/-! ## non-vacuity: the hypotheses are met by concrete, non-trivial reachable states -/

/-- a `Good` state in which a writer is re-allocating (hypothesis `0 < rebuilding` of `no_read_during_rebuild`) -/
example : ∃ s, Good s ∧ s.writersIn = 1 ∧ s.rebuilding = 1 ∧ s.flen = 8 := by
  obtain ⟨s, hr, ho⟩ := exists_of_run_obs writerIn_run
  refine ⟨s, .warm 2 hr, ?_⟩
  simp only [obs, List.cons.injEq] at ho
  omega

/-- a `Good` state with two readers inside transforms at once (hypothesis `0 < reading`) -/
example : ∃ s, Good s ∧ s.reading = 2 ∧ s.flen = 8 ∧ s.tab = 8 := by
  obtain ⟨s, hr, ho⟩ := exists_of_run_obs twoReaders_run
  refine ⟨s, .warm 3 hr, ?_⟩
  simp only [obs, List.cons.injEq] at ho
  omega

/-- the hypotheses of `reader_use_no_rebuild` / `writer_use_exclusive` are met: two readers, resp. the writer, at the point of use -/
example : ∃ s t, Good s ∧ fire .use_r s = some t := by
  obtain ⟨s, hr, e⟩ := exists_of_run_obs twoReaders_at_use
  have hg : Soxr.Conc.guard .use_r s := ⟨by show 0 < s.cnt .rd; omega, trivial⟩
  exact ⟨s, eff .use_r s, .warm 3 hr, if_pos hg⟩

example : ∃ s t, Good s ∧ fire .use_w s = some t := by
  obtain ⟨s, hr, e⟩ := exists_of_run_obs writerIn_at_use
  have hg : Soxr.Conc.guard .use_w s := ⟨by show 0 < s.cnt .wt; omega, trivial⟩
  exact ⟨s, eff .use_w s, .warm 2 hr, if_pos hg⟩

/-- the hypothesis of `both_caches_good` is met by a run in which both caches are used: the double cache grown, a float reader -/
example : ∃ s : Sys, SysReachable ⟨warm 2, warm 2⟩ s ∧ s.d.flen = 8 ∧ 0 < s.f.cnt .r2 := by
  obtain ⟨d, hd, ed⟩ := exists_of_run_obs (s0 := warm 2) (ls := readerInTrace) (f := fun s => s.flen) (o := 8) (by decide +kernel)
  obtain ⟨f, hf, ef⟩ :=
    exists_of_run_obs (s0 := warm 2) (ls := [.call, .i0_warm, .r1]) (f := fun s => s.cnt .r2) (o := 1) (by decide +kernel)
  -- the double cache runs first while the float cache stands still, then the float cache
  exact ⟨⟨d, f⟩, (SysReachable.dbl (warm 2) hd).trans (.flt d hf), ed, Nat.lt_of_lt_of_eq Nat.one_pos ef.symm⟩

/-- the re-test matters: a `Good` state in which a thread that upgraded finds `len > FFT_LEN` false (another thread grew the
    cache while it waited) and downgrades -/
example : ∃ s, Good s ∧ s.cnt .d1 = 1 ∧ s.flen = 8 := by
  obtain ⟨s, hr, e⟩ := exists_of_run_obs downgrade_run
  exact ⟨s, .warm 2 hr, (Prod.mk.inj e).1, (Prod.mk.inj e).2⟩

set_option maxRecDepth 100000 in
/-- the serial-initialisation hypothesis of `init_once_partial` is satisfiable all the way through a first use -/
example : ∃ s, ReachableS (cold 2) s ∧ s.flen = 0 ∧ s.nInit = 1 := by
  have h : (run ([.call, .i0_cold] ++ initSeq) (cold 2)).map (fun s => (s.flen, s.nInit)) = some (0, 1) := by decide
  -- first two steps by hand (the cold test is taken while nobody is inside the initialiser), the rest has no cold test
  cases h1 : fire .call (cold 2) with
  | none => simp [run, initSeq, h1] at h
  | some s1 =>
    cases h2 : fire .i0_cold s1 with
    | none => simp [run, initSeq, h1, h2] at h
    | some s2 =>
      have r1 : ReachableS (cold 2) s1 := .step .init ⟨.call, h1, fun e => by cases e⟩
      have hin : s1.inInit = 0 := by
        obtain ⟨-, rfl⟩ := fire_some h1
        decide
      have r2 : ReachableS (cold 2) s2 := .step r1 ⟨.i0_cold, h2, fun _ => hin⟩
      cases h3 : run initSeq s2 with
      | none => simp [run, h1, h2, h3] at h
      | some s3 =>
        have r3 := run_reachableS initSeq s2 s3 (by decide) r2 h3
        simp only [List.cons_append, List.nil_append, run, h1, h2, Option.bind_some, h3, Option.map_some,
          Option.some.injEq, Prod.mk.injEq] at h
        exact ⟨s3, r3, h.1, h.2⟩

end Soxr.C17
