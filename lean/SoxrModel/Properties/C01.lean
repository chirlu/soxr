/-
  C01 — Pass-band fidelity.

  "For any constant resampling ratio … and any input whose spectrum lies inside the configured pass-band, the output is
  the same continuous-time signal sampled at the output rate, apart from the filter's own phase response when a
  non-linear phase is selected.  Everything else in the output (distortion, images, aliases, noise) stays below the
  configured precision — 2^(1−bits) of full scale … — and the pass-band gain error stays inside the selected
  roll-off class …"

  What is proved here (over ℂ, exact arithmetic, rational ratio L/M, steady state = beyond the start-up horizon `k₀`):
  for a linear system with finitely supported rows that is (L,M)-shift covariant from `k₀` on — which is what the
  model resampler of C12 is, with (L,M) the plan's implementation period — the property for ALL finite sums of
  in-band tones with arbitrary complex amplitudes and ALL output indices `k ≥ k₀` follows from finitely many numbers per
  frequency: the `L` modulation coefficients `c_r(z) = w^{-(k₀+r)}·Σₙ g[k₀+r,n]·zⁿ` of one period.
  `PassBand` lists exactly those hypotheses; they are evaluated by MEASUREMENT (float64, rows of the real code obtained
  by impulses at all `M_P` input phases, frequencies on a finite grid) in checks/c01.py — not proved.

  Not proved (and not provable in this model): that the Kaiser designs of `filter.c` meet the inequalities
  (`Goal_designed_filters_meet_spec`), behaviour between grid frequencies, irrational ratios, floating-point rounding
  of the kernels.
-/
import SoxrModel.Signal.Tone
import SoxrModel.Signal.Example
import Mathlib.Analysis.Complex.Basic
import Mathlib.Tactic.NormNum

namespace Soxr.C01

open Soxr.Signal Soxr.Signal.Kernel Finset

/-- The hypotheses of one rational configuration.  `B` is the set of in-band input tones `z = e^{iω}` the hypotheses
were evaluated for, `wOf z` the same continuous-time tone at the output rate (`w = e^{iωM/L}`), `G z` the filter's own
response at that frequency (gain and — for a non-linear phase setting — phase), `ε` the bound on everything else
(2^(1−bits)), `δ` the roll-off class as a bound on `| |G| − 1 |`.
`cov` is ASSUMED of the real kernels (C12 proves it for the model and measures it on the code);
`residual` and `gain` are MEASURED. -/
structure PassBand (K : Kernel ℂ) (L M k₀ : ℤ) (B : Set ℂ) (wOf G : ℂ → ℂ) (ε δ : ℝ) : Prop where
  cov : K.CovFrom L M k₀
  Lpos : 0 < L
  unit_in : ∀ z ∈ B, ‖z‖ = 1
  unit_out : ∀ z ∈ B, ‖wOf z‖ = 1
  same_tone : ∀ z ∈ B, wOf z ^ L = z ^ M
  residual : ∀ z ∈ B, ∀ r, 0 ≤ r → r < L → ‖K.coef z (wOf z) (k₀ + r) - G z‖ ≤ ε
  gain : ∀ z ∈ B, |‖G z‖ - 1| ≤ δ

variable {K : Kernel ℂ} {L M k₀ : ℤ} {B : Set ℂ} {wOf G : ℂ → ℂ} {ε δ : ℝ}

/-- **Pass-band fidelity.** For every finite family of in-band tones with arbitrary complex amplitudes, at EVERY output
index beyond the horizon, the output is the same tones at the output rate, each multiplied by the filter's own response
`G`, up to `ε · Σ|aᵢ|` — i.e. up to `ε` of full scale. -/
theorem passband_fidelity (D : PassBand K L M k₀ B wOf G ε δ) {ι : Type*} (s : Finset ι) (a z : ι → ℂ)
    (hz : ∀ i ∈ s, z i ∈ B) {k : ℤ} (hk : k₀ ≤ k) :
    ‖K.resp (fun n => ∑ i ∈ s, a i * z i ^ n) k - ∑ i ∈ s, a i * (G (z i) * wOf (z i) ^ k)‖
      ≤ ε * ∑ i ∈ s, ‖a i‖ := by
  have h := D.cov.tones_error_le D.Lpos s a z (fun i => wOf (z i)) (fun i => G (z i)) (fun _ => ε)
    (fun i hi => D.unit_in _ (hz i hi)) (fun i hi => D.unit_out _ (hz i hi)) (fun i hi => D.same_tone _ (hz i hi))
    (fun i hi => D.residual _ (hz i hi)) hk
  rwa [← Finset.sum_mul, mul_comm _ ε] at h

/-- **Gain class.** Each output tone's amplitude is the input amplitude within the roll-off class `δ`. -/
theorem passband_gain (D : PassBand K L M k₀ B wOf G ε δ) (a : ℂ) {z : ℂ} (hz : z ∈ B) :
    |‖a * G z‖ - ‖a‖| ≤ δ * ‖a‖ := by
  rw [norm_mul, ← mul_sub_one, abs_mul, abs_norm, mul_comm]
  exact mul_le_mul_of_nonneg_right (D.gain z hz) (norm_nonneg a)

/-- **Linear phase** (`G` within `δ'` of 1 as a complex number: no phase error, gain inside the class): the output
is the same continuous-time signal sampled at the output rate up to `(ε + δ')·Σ|aᵢ|`. -/
theorem passband_fidelity_aligned (D : PassBand K L M k₀ B wOf G ε δ) {δ' : ℝ} (hG : ∀ z ∈ B, ‖G z - 1‖ ≤ δ')
    {ι : Type*} (s : Finset ι) (a z : ι → ℂ) (hz : ∀ i ∈ s, z i ∈ B) {k : ℤ} (hk : k₀ ≤ k) :
    ‖K.resp (fun n => ∑ i ∈ s, a i * z i ^ n) k - ∑ i ∈ s, a i * wOf (z i) ^ k‖ ≤ (ε + δ') * ∑ i ∈ s, ‖a i‖ := by
  have h := D.cov.tones_error_le D.Lpos s a z (fun i => wOf (z i)) (fun _ => 1) (fun _ => ε + δ')
    (fun i hi => D.unit_in _ (hz i hi)) (fun i hi => D.unit_out _ (hz i hi)) (fun i hi => D.same_tone _ (hz i hi))
    (fun i hi r hr0 hrL => (norm_sub_le_norm_sub_add_norm_sub _ (G (z i)) _).trans
      (add_le_add (D.residual _ (hz i hi) r hr0 hrL) (hG _ (hz i hi)))) hk
  simp only [one_mul] at h
  rwa [← Finset.sum_mul, mul_comm _ (ε + δ')] at h

/-- **One period decides the whole stream — and nothing is lost by looking at one period only:** for a single tone the
bound over all `k ≥ k₀` holds IF AND ONLY IF it holds for the `L` measured coefficients. -/
theorem whole_stream_iff_one_period (hcov : K.CovFrom L M k₀) (hL : 0 < L) {z w : ℂ} (hz1 : ‖z‖ = 1) (hw1 : ‖w‖ = 1)
    (hwz : w ^ L = z ^ M) (g : ℂ) (e : ℝ) :
    (∀ k, k₀ ≤ k → ‖K.resp (fun n => z ^ n) k - g * w ^ k‖ ≤ e) ↔
      (∀ r, 0 ≤ r → r < L → ‖K.coef z w (k₀ + r) - g‖ ≤ e) :=
  hcov.tone_error_le_iff hL hz1 hw1 hwz g e

/-- The supremum of a tone's error over the whole stream is attained within the first period after the horizon. -/
theorem worst_error_in_first_period (hcov : K.CovFrom L M k₀) (hL : 0 < L) {z w : ℂ} (hz1 : ‖z‖ = 1) (hw1 : ‖w‖ = 1)
    (hwz : w ^ L = z ^ M) (g : ℂ) :
    ∃ r, 0 ≤ r ∧ r < L ∧ ∀ k, k₀ ≤ k →
      ‖K.resp (fun n => z ^ n) k - g * w ^ k‖ ≤ ‖K.resp (fun n => z ^ n) (k₀ + r) - g * w ^ (k₀ + r)‖ :=
  hcov.tone_error_sup_attained hL hz1 hw1 hwz g

/-- **A stream that starts at frame 0.** If the rows beyond the horizon read no input before frame 0, the one-sided
signal (zero before the start of the stream) gives the same output there as the two-sided tones: the steady-state
statement applies to real streams. -/
theorem passband_fidelity_causal (D : PassBand K L M k₀ B wOf G ε δ)
    (hreads : ∀ k, k₀ ≤ k → ∀ n ∈ (K.row k).support, 0 ≤ n) {ι : Type*} (s : Finset ι) (a z : ι → ℂ)
    (hz : ∀ i ∈ s, z i ∈ B) {k : ℤ} (hk : k₀ ≤ k) :
    ‖K.resp (fun n => if 0 ≤ n then ∑ i ∈ s, a i * z i ^ n else 0) k - ∑ i ∈ s, a i * (G (z i) * wOf (z i) ^ k)‖
      ≤ ε * ∑ i ∈ s, ‖a i‖ := by
  rw [K.resp_congr fun n hn => if_pos (hreads k hk n hn)]
  exact passband_fidelity D s a z hz hk

/-- **With rounding.** If the real resampler `impl` is within `η` of the linear system on the signal in question
(η: the floating-point noise of the kernels, measured by the sine-fit residual), the bound is `ε·Σ|aᵢ| + η`. -/
theorem passband_fidelity_impl (D : PassBand K L M k₀ B wOf G ε δ) (impl : (ℤ → ℂ) → ℤ → ℂ) {η : ℝ} {ι : Type*}
    (s : Finset ι) (a z : ι → ℂ) (hz : ∀ i ∈ s, z i ∈ B) {k : ℤ} (hk : k₀ ≤ k)
    (himpl : ‖impl (fun n => ∑ i ∈ s, a i * z i ^ n) k - K.resp (fun n => ∑ i ∈ s, a i * z i ^ n) k‖ ≤ η) :
    ‖impl (fun n => ∑ i ∈ s, a i * z i ^ n) k - ∑ i ∈ s, a i * (G (z i) * wOf (z i) ^ k)‖
      ≤ ε * ∑ i ∈ s, ‖a i‖ + η := by
  rw [add_comm]
  exact (norm_sub_le_norm_sub_add_norm_sub _ _ _).trans (add_le_add himpl (passband_fidelity D s a z hz hk))

/-- NOT PROVED: that the filters `_soxr_init` designs (Kaiser windows, `lsx_design_lpf`, half-band tables) make the
hypotheses true for every configuration and every in-band frequency.  Evaluated by measurement on sampled
configurations and a frequency grid. -/
def Goal_designed_filters_meet_spec (K : Kernel ℂ) (L M k₀ : ℤ) (passband : Set ℂ) (wOf : ℂ → ℂ) (bits : ℕ)
    (rolloff : ℝ) : Prop :=
  ∃ G : ℂ → ℂ, PassBand K L M k₀ passband wOf G ((2 : ℝ) ^ (1 - (bits : ℤ))) rolloff

/-! ### Non-vacuity: the ×2 linear interpolator (L = 2, M = 1) -/

theorem interp2_dc_coef (k : ℤ) : (interp2 ℂ).coef 1 1 k = 1 := by
  unfold Kernel.coef
  have : tone (1 : ℂ) = fun _ => 1 := funext fun n => one_zpow n
  rw [this, interp2_const (by norm_num), one_zpow, inv_one, one_mul]

/-- At DC the interpolator is perfect: the hypotheses hold with `ε = 0`, `δ = 0`. -/
theorem interp2_passband_dc : PassBand (interp2 ℂ) 2 1 0 {1} (fun _ => 1) (fun _ => 1) 0 0 where
  cov := interp2_cov.covFrom 0
  Lpos := by norm_num
  unit_in := by rintro _ rfl; exact norm_one
  unit_out := fun _ _ => norm_one
  same_tone := by rintro _ rfl; rw [one_zpow, one_zpow]
  residual := by rintro _ rfl r _ _; rw [interp2_dc_coef, sub_self, norm_zero]
  gain := fun _ _ => by rw [norm_one, sub_self, abs_zero]

/-- At the input Nyquist frequency (`z = −1`, `w = i`) the two coefficients of the period are 1 and 0: gain ½ and an
image of the same size — a linear interpolator does not reject it; the hypotheses hold with `G = ½`, `ε = ½`. -/
theorem interp2_nyquist_coefs :
    (interp2 ℂ).coef (-1) Complex.I 0 = 1 ∧ (interp2 ℂ).coef (-1) Complex.I 1 = 0 := by
  constructor <;> simp [Kernel.coef, interp2_resp, tone]

example : ‖(interp2 ℂ).coef (-1) Complex.I 0 - 2⁻¹‖ ≤ 2⁻¹ ∧ ‖(interp2 ℂ).coef (-1) Complex.I 1 - 2⁻¹‖ ≤ 2⁻¹ := by
  rw [interp2_nyquist_coefs.1, interp2_nyquist_coefs.2]
  norm_num

/-- The theorem applies: a DC input of any complex amplitude comes out unchanged at every output index ≥ 0. -/
example (a : ℂ) {k : ℤ} (hk : 0 ≤ k) :
    ‖(interp2 ℂ).resp (fun n => ∑ _i ∈ ({0} : Finset ℕ), a * (1 : ℂ) ^ n) k
      - ∑ _i ∈ ({0} : Finset ℕ), a * (1 * (1 : ℂ) ^ k)‖ ≤ 0 * ∑ _i ∈ ({0} : Finset ℕ), ‖a‖ :=
  passband_fidelity interp2_passband_dc {0} (fun _ => a) (fun _ => 1) (fun _ _ => rfl) hk

end Soxr.C01
