import SoxrModel.Alloc.Lemmas

/-!
# C20 — allocation failure is reported as an error: no crash, no leak

Model: `SoxrModel/Alloc/Model.lean` (heap of blocks, every allocation call decided by an oracle, the code of
`soxr.c` as written, an engine's `create` abstracted to its tagged allocation sites).  Everything below holds for
**every channel count** (`engs : List (List Site)` has one entry per channel, of any length), **every engine site
list**, **every starting heap** and — unless the single-failure oracle `failAt` is named — **every oracle**.

The quantifier of the property ("failure of the k-th allocation for every k") is the index `k` into the job's site
sequence `createSeq engs true` = `soxr_create`'s calloc, the three callocs of `initialise`, then per channel the
channel calloc followed by the engine's sites.

Clauses and theorems
* reports an error            `error_returned`, `clear_error_returned`, `lazy_init_error_returned`, `completed_means_no_failure`,
                              `create_success_means_no_failure`
* nothing is leaked           `no_leak`, `no_leak_after_delete`, `job_no_leak_no_double_free`
* object can be deleted       `deletable`, `every_operation_keeps_deletable`, `delete0_idempotent_after_fatal_error`
* no dereference of a failed allocation (checked sites)   `no_deref_of_failed`, `faults_only_at_unchecked_sites`
* the pinned code violates the property at every unchecked site (finding F10): `unchecked_site_crashes`,
  `unchecked_site_reports_nothing`, `process_failure_crashes`, and the concrete witnesses at the end.
-/

namespace Soxr.Alloc.C20
open Soxr.Alloc

/-- Fail call `k` of `soxr_create`; if the site of call `k` is a checked one, `soxr_create` returns the NULL handle
(with an error string) — and, `no_leak`, every block the call had allocated has been freed again. -/
theorem error_returned (engs : List (List Site)) (h0 : Heap) (k : Nat) (s : Site)
    (hk : (createSeq engs true)[k]? = some s) (hc : s.kind = .checked) :
    ∃ h', create (failAt (h0.count + k)) engs true h0 = .ok none h' ∧ h'.live.Perm h0.live := by
  obtain ⟨_, h', e, rfl, p⟩ := ((create_spec (failAt (h0.count + k)) engs true h0).of_failAt hk).1 hc
  exact ⟨h', e, p⟩

theorem no_leak (engs : List (List Site)) (h0 : Heap) (k : Nat) (s : Site)
    (hk : (createSeq engs true)[k]? = some s) (hc : s.kind = .checked) (r : Option Obj) (h' : Heap)
    (hr : create (failAt (h0.count + k)) engs true h0 = .ok r h') :
    r = none ∧ h'.live.Perm h0.live ∧ h'.live.length = h0.live.length := by
  obtain ⟨h'', e, p⟩ := error_returned engs h0 k s hk hc
  rw [e] at hr
  cases hr
  exact ⟨rfl, p, p.length_eq⟩

/-- `no_deref_of_failed`, checked sites: failing a checked site never leads to a fault of any kind (no dereference of
the NULL, no use after free, no double free in the tear-down). -/
theorem no_deref_of_failed (engs : List (List Site)) (h0 : Heap) (k : Nat) (s : Site)
    (hk : (createSeq engs true)[k]? = some s) (hc : s.kind = .checked) (f : Fault) :
    create (failAt (h0.count + k)) engs true h0 ≠ .fault f := by
  obtain ⟨h', e, -⟩ := error_returned engs h0 k s hk hc
  rw [e]
  exact fun h => nomatch h

/-- For every oracle: the only fault `soxr_create` can run into is the dereference of a NULL that an *unchecked* site
of some channel's engine got from a failed allocation call.  (So: never a double free, never a use after free, and
the allocations of `soxr.c` itself — all checked — are never dereferenced when they fail.) -/
theorem faults_only_at_unchecked_sites (fail : Nat → Bool) (engs : List (List Site)) (init : Bool) (h0 : Heap) (f : Fault)
    (hf : create fail engs init h0 = .fault f) :
    ∃ s k, f = .derefNull s.name ∧ s.kind = .unchecked ∧ (∃ e ∈ engs, s ∈ e) ∧ h0.count ≤ k ∧ fail k = true := by
  obtain ⟨_, _, e, -⟩ | ⟨_, _, e, -⟩ | ⟨s, k, e, hu, hs, hk⟩ := (create_spec fail engs init h0).elim
  · cases hf.symm.trans e
  · cases hf.symm.trans e
  · cases hf.symm.trans e
    exact ⟨s, k, rfl, hu, engine_of_unchecked hs hu, hk⟩

/-- For every oracle: a handle is returned only if no allocation call of `soxr_create` failed; the object then owns
exactly what was allocated, is not in error state, and (see `deletable`) can be deleted. -/
theorem create_success_means_no_failure (fail : Nat → Bool) (engs : List (List Site)) (init : Bool) (h0 : Heap)
    (o : Obj) (h' : Heap) (hr : create fail engs init h0 = .ok (some o) h') :
    NoFail fail h0.count h'.count ∧ Good o ∧ Owns o h' h0.live ∧ o.error = false := by
  obtain ⟨_, _, e, ⟨o', rfl, g, own, he⟩, -, hn⟩ | ⟨_, _, e, rfl, -⟩ | ⟨_, _, e, -⟩ :=
    (create_spec fail engs init h0).elim
  · cases hr.symm.trans e
    exact ⟨hn, g, own, he⟩
  · cases hr.symm.trans e
  · cases hr.symm.trans e

/-- Fail call `k` of the re-initialisation done by `soxr_clear`; if its site is checked, `soxr_clear` returns an
error, the object is in the all-zero error state, exactly the object's own block is still live, and `soxr_delete`
then frees it without touching anything else. -/
theorem clear_error_returned (engs : List (List Site)) (o : Obj) (h : Heap) (F : List Blk)
    (g : Good o) (own : Owns o h F) (hn : o.numChannels ≠ 0) (k : Nat) (s : Site)
    (hk : (initSeq engs)[k]? = some s) (hc : s.kind = .checked) :
    ∃ h', clear (failAt (h.count + k)) o true engs h = .ok (true, o.errState) h' ∧ h'.live.Perm (o.self :: F) ∧
      ∃ h'', delete o.errState h' = .ok () h'' ∧ h''.live.Perm F := by
  obtain ⟨_, h', e, rfl, p⟩ := ((clear_spec (failAt (h.count + k)) o engs h F g own hn).of_failAt hk).1 hc
  obtain ⟨L, eL, pL⟩ := delete_errState o.self F h' p
  exact ⟨h', e, p, _, eL, pL⟩

/-- The same for an object created without a ratio (or channels) whose resamplers are built by a later
`soxr_set_io_ratio`. -/
theorem lazy_init_error_returned (engs : List (List Site)) (o : Obj) (h : Heap) (F : List Blk)
    (fr : Fresh o) (hn : o.numChannels ≠ 0) (hp : h.live.Perm (o.self :: F)) (k : Nat) (s : Site)
    (hk : (initSeq engs)[k]? = some s) (hc : s.kind = .checked) :
    ∃ h', setIoRatio (failAt (h.count + k)) o engs h = .ok (true, o.errState) h' ∧ h'.live.Perm (o.self :: F) := by
  obtain ⟨_, h', e, rfl, p⟩ := ((setIoRatio_spec (failAt (h.count + k)) o engs h F fr hn hp).of_failAt hk).1 hc
  exact ⟨h', e, p⟩

/-- `soxr_delete` of any good object frees exactly the object's blocks: every `free` hits a live block or NULL
(no double free, no dangling pointer), every pointer read on the way is live, and afterwards nothing of the object
is live. -/
theorem deletable (o : Obj) (h : Heap) (F : List Blk) (g : Good o) (own : Owns o h F) :
    ∃ h', delete o h = .ok () h' ∧ h'.live.Perm F :=
  let ⟨_, e, p⟩ := delete_spec o F g.1 h own
  ⟨_, e, p⟩

theorem no_leak_after_delete (o : Obj) (h : Heap) (F : List Blk) (g : Good o) (own : Owns o h F) (h' : Heap)
    (hd : delete o h = .ok () h') : h'.live.length = F.length := by
  obtain ⟨h'', e, p⟩ := deletable o h F g own
  rw [e] at hd
  cases hd
  exact p.length_eq

/-- Every operation, under every oracle, either dereferences the NULL of a failed allocation (an unchecked site), or
leaves an object that is still good and exactly owned — hence deletable by `deletable` — whether it reported an
error or not; and when it did not report one, no allocation call failed during it. -/
theorem every_operation_keeps_deletable (fail : Nat → Bool) (o : Obj) (op : Op) (h : Heap) (F : List Blk)
    (g : Good o) (own : Owns o h F) :
    match runOp fail o op h with
    | .ok (false, o') h' => Good o' ∧ Owns o' h' F ∧ NoFail fail h.count h'.count
    | .ok (true, o') h' => Good o' ∧ Owns o' h' F
    | .fault (.derefNull _) => ∃ k, h.count ≤ k ∧ fail k = true
    | .fault _ => False := by
  have hP := runOp_post fail o h F g own op
  cases hr : runOp fail o op h with
  | fault f => rw [hr] at hP; cases f <;> exact hP
  | ok a h' =>
    rw [hr] at hP
    obtain ⟨err, o'⟩ := a
    cases err
    · exact ⟨hP.1, hP.2.1, (hP.2.2 rfl).2⟩
    · exact ⟨hP.1, hP.2.1⟩

/-- `soxr_create` calls `soxr_delete(p)` after `initialise` has failed and `fatal_error` has already run
`soxr_delete0`: the second `soxr_delete0` frees nothing (the heap is literally unchanged), so there is no double
free. -/
theorem delete0_idempotent_after_fatal_error (o : Obj) (h : Heap) (F : List Blk) (wf : WF o) (own : Owns o h F) :
    ∃ h1, fatalError o h = .ok o.errState h1 ∧ h1.live.Perm (o.self :: F) ∧
      delete0 o.errState h1 = .ok o.zero h1 := by
  obtain ⟨L, e, p⟩ := fatalError_spec o F wf h own
  exact ⟨_, e, p, delete0_errState o _ (p.mem_iff.mpr List.mem_cons_self)⟩

theorem job_no_leak_no_double_free (fail : Nat → Bool) (j : Job) (h0 : Heap) :
    match runJob fail j h0 with
    | .ok _ h' => h'.live.Perm h0.live
    | .fault (.derefNull _) => ∃ k, h0.count ≤ k ∧ fail k = true
    | .fault _ => False := by
  have hP := runJob_post fail j h0
  cases hr : runJob fail j h0 with
  | fault f => rw [hr] at hP; cases f <;> exact hP
  | ok v h' => rw [hr] at hP; exact hP.1

/-- If a job runs to its end and no call reported an error, then no allocation call failed: a failure is never
swallowed by the API layer. -/
theorem completed_means_no_failure (fail : Nat → Bool) (j : Job) (h0 h' : Heap) (m : Nat)
    (hr : runJob fail j h0 = .ok (.completed m) h') :
    NoFail fail h0.count h'.count ∧ m = h0.live.length := by
  have hP := runJob_post fail j h0
  rw [hr] at hP
  exact ⟨hP.2.2, hP.2.1⟩

/-- Fail call `k`; if its site is unchecked the model, like the code, dereferences the NULL. -/
theorem unchecked_site_crashes (engs : List (List Site)) (h0 : Heap) (k : Nat) (s : Site)
    (hk : (createSeq engs true)[k]? = some s) (hu : s.kind = .unchecked) :
    create (failAt (h0.count + k)) engs true h0 = .fault (.derefNull s.name) :=
  ((create_spec (failAt (h0.count + k)) engs true h0).of_failAt hk).2 hu

/-- … so for such a `k` the conclusion of `error_returned` is false: no error is reported (nothing is returned). -/
theorem unchecked_site_reports_nothing (engs : List (List Site)) (h0 : Heap) (k : Nat) (s : Site)
    (hk : (createSeq engs true)[k]? = some s) (hu : s.kind = .unchecked) :
    ¬ ∃ r h', create (failAt (h0.count + k)) engs true h0 = .ok r h' := by
  rw [unchecked_site_crashes engs h0 k s hk hu]
  exact fun ⟨_, _, h⟩ => nomatch h

/-- While streaming there is no checked site at all: whichever allocation call of `soxr_process` fails (FIFO growth,
FFT cache growth), its NULL is dereferenced. -/
theorem process_failure_crashes (o : Obj) (ss : List Site) (h : Heap) (F : List Blk) (own : Owns o h F)
    (he : o.error = false) (k : Nat) (s : Site) (hk : ss[k]? = some s) :
    process (failAt (h.count + k)) o ss h = .fault (.derefNull s.name) :=
  ((process_spec (failAt (h.count + k)) o ss h own.self_mem he).of_failAt (s := uncheck s) (by simp [hk])).2 rfl

/-! ## Non-vacuity and concrete witnesses

`crEngine` is the site list of one channel of the constant-rate engine as the harness records it for 44100 → 48000,
`SOXR_HQ`, SIMD build (first channel: filters are designed; later channels reuse `*shared`); `vrEngine` that of the
variable-rate engine.  The names are the keys of `harness/alloc/sites.json`. -/

def crEngine : List Site := [
  ⟨"_soxr_init:p->stages", .checked, .own⟩,
  ⟨"dft_stage_init:h", .unchecked, .temp⟩,
  ⟨"dft_stage_init:f->coefs", .unchecked, .shared⟩,
  ⟨"dft_stage_init:p->dft_out", .unchecked, .own⟩,
  ⟨"dft_stage_init:p->dft_scratch", .unchecked, .own⟩,
  ⟨"dft_stage_init:coef_setup", .unchecked, .temp⟩,
  ⟨"dft_stage_init:coef_setup", .unchecked, .temp⟩,
  ⟨"dft_stage_init:f->dft_forward_setup", .unchecked, .shared⟩,
  ⟨"dft_stage_init:f->dft_forward_setup", .unchecked, .shared⟩,
  ⟨"dft_stage_init:f->dft_backward_setup", .unchecked, .shared⟩,
  ⟨"dft_stage_init:f->dft_backward_setup", .unchecked, .shared⟩,
  ⟨"_soxr_init:coefs", .unchecked, .temp⟩,
  ⟨"prepare_poly_fir_coefs:result", .unchecked, .shared⟩,
  ⟨"_soxr_init:fifo_create", .unchecked, .own⟩,
  ⟨"_soxr_init:fifo_create", .unchecked, .own⟩,
  ⟨"_soxr_init:fifo_create", .unchecked, .own⟩]

def crEngineLater : List Site := [
  ⟨"_soxr_init:p->stages", .checked, .own⟩,
  ⟨"dft_stage_init:p->dft_out", .unchecked, .own⟩,
  ⟨"dft_stage_init:p->dft_scratch", .unchecked, .own⟩,
  ⟨"_soxr_init:fifo_create", .unchecked, .own⟩,
  ⟨"_soxr_init:fifo_create", .unchecked, .own⟩,
  ⟨"_soxr_init:fifo_create", .unchecked, .own⟩]

def vrEngine : List Site := [
  ⟨"vr_init:p->stages", .unchecked, .own⟩,
  ⟨"vr_init:fifo_create", .unchecked, .own⟩,
  ⟨"vr_init:fifo_create", .unchecked, .own⟩,
  ⟨"vr_init:fifo_create", .unchecked, .own⟩,
  ⟨"prepare_coefs:coefs1", .unchecked, .temp⟩,
  ⟨"prepare_coefs:coefs1", .unchecked, .temp⟩]

def stereo : List (List Site) := [crEngine, crEngineLater]

/-- the hypotheses of `error_returned` are met: call 22 of the stereo job is the stage array of the second channel -/
example : (createSeq stereo true)[22]? = some ⟨"_soxr_init:p->stages", .checked, .own⟩ ∧
    (⟨"_soxr_init:p->stages", .checked, .own⟩ : Site).kind = .checked := by decide +kernel

/-- … and the model computes what the theorem says: NULL handle, nothing live, 23 calls made -/
example : create (failAt 22) stereo true {} = .ok none { count := 23, live := [], cache := [] } := by decide +kernel

/-- the per-channel calloc of the second channel (call 21): the first channel, fully built, is closed again -/
example : create (failAt 21) stereo true {} = .ok none { count := 22, live := [], cache := [] } := by decide +kernel

/-- the first calloc of `initialise` fails: the other two are still made (4 calls in all), then everything is freed -/
example : create (failAt 1) stereo true {} = .ok none { count := 4, live := [], cache := [] } := by decide +kernel

/-- what a successful stereo create returns -/
def stereoObj : Obj :=
  { self := 0, numChannels := 2, channelPtrs := some 1, shared := some 2, resamplers := some 3
    chans := [some ⟨4, [20, 19, 18, 9, 8, 5]⟩, some ⟨21, [27, 26, 25, 24, 23, 22]⟩]
    sharedOwn := [17, 15, 14, 13, 12, 7] }

def stereoHeap : Heap :=
  { count := 28, live := [27, 26, 25, 24, 23, 22, 21, 20, 19, 18, 17, 15, 14, 13, 12, 9, 8, 7, 5, 4, 3, 2, 1, 0], cache := [] }

/-- no failure: 28 calls, 24 blocks live (the 4 temporaries are gone), and `soxr_delete` frees all 24 -/
example : create (fun _ => false) stereo true {} = .ok (some stereoObj) stereoHeap ∧ stereoHeap.live.length = 24 ∧
    delete stereoObj stereoHeap = .ok () { count := 28, live := [], cache := [] } := by decide +kernel

/-- the hypotheses of `clear_error_returned`, `deletable`, `every_operation_keeps_deletable` are met by that object -/
example : Good stereoObj ∧ Owns stereoObj stereoHeap [] ∧ stereoObj.numChannels ≠ 0 := by
  have ⟨_, g, own, _⟩ := create_success_means_no_failure (fun _ => false) stereo true {} stereoObj stereoHeap
    (by decide +kernel)
  exact ⟨g, own, by decide⟩

/-- `soxr_clear` of the stereo object with the second channel's calloc failing (call 28 + 3 + 17 = 48): error, object
in error state, 1 block live (the handle), 0 after delete — the model's `runJob` says `opFailed 0 1 0`. -/
example : runJob (failAt 48) ⟨stereo, true, [.clear true stereo]⟩ {} =
    .ok (.opFailed 0 1 0) { count := 49, live := [], cache := [] } := by decide +kernel

/-- witnesses of the negation, one per class of unchecked site of the constant-rate engine … -/
example : create (failAt 6) stereo true {} = .fault (.derefNull "dft_stage_init:h") := by decide +kernel
example : create (failAt 7) stereo true {} = .fault (.derefNull "dft_stage_init:f->coefs") := by decide +kernel
example : create (failAt 8) stereo true {} = .fault (.derefNull "dft_stage_init:p->dft_out") := by decide +kernel
example : create (failAt 9) stereo true {} = .fault (.derefNull "dft_stage_init:p->dft_scratch") := by decide +kernel
example : create (failAt 10) stereo true {} = .fault (.derefNull "dft_stage_init:coef_setup") := by decide +kernel
example : create (failAt 12) stereo true {} = .fault (.derefNull "dft_stage_init:f->dft_forward_setup") := by decide +kernel
example : create (failAt 14) stereo true {} = .fault (.derefNull "dft_stage_init:f->dft_backward_setup") := by decide +kernel
example : create (failAt 16) stereo true {} = .fault (.derefNull "_soxr_init:coefs") := by decide +kernel
example : create (failAt 17) stereo true {} = .fault (.derefNull "prepare_poly_fir_coefs:result") := by decide +kernel
example : create (failAt 18) stereo true {} = .fault (.derefNull "_soxr_init:fifo_create") := by decide +kernel
/-- … of the variable-rate engine (its very first allocation, the stage array, is unchecked) … -/
example : create (failAt 5) [vrEngine] true {} = .fault (.derefNull "vr_init:p->stages") := by decide +kernel
example : create (failAt 6) [vrEngine] true {} = .fault (.derefNull "vr_init:fifo_create") := by decide +kernel
example : create (failAt 9) [vrEngine] true {} = .fault (.derefNull "prepare_coefs:coefs1") := by decide +kernel
/-- … and of streaming: FIFO growth -/
example : runJob (failAt 29) ⟨stereo, true, [.process [⟨"fifo_reserve:f->data", .unchecked, .grow⟩,
    ⟨"fifo_reserve:f->data", .unchecked, .grow⟩]]⟩ {} = .fault (.derefNull "fifo_reserve:f->data") := by decide +kernel

end Soxr.Alloc.C20
