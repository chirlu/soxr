import SoxrModel.Chan.Clear
/-!
# C10 — history independence: `soxr_clear` = fresh; instances do not affect each other

Model: `SoxrModel/Chan/Clear.lean` — `struct soxr` as a record (field list generated from /repo/src/soxr.c on every run and
compared by `fields_match`, `clear_preserved_match`, …), `soxr_create` / `soxr_set_input_fn` / `soxr_set_io_ratio` /
`soxr_set_num_channels` / `soxr_clear` / `soxr_delete0` / `initialise` / `fatal_error` as functions, every other API call as
the footprint `Dyn`; the process-wide FFT cache and VR coefficient tables as `Globals`.

* `clear_torn_down_keeps_error` (commit b5a678f, F40): an object `fatal_error` has torn down (error set, control block
  zeroed) is returned unchanged with its error; `fatal_is_torn_down`, `torn_down_absorbing`: that state is what a failed
  deferred initialisation leaves and no operation of the model leaves it.
* `clear_eq_fresh`: for EVERY state `p` that is NOT torn down (hence after every history: partial streams, flushes, sticky
  errors, earlier clears): the struct after `soxr_clear(p)` equals, FIELD BY FIELD, the struct `soxr_create` builds for `p`'s
  configuration (seed 0) with `p`'s input-function registration copied in; recipes without RESET_ON_CLEAR: the fresh
  object is the one created with rates 0/0 (ratio not yet known), exactly as the code leaves it.
  `clear_fails_like_create`: if engine creation fails, `soxr_clear` reports what `soxr_create` would.
* `clear_resets`: clips 0, flushing 0, error 0 (when it returns 0), seed 0 (a fresh object gets a time/address seed: the
  dither stream is the one thing that cannot be "as new"; the falsifier pins it), engines = newly created ones
  (`clear_engines_fresh`: hence delay and all future output as new).
* `history_keeps_config` / `clear_after_history`: along every history of a live object the configuration `soxr_create`
  stored never changes (except `io_ratio`/`num_channels` through their setters while still unconfigured), and the
  registered input function is the last one registered — so "the same configuration + the same set_input_fn" is what
  `clear_eq_fresh` rebuilds.  (F11, repaired in /repo: `max_ilen` is among the copied members; `clear_preserved_match`
  pins that list to the source.)
* `instances_independent_struct`: an operation on one object leaves every other object's struct alone.
* process-wide tables: `fft_view_history_independent` — a length-`n` transform reads the same table entries whatever
  other instances grew the cache to (under the ASSUMED prefix property of fft4g's tables, exercised by the falsifier);
  `instances_independent_partial` — hence any behaviour that depends on the configuration and those views only (every
  engine but VR) is independent of the process history.
* VR: `vr_first_instance_wins`, `vr_not_independent` — the static tables take the FIRST VR instance's `mult`; a later
  instance with another scale gets the first one's gain: independence is FALSE for the VR engine (finding F6, replayed on the
  real code by `checks/c10.py`); `vr_independent_same_mult` is what remains true.  `vr_tables_first_wins`,
  `vr_tables_mult_only`, `vr_probe_independent_same_mult`: the three tables sit behind one guard and are built
  unconditionally from `mult` only (tied to the text of vr32.c by `vr_init_block_match`), so the first instance's ratio
  class / stage count can matter for NO table; the falsifier's first-instance matrix searches the real code for it.
* `clear_forgets_ratio_without_channels`: HISTORICAL witness about `clearOld`, the expression before commit 76fe472 (F18:
  clear of an object without channels forgot io_ratio); `clear` follows the repaired code and `clear_eq_fresh` needs no
  hypothesis about the channel count.  `checks/c10.py` replays the witness history on every run: the forgetting coming back is a violation.
-/
namespace Soxr.C10
open Soxr.Chan.Clear

variable {σ : Type}

/-- the configuration `soxr_clear` re-creates from: the stored one, with the ratio forgotten unless RESET_ON_CLEAR -/
def clearConfig (p : Soxr σ) : Config :=
  { configOf p with io_ratio := if hasReset p.q_spec then p.io_ratio else 0 }

/-- copy `p`'s input-function registration into `q` (what re-registering the same function does: `copyFn_eq_setInputFn`) -/
def copyFn (q p : Soxr σ) : Soxr σ :=
  { q with input_fn := p.input_fn, input_fn_state := p.input_fn_state, max_ilen := p.max_ilen }

theorem copyFn_eq_setInputFn (q p : Soxr σ) (f s m : Nat) :
    copyFn q (setInputFn p f s m) = setInputFn q f s m := rfl

theorem clear_of_not_torn (W : Eng σ) (p : Soxr σ) (ht : ¬ TornDown p) : clear W p = clearLive W p := by
  unfold clear; rw [if_neg ht]

/-- an object torn down by a fatal error is returned as it is, with its error (commit b5a678f, F40): `soxr_clear` does not
    revive it (there is no control block left to restart from) -/
theorem clear_torn_down_keeps_error (W : Eng σ) (p : Soxr σ) (ht : TornDown p) :
    clear W p = (p, p.error) ∧ (clear W p).2 ≠ 0 := by
  unfold clear; rw [if_pos ht]; exact ⟨rfl, ht.1⟩

/-- what `fatal_error` leaves is torn down, and stays so under every operation of the model (`soxr_set_input_fn`,
    `soxr_set_io_ratio`, `soxr_set_num_channels`, `soxr_clear`): the handle can only be deleted -/
theorem fatal_is_torn_down (p : Soxr σ) (e : Nat) : TornDown (fatal p (e + 1)) := by
  simp [TornDown, fatal, delete0, zero]

theorem torn_down_absorbing (W : Eng σ) (p : Soxr σ) (o : HOp) (ht : TornDown p) : TornDown (applyOp W p o) := by
  cases o with
  | setInputFn f s m => exact ht
  | setIoRatio r l => show TornDown (setIoRatio W p r l).1; rw [setIoRatio_of_error W r l ht.1]; exact ht
  | setNumChannels n =>
    show TornDown (setNumChannels W p n).1
    fun_cases setNumChannels W p n
    case case4 =>   -- the one exit that goes on to `soxr_set_io_ratio`
      rw [setIoRatio_of_error W _ 0 (p := { p with num_channels := n }) ht.1]; exact ht
    all_goals exact ht
  | clear => show TornDown (clear W p).1; rw [(clear_torn_down_keeps_error W p ht).1]; exact ht

/-- MAIN: whatever state an object that is not torn down is in, `soxr_clear` leaves the struct a successful `soxr_create` of
    the same configuration (seed 0) would build, field by field, plus the registered input function, and returns 0 — no
    other excluding hypothesis (since the F18 repair, commit 76fe472, also for objects whose channel count is not set
    yet).  Both halves (this and `clear_fails_like_create`) read off `Clear.clearLive_vs_create`. -/
theorem clear_eq_fresh (W : Eng σ) (p q : Soxr σ) (ht : ¬ TornDown p) (h : (create W (clearConfig p) 0).1 = some q) :
    clear W p = (copyFn q p, 0) := by
  rw [clear_of_not_torn W p ht]
  have hcl := clearLive_vs_create W p
  unfold clearConfig at h
  split at hcl <;> rename_i heq <;> rw [heq] at h
  · exact Option.some.inj h ▸ hcl
  · cases h

/-- HISTORICAL witness (finding F18, repaired in /repo by 76fe472): with the expression as first pinned (`clearOld`) an
    object whose channel count is not set yet (`soxr_create(…, 0, …)`, channels to be supplied by `soxr_set_num_channels`)
    FORGOT its ratio in `soxr_clear`: `soxr_set_io_ratio` refuses ("must set # channels before O/I ratio") before storing it.
    The current `clear` does not (`clear_eq_fresh` has no hypothesis about the channel count). -/
theorem clear_forgets_ratio_without_channels :
    ∃ (p q : Soxr Unit), (create dEng (clearConfig p) 0).1 = some q ∧ (Historical.clearOld dEng p).1 ≠ copyFn q p ∧
      (Historical.clearOld dEng p).1.io_ratio = 0 ∧ q.io_ratio = 7 ∧ (Historical.clearOld dEng p).2 = errNoChannels ∧
      clear dEng p = (copyFn q p, 0) := by
  refine ⟨{ (zero : Soxr Unit) with io_ratio := 7, q_spec := ⟨resetBit, 1⟩, control_block := 4 }, _, rfl, ?_, rfl, rfl, rfl,
    by rw [clear_of_not_torn _ _ (by decide)]; rfl⟩
  intro h
  have := congrArg Soxr.io_ratio h
  revert this
  decide

/-- … and when engine creation fails, `soxr_clear` returns the error `soxr_create` would return -/
theorem clear_fails_like_create (W : Eng σ) (p : Soxr σ) (e : Nat) (ht : ¬ TornDown p)
    (h : create W (clearConfig p) 0 = (none, e)) :
    (clear W p).2 = e ∧ (clear W p).1 = fatal p e := by
  rw [clear_of_not_torn W p ht]
  have hcl := clearLive_vs_create W p
  unfold clearConfig at h
  rw [h] at hcl
  exact ⟨congrArg Prod.snd hcl, congrArg Prod.fst hcl⟩

/-- error reset, clips 0, flushing 0, seed 0 — for every prior state -/
theorem clear_resets (W : Eng σ) (p : Soxr σ) (ht : ¬ TornDown p) :
    (clear W p).1.clips = 0 ∧ (clear W p).1.flushing = 0 ∧ (clear W p).1.seed = 0 ∧
    ((clear W p).2 = 0 → (clear W p).1.error = 0) := by
  rw [clear_of_not_torn W p ht]
  fun_cases clearLive W p
  case case1 =>
    -- `soxr_set_io_ratio` on a struct whose dynamic members `clearBase` has just zeroed
    obtain ⟨e, h⟩ | ⟨_, _, _, _, h⟩ := setIoRatio_footprint W { clearBase p with io_ratio := p.io_ratio } p.io_ratio 0
    · rw [h]; exact ⟨rfl, rfl, rfl, fun h0 => absurd h0 (Nat.succ_ne_zero e)⟩
    · rw [h]; exact ⟨rfl, rfl, rfl, fun _ => rfl⟩
  all_goals exact ⟨rfl, rfl, rfl, fun _ => rfl⟩

/-- the engines after a successful clear of a RESET_ON_CLEAR object are newly created ones (so is their delay) -/
theorem clear_engines_fresh (W : Eng σ) (p : Soxr σ) (e0 : σ) (hr : hasReset p.q_spec = true) (hc : p.num_channels ≠ 0)
    (hz : p.io_ratio ≠ 0) (hcr : W.create p.control_block p.io_ratio p.q_spec p.runtime_spec p.io_spec.scale = .ok e0)
    (ht : ¬ TornDown p) :
    (clear W p).1.resamplers = some (List.replicate p.num_channels e0) ∧ (clear W p).1.io_ratio = p.io_ratio := by
  rw [clear_of_not_torn W p ht]
  unfold clearLive clearBase
  simp [hr, setIoRatio, initialise, hc, hz, hcr]

/-- the members nothing but `soxr_create` writes -/
def fixedPart (p : Soxr σ) : QSpec × IoSpec × Nat × Nat × Nat × Nat :=
  (p.q_spec, p.io_spec, p.runtime_spec, p.control_block, p.deinterleave, p.interleave)

theorem setIoRatio_fixed (W : Eng σ) (p : Soxr σ) (r l : Nat) :
    Live (setIoRatio W p r l).1 → (fixedPart (setIoRatio W p r l).1 = fixedPart p ∧ Live p) := by
  obtain ⟨e, h⟩ | ⟨_, _, _, _, h⟩ := setIoRatio_footprint W p r l <;> rw [h]
  · exact fun hl => absurd rfl hl
  · exact fun hl => ⟨rfl, hl⟩

theorem clear_fixed (W : Eng σ) (p : Soxr σ) :
    Live (clear W p).1 → (fixedPart (clear W p).1 = fixedPart p ∧ Live p) := by
  fun_cases clear W p
  case case1 => exact fun hl => ⟨rfl, hl⟩                  -- torn down: returned as it is
  fun_cases clearLive W p
  case case1 => exact setIoRatio_fixed W _ p.io_ratio 0     -- rebuilt through `soxr_set_io_ratio`
  all_goals exact fun hl => ⟨rfl, hl⟩

theorem applyOp_fixed (W : Eng σ) (p : Soxr σ) (o : HOp) (hl : Live (applyOp W p o)) :
    fixedPart (applyOp W p o) = fixedPart p ∧ Live p := by
  cases o with
  | setInputFn f s m => exact ⟨rfl, hl⟩
  | setIoRatio r l => exact setIoRatio_fixed W p r l hl
  | setNumChannels n =>
    revert hl
    show Live (setNumChannels W p n).1 → fixedPart (setNumChannels W p n).1 = _ ∧ _
    fun_cases setNumChannels W p n
    case case4 => exact setIoRatio_fixed W { p with num_channels := n } p.io_ratio 0   -- goes on to `soxr_set_io_ratio`
    all_goals exact fun hl => ⟨rfl, hl⟩
  | clear => exact clear_fixed W p hl

theorem dyn_fixed {q q' : Soxr σ} (hd : Dyn q q') (hl : Live q') : fixedPart q' = fixedPart q ∧ Live q :=
  ⟨congrArg (fun c : Config => (c.q_spec, c.io_spec, c.runtime_spec, c.control_block, c.deinterleave, c.interleave)) hd.cfg,
    fun h => hl ((congrArg Config.control_block hd.cfg).trans h)⟩

theorem history_keeps_config (W : Eng σ) {p0 p : Soxr σ} (h : Reach W p0 p) :
    Live p → (fixedPart p = fixedPart p0 ∧ Live p0) := by
  induction h with
  | refl => exact fun hl => ⟨rfl, hl⟩
  | op o _ ih => exact fun hl => have h1 := applyOp_fixed W _ o hl; ⟨h1.1.trans (ih h1.2).1, (ih h1.2).2⟩
  | dyn _ hd ih => exact fun hl => have h1 := dyn_fixed hd hl; ⟨h1.1.trans (ih h1.2).1, (ih h1.2).2⟩

/-- clear after ANY history of a live object created with configuration `c`: a fresh object of that configuration (with
    the channel count and ratio the object has now), seed 0, plus the input function registered now -/
theorem clear_after_history (W : Eng σ) (c : Config) (seed : Nat) {p0 p q : Soxr σ}
    (hc : (create W c seed).1 = some p0) (hr : Reach W p0 p) (hl : Live p)
    (hq : (create W (clearConfig p) 0).1 = some q) :
    clear W p = (copyFn q p, 0) ∧ fixedPart p = fixedPart p0 :=
  ⟨clear_eq_fresh W p q (fun ht => hl ht.2) hq, (history_keeps_config W hr hl).1⟩

/-- an operation on object `i` leaves the struct of every other object alone -/
theorem instances_independent_struct (W : Eng σ) (objs : List (Soxr σ)) (i j : Nat) (o : HOp) (hij : i ≠ j) (hi : i < objs.length) :
    (objs.set i (applyOp W objs[i] o))[j]? = objs[j]? := by
  rw [List.getElem?_set_ne hij]

theorem useFft_ge (g : Globals) (n : Nat) : n ≤ (useFft g n).fftLen ∧ g.fftLen ≤ (useFft g n).fftLen := by
  simp [useFft]; omega

/-- a length-`n` transform reads the same entries whatever the cache was grown to by other instances -/
theorem fft_view_history_independent {τ : Type} (T : FftTables τ) (g1 g2 : Globals) (n : Nat) :
    fftView T g1 n = fftView T g2 n := by
  unfold fftView
  apply List.map_congr_left
  intro i hi
  have hi' : i < T.used n := List.mem_range.mp hi
  rw [T.prefix_ok _ n i (useFft_ge g1 n).1 hi', T.prefix_ok _ n i (useFft_ge g2 n).1 hi']

/-- positive half of independence: what depends on the configuration and on the FFT views only (every engine but VR)
    does not depend on which other instances exist or existed -/
theorem instances_independent_partial {τ B : Type} (T : FftTables τ) (beh : Config → List (List τ) → B)
    (c : Config) (lens : List Nat) (g1 g2 : Globals) :
    beh c (lens.map (fftView T g1)) = beh c (lens.map (fftView T g2)) := by
  congr 1
  apply List.map_congr_left
  intro n _
  exact fft_view_history_independent T g1 g2 n

theorem useVr_first (g : Globals) (a b : Nat) : vrEffective (useVr g a) b = (useVr g a).vrMult.getD b ∧
    (useVr (useVr g a) b).vrMult = (useVr g a).vrMult := by
  simp [vrEffective, useVr]

/-- the first VR instance's `mult` is what every later VR instance gets -/
theorem vr_first_instance_wins (a b : Nat) : vrEffective (applyUse Globals.init ⟨[], some a⟩) b = a := by
  simp [vrEffective, applyUse, useVr, Globals.init]

/-- NEGATION of independence for the VR engine (F6): the same instance (`mult = 3`) gets gain 3 in a fresh process and
    gain 1 in a process where a VR instance with `mult = 1` was created before -/
theorem vr_not_independent :
    ¬ ∀ (g1 g2 : Globals) (m : Nat), vrEffective g1 m = vrEffective g2 m := by
  intro h
  have := h Globals.init (applyUse Globals.init ⟨[], some 1⟩) 3
  revert this
  decide

/-- what remains true: if every VR instance of the process uses the same `mult`, each gets its own -/
theorem vr_independent_same_mult (g : Globals) (m : Nat) (h : g.vrMult = none ∨ g.vrMult = some m) :
    vrEffective g m = m := by
  rcases h with h | h <;> simp [vrEffective, useVr, h]

/-! ### the VR tables: which of the first instance's parameters may matter -/

/-- after any number of VR instances the tables are what the FIRST one built -/
theorem vr_tables_first_wins (p : VrParams) (ps : List VrParams) :
    (ps.foldl vrInit (vrInit none p)) = some (vrBuild p) := by
  induction ps generalizing p with
  | nil => rfl
  | cons q qs ih =>
    have : vrInit (vrInit none p) q = vrInit none p := rfl
    simp only [List.foldl_cons, this]
    exact ih p

/-- the CONTENT of the tables depends on nothing of the first instance besides `mult` (its ratio class, number of stages,
    default ratio are irrelevant), and every table is built whatever the first instance needs itself -/
theorem vr_tables_mult_only (p1 p2 : VrParams) (h : p1.mult = p2.mult) :
    vrBuild p1 = vrBuild p2 ∧ (vrBuild p1).fade.isSome ∧ (vrBuild p1).u.isSome ∧ (vrBuild p1).d.isSome := by
  simp [vrBuild, h]

/-- positive independence for VR: a probe instance sees the tables of a fresh process, whatever VR instances — of ANY ratio
    class — came before, as long as they used the same `mult` (the F6 proviso) -/
theorem vr_probe_independent_same_mult (probe first : VrParams) (others : List VrParams) (h : first.mult = probe.mult) :
    vrSeen (others.foldl vrInit (vrInit none first)) probe = vrSeen none probe := by
  rw [vr_tables_first_wins]
  simp [vrSeen, vrInit, (vr_tables_mult_only first probe h).1]

/-- what a violation of this looks like (a table built only if the first instance needs it): an up-sampling-only first
    instance leaves the down-sampling table empty for every later instance -/
example :
    let buildIfNeeded : VrParams → VrTables := fun p => { fade := some (), u := some p.mult, d := if p.stages0 ≠ 0 then some p.mult else none }
    buildIfNeeded ⟨1, 0, 1⟩ ≠ buildIfNeeded ⟨1, 2, 4⟩ := by decide

example : vrSeen ([⟨1, 3, 9⟩].foldl vrInit (vrInit none ⟨1, 0, 1⟩)) ⟨1, 1, 2⟩ = vrSeen none ⟨1, 1, 2⟩ := by decide

/-- a 2-channel RESET_ON_CLEAR object with a sticky error, clips and a registered input function: clear = fresh + fn -/
example :
    let W : Eng Unit := dEng
    let c : Config := ⟨2, 7, ⟨resetBit, 1⟩, ⟨0, 1, 0⟩, 1, 4, 1, 1⟩
    ∃ p0 q, (create W c 99).1 = some p0 ∧
      (create W (clearConfig { (setInputFn p0 7 9 0) with error := 3, clips := 17, flushing := 1 }) 0).1 = some q ∧
      clear W { (setInputFn p0 7 9 0) with error := 3, clips := 17, flushing := 1 } = (setInputFn q 7 9 0, 0) :=
  ⟨_, _, rfl, rfl, rfl⟩

/-- a deferred object (ratio not yet known) whose spec the engine rejects: the late `soxr_set_io_ratio` tears it down;
    `soxr_clear` then hands it back as it is, with the error -/
example :
    let p := (setIoRatio dEng (((create dEng ⟨2, 0, ⟨resetBit, 99⟩, ⟨0, 1, 0⟩, 1, 4, 1, 1⟩ 5).1).getD zero) 7 0).1
    TornDown p ∧ clear dEng p = (p, 8) := ⟨by decide, rfl⟩

example : Reach dEng (zero : Soxr Unit) (applyOp dEng (zero : Soxr Unit) (.setInputFn 1 2 3)) := .op _ (.refl _)

example : fftView (τ := Nat) ⟨fun _ n i => n * 100 + i, fun n => n / 2, fun _ _ _ _ _ => rfl⟩ ⟨64, none⟩ 8
    = fftView ⟨fun _ n i => n * 100 + i, fun n => n / 2, fun _ _ _ _ _ => rfl⟩ ⟨0, none⟩ 8 := by decide

end Soxr.C10
