import SoxrModel.Fifo.Refine
import SoxrModel.Fifo.FootprintLemmas
import SoxrModel.Fifo.Kernel
import SoxrModel.Fifo.Capacity
/-!
# C07 — memory safety and the buffer contract

Three layers, all for arbitrary byte types, sizes, call sequences and (where a plan is involved) every stage
configuration meeting the stated clauses:

* **FIFO** (`fifo.h`, byte level): the invariant `begin ≤ end ≤ allocation`, refinement of the abstract byte queue by
  every call sequence, every handed-out pointer inside the current block, the `reserve`/`trim_by` pattern of the
  kernels, occupancy, failed reads.
* **Kernels on the count model** (`Cr/Model.lean`): the index sets the half-band, clocked and dft stage functions read
  lie inside the FIFO; the read after each loop succeeds; what is written fits what was reserved (capacity clause).
* **API layer** (`soxr.c`): `idone ≤ ilen`, `odone ≤ olen`, every access to caller memory inside the caller's
  buffers — for both layouts on either side and both paths of `soxr_process`, any number of pull-loop iterations
  (`process_footprint`, for the code as it is in `/repo` now: `Variant.current`).  The tree as first pinned violated
  this in two ways (F2, F15; repaired in `/repo` by e1592d4 and 4b04ca8).  The negations for the *old* expressions
  are kept, labelled historical, with concrete witnesses; `process_footprint_any_variant` states the clause for any
  variant with the excluding hypothesis `Excl` visible, so the three theorems together say exactly what the repairs
  bought.  The check replays the witness calls on the real code on every run.

Not provable in this model (a `Nat`-level model cannot exhibit them): misaligned access, shift/conversion UB, signed
overflow, lifetime errors inside the FFT back-ends, the VR engine's kernels.  Those are searched for by running the
real code under ASan/UBSan (checks/c07.py); the note at the end says what is left out for the variable-rate engine.
-/
namespace Soxr.C07
open Soxr.Fifo Soxr.Footprint Soxr.Cr

variable {β : Type}

/-- **Refinement.**  From any state satisfying the invariant, every sequence of `reserve / write / read / trim_to /
    trim_by / clear` calls whose trims stay within the occupancy runs to completion on the byte-level model (the
    reserve loop always returns), re-establishes `begin ≤ end ≤ allocation = |block|`, and its contents follow the
    abstract byte queue step by step — across compaction and growth. -/
theorem fifo_refines_queue (fifoMin : Nat) (junk : Nat → β) (ops : List (Op β)) (f : Fifo β) (hwf : WF f)
    (hv : ValidOps f.itemSize (contents f).length ops) :
    ∃ f' tr, run fifoMin junk f ops = some (f', tr) ∧ WF f' ∧ f'.itemSize = f.itemSize ∧
      QRun f.itemSize (contents f) ops (contents f') := by
  obtain ⟨f', tr, h1, h2, h3, h4, _⟩ := run_sim fifoMin junk ops f hwf hv
  exact ⟨f', tr, h1, h2, h3, h4⟩

/-- the same from `fifo_create`: the abstract queue starts empty. -/
theorem fifo_refines_queue_from_create (fifoMin : Nat) (junk : Nat → β) (sz : Nat) (ops : List (Op β))
    (hv : ValidOps sz 0 ops) :
    ∃ f' tr, run fifoMin junk (create fifoMin junk sz) ops = some (f', tr) ∧ WF f' ∧
      QRun sz [] ops (contents f') := by
  have hc := create_contents fifoMin junk sz
  have hv' : ValidOps (create fifoMin junk sz).itemSize (contents (create fifoMin junk sz)).length ops := by
    rw [hc]; exact hv
  obtain ⟨f', tr, h1, h2, _, h4⟩ := fifo_refines_queue fifoMin junk ops _ (create_wf fifoMin junk sz) hv'
  rw [hc] at h4
  exact ⟨f', tr, h1, h2, h4⟩

example : ValidOps (β := Nat) 4 0 [.write 2 [1, 2, 3, 4, 5, 6, 7, 8], .reserve 5000, .trimBy 4999, .read 1, .read 9, .trimTo 1] := by
  simp [ValidOps, Op.valid, Op.lenAfter]

/-- **Pointers.**  Every `(offset, length)` handed out by `fifo_reserve` / `fifo_write` / `fifo_read` during such a
    run lies inside `[0, allocation)` of the block as it is right after that call (the block the pointer points
    into); a reserved region is the tail `[end − len, end)` of the queue, a read region the stretch `[begin − len,
    begin)` just consumed. -/
theorem fifo_ptr_in_bounds (fifoMin : Nat) (junk : Nat → β) (ops : List (Op β)) (f : Fifo β) (hwf : WF f)
    (hv : ValidOps f.itemSize (contents f).length ops) :
    ∃ f' tr, run fifoMin junk f ops = some (f', tr) ∧ tr.length = ops.length ∧
      ∀ i (hi : i < tr.length) (hj : i < ops.length), WF (tr[i]).1 ∧ PtrOK (tr[i]).1 ops[i] (tr[i]).2 := by
  obtain ⟨f', tr, h1, _, _, _, h5, h6⟩ := run_sim fifoMin junk ops f hwf hv
  exact ⟨f', tr, h1, h5, h6⟩

/-- what `PtrOK` says, spelled out for a pointer. -/
theorem ptrOK_in_block (f' : Fifo β) (op : Op β) (off len : Nat) (h : PtrOK f' op (.ptr off len)) :
    off + len ≤ f'.allocation ∧ f'.data.length = f'.allocation := ⟨h.1, h.2.1⟩

example : (run 16 (fun _ => 0) (create 16 (fun _ => 0) 4) [Op.write 3 (List.range 12), .read 2, .reserve 5]).map
    (fun r => r.2.map (·.2)) = some [Ret.ptr 0 12, Ret.ptr 0 8, Ret.ptr 12 20] := by decide

/-- **Compaction** (`memmove` to the front when `begin > FIFO_MIN`) and **growth** (`realloc` by exactly `n`) keep
    invariant and queue. -/
theorem compaction_preserves_queue (f : Fifo β) (h : WF f) :
    WF { f with data := memmoveDown f.data f.bgn f.end_, end_ := f.end_ - f.bgn, bgn := 0 } ∧
    contents { f with data := memmoveDown f.data f.bgn f.end_, end_ := f.end_ - f.bgn, bgn := 0 } = contents f :=
  compact_spec h

theorem growth_preserves_queue (f : Fifo β) (h : WF f) (junk : Nat → β) (n : Nat) :
    WF { f with data := f.data ++ junkBlock junk f.allocation n, allocation := f.allocation + n } ∧
    contents { f with data := f.data ++ junkBlock junk f.allocation n, allocation := f.allocation + n } = contents f :=
  grow_spec h junk n

/-- **The reserve loop terminates**: from `end ≤ allocation` it returns within three iterations, and the answer
    does not depend on the fuel the model gives it. -/
theorem reserve_loop_terminates (fifoMin : Nat) (junk : Nat → β) (n : Nat) (f : Fifo β) (h : WF f) :
    ∃ r, reserveLoop fifoMin junk n reserveFuel f = some r ∧ ∀ k, reserveLoop fifoMin junk n (reserveFuel + k) f = some r := by
  obtain ⟨r, hr⟩ := reserveLoop_total fifoMin junk n f h 0
  exact ⟨r, hr, reserveLoop_fuel_mono fifoMin junk n _ f r hr⟩

/-- **reserve n, then trim_by k ≤ n** (every clocked kernel and the dft stage): the queue gains exactly the first
    `n − k` items found at the reserved pointer, and the whole reserved stretch `[off, off + n·item)` was inside the block. -/
theorem reserve_then_trim (fifoMin : Nat) (junk : Nat → β) (f : Fifo β) (n k : Nat) (hwf : WF f) (hk : k ≤ n) :
    ∃ f1 off, reserve fifoMin junk f n = some (f1, off) ∧ WF (trimBy f1 k) ∧
      off + n * f.itemSize ≤ f1.allocation ∧
      (bytesAt f1 off ((n - k) * f.itemSize)).length = (n - k) * f.itemSize ∧
      contents (trimBy f1 k) = contents f ++ bytesAt f1 off ((n - k) * f.itemSize) :=
  reserve_trim fifoMin junk f n k hwf hk

example : ∃ f : Fifo Nat, WF f ∧ f.bgn ≠ 0 ∧ contents f = [7, 8] :=
  ⟨{ data := [5, 6, 7, 8, 9, 9], allocation := 6, itemSize := 2, bgn := 2, end_ := 4 }, ⟨rfl, by decide, by decide⟩, by decide, rfl⟩

/-- **Occupancy** is the queue length in items. -/
theorem occupancy_correct (f : Fifo β) (h : WF f) : occupancy f = (contents f).length / f.itemSize := by
  rw [contents_length h]; rfl

theorem occupancy_items (f : Fifo β) (h : WF f) (k : Nat) (hsz : 0 < f.itemSize) (hk : (contents f).length = k * f.itemSize) :
    occupancy f = k := by
  rw [occupancy_correct f h, hk, Nat.mul_div_cancel _ hsz]

/-- **A read of more than is there** returns NULL and leaves the FIFO exactly as it was. -/
theorem read_failure_unchanged (f : Fifo β) (n : Nat) (h : f.end_ - f.bgn < n * f.itemSize) : Fifo.read f n = (f, none) :=
  read_fail h

/-- with the invariant: a read fails iff it asks for more items' bytes than the queue holds. -/
theorem read_fails_iff (f : Fifo β) (hwf : WF f) (n : Nat) : (Fifo.read f n).2 = none ↔ (contents f).length < n * f.itemSize := by
  rw [contents_length hwf]
  by_cases h : f.end_ - f.bgn < n * f.itemSize
  · rw [read_fail h]; exact ⟨fun _ => h, fun _ => rfl⟩
  · rw [read_ok (Nat.le_of_not_lt h)]
    exact ⟨fun h' => (by cases h'), fun h' => absurd h' h⟩

example : Fifo.read ({ data := [1, 2, 3, 4], allocation := 4, itemSize := 2, bgn := 0, end_ := 2 } : Fifo Nat) 2 =
    ({ data := [1, 2, 3, 4], allocation := 4, itemSize := 2, bgn := 0, end_ := 2 }, none) := rfl

/-- **A successful read hands out the front of the queue**, and the pointer stays good (same block, same bytes)
    across every later call that is not a reserve/write: `read`, `trim_to`, `trim_by`, `clear` never touch the block
    (`soxr_output` interleaves from read pointers after the read; `dft_stage_fn` uses `input` after `fifo_read`). -/
theorem read_returns_front (f : Fifo β) (n : Nat) (h : n * f.itemSize ≤ f.end_ - f.bgn) :
    Fifo.read f n = ({ f with bgn := f.bgn + n * f.itemSize }, some f.bgn) ∧
    bytesAt f f.bgn (n * f.itemSize) = (contents f).take (n * f.itemSize) :=
  ⟨read_ok h, read_ok_bytes h⟩

theorem block_untouched_by_non_reserving_calls (f : Fifo β) (n : Nat) :
    (Fifo.read f n).1.data = f.data ∧ (trimTo f n).data = f.data ∧ (trimBy f n).data = f.data ∧ (clear f).data = f.data ∧
    (Fifo.read f n).1.allocation = f.allocation := by
  by_cases h : f.end_ - f.bgn < n * f.itemSize
  · rw [read_fail h]; exact ⟨rfl, rfl, rfl, rfl, rfl⟩
  · rw [read_ok (Nat.le_of_not_lt h)]; exact ⟨rfl, rfl, rfl, rfl, rfl⟩

/-- half-band decimator with the margins clause `pre_post = 4n` (`pre = 2n`): output `i` reads
    `read_ptr[2i .. 2i + 4n − 1]`, all below the occupancy — also for the last output when `num_in` is odd, which
    borrows one frame of post-context. -/
theorem half_kernel_reads_in_fifo (c : StageCfg) (s : StageSt) (n : Nat) (hpp : c.prePost = 4 * n) :
    ∀ i, i < (halfFn c s).2 → 2 * i + 4 * n ≤ s.occ := by
  intro i hi
  rw [← hpp]
  exact Nat.le_of_succ_le (half_window c s i hi)

/-- … and its `fifo_read(2·num_out)` succeeds, so the occupancy really drops by `2·num_out`. -/
theorem half_kernel_read_succeeds (c : StageCfg) (s : StageSt) (n : Nat) (hpp : c.prePost = 4 * n) (hn : 0 < n) :
    2 * (halfFn c s).2 ≤ s.occ ∧ (halfFn c s).1.occ = s.occ - 2 * (halfFn c s).2 :=
  have h : 2 * (halfFn c s).2 ≤ s.occ :=
    half_two_no_le c s (hpp ▸ Nat.le_trans hn (Nat.le_mul_of_pos_left n (by decide)))
  ⟨h, fifoRead_of_le h⟩

-- odd `num_in` (= 5) with n = 2: three outputs, the last window ends at item 12 = occupancy − 1
example : (halfFn { kind := .half, prePost := 8 } { occ := 13, isz := 8192 }).2 = 3 ∧ 2 * 2 + 4 * 2 ≤ 13 := by decide

/-- with `pre_post = 4n − 2` (a realistic slip) the theorem's conclusion is false: the last window ends past the FIFO. -/
example : ¬ ∀ i, i < (halfFn { kind := .half, prePost := 6 } { occ := 11, isz := 8192 }).2 → 2 * i + 4 * 2 ≤ 11 := by decide

/-- clocked samplers (`poly-fir0.h`, `poly-fir.h` both clocks, cubic): every output's window — at most
    `pre_post + 1` items from `⌊clock/den⌋` — lies inside the FIFO. -/
theorem clocked_kernel_reads_in_fifo (c : StageCfg) (s : StageSt) (hden : 0 < c.den) (hstep : 0 < c.step) :
    ∀ k, k < clockedCount c s → (s.clk + k * c.step) / c.den + (c.prePost + 1) ≤ s.occ :=
  clocked_reads_in_fifo c s hden hstep

/-- … and with the advance clause `step ≤ (pre_post + 1)·den` the `fifo_read(⌊clk'/den⌋)` after the loop succeeds
    (else C's NULL return would be ignored and the clock reduced without consuming: F3's `pre_post ≥ input_size`
    configurations aside, this is what keeps time alignment), leaving the clock reduced for the next invocation. -/
theorem clocked_read_after_loop_succeeds (c : StageCfg) (s : StageSt) (hden : 0 < c.den) (hstep : 0 < c.step)
    (hadv : c.step ≤ (c.prePost + 1) * c.den) (hclk : s.clk < c.den) :
    clockedClk c s / c.den ≤ s.occ ∧ (clockedFn c s).1.clk < c.den :=
  ⟨clocked_read_ok c s hden hstep hclk hadv, clockedFn_clk_lt c s hden hclk⟩

example : let c : StageCfg := { kind := .clocked, prePost := 19, den := 160, step := 147 }
    let s : StageSt := { occ := 100, clk := 3, isz := 8192 }
    0 < c.den ∧ 0 < c.step ∧ c.step ≤ (c.prePost + 1) * c.den ∧ s.clk < c.den ∧ clockedCount c s = 89 := by decide

/-- **Capacity** (the asserts of `poly-fir.h:129` and `cr-core.c:63`, and `poly-fir0.h:40`, which reserves the exact `num_out` and asserts
    `i == num_out`: the case `maxOut = count`; all disabled by NDEBUG): given the
    clause `count ≤ max_num_out` (checked per run: the sanitizer build keeps the asserts), reserving `max_num_out`
    items, writing `count` and trimming by the difference is in bounds and appends exactly `count` items. -/
theorem clocked_writes_in_reserved (fifoMin : Nat) (junk : Nat → β) (out : Fifo β) (hwf : WF out)
    (c : StageCfg) (s : StageSt) (maxOut : Nat) (hcap : clockedCount c s ≤ maxOut) :
    ∃ f1 off, reserve fifoMin junk out maxOut = some (f1, off) ∧
      off + clockedCount c s * out.itemSize ≤ f1.allocation ∧
      WF (trimBy f1 (maxOut - clockedCount c s)) ∧
      (contents (trimBy f1 (maxOut - clockedCount c s))).length = (contents out).length + clockedCount c s * out.itemSize := by
  obtain ⟨f1, off, h1, h2, h3, h4, h5⟩ := reserve_trim fifoMin junk out maxOut (maxOut - clockedCount c s) hwf (Nat.sub_le _ _)
  rw [Nat.sub_sub_self hcap] at h4 h5
  exact ⟨f1, off, h1, Nat.le_trans (Nat.add_le_add_left (Nat.mul_le_mul_right _ hcap) off) h3, h2,
    by rw [h5, List.length_append, h4]⟩

/-- the clause holds whenever `out_in_ratio` is exact: the loop yields at most `1 + ⌊num_in·den/step⌋` frames. -/
theorem capacity_exact_ratio (c : StageCfg) (s : StageSt) (hstep : 0 < c.step) :
    clockedCount c s ≤ 1 + numIn c s * c.den / c.step := by
  refine le_trans (loopCount_le_ceilDiv _ _ _) ((ceilDiv_le_iff hstep).mpr ?_)
  rw [Nat.add_comm, Nat.mul_comm _ c.step]
  exact Nat.le_of_lt (Nat.lt_mul_div_succ _ hstep)

/-- dft stage: a block is processed only when the FIFO holds everything it reads — time-domain spread, F-domain
    `memcpy` of `dft_length/L` items (needs `at = 0`: linear phase; violated by the plans of F1), and the `fifo_read`. -/
theorem dft_kernel_reads_in_fifo (c : StageCfg) (s : StageSt) (hL : 0 < c.L) (hgo : s.clk + c.L * s.occ ≥ c.dftLen) :
    ceilDiv (c.dftLen - s.clk) c.L ≤ s.occ ∧ (s.clk = 0 → c.dftLen / c.L ≤ s.occ) ∧
    (c.dftLen - (c.numTaps - 1) + c.L - 1 - s.clk) / c.L ≤ s.occ :=
  ⟨dft_div_le_occ c s hL hgo (Nat.le_refl _),
   fun h => dft_div_le_occ c s hL hgo (by rw [h]; exact Nat.le_sub_one_of_lt (Nat.lt_add_of_pos_right hL)),
   dft_read_succeeds c s hL hgo⟩

example : let c : StageCfg := { kind := .dft, L := 2, dftLen := 1024, numTaps := 201 }
    let s : StageSt := { occ := 512, clk := 0 }
    s.clk + c.L * s.occ ≥ c.dftLen ∧ c.dftLen / c.L = 512 := by decide

/-- **Every reachable state.**  Starting from an engine whose clocked stages meet the advance clause with a reduced
    clock (`EngOK`: what `_soxr_init` sets up under `PlanWF`), after *any* sequence of `_soxr_input / _soxr_process /
    _soxr_output / _soxr_flush` calls (any sizes, flushing or not) every clocked stage is again in a state from which
    its next invocation reads only inside its FIFO and its `fifo_read` succeeds.  (Half-band and dft stages need no
    state invariant: their theorems above hold in every state.) -/
theorem kernel_reads_in_bounds_reachable (owed : Nat → Nat) (fuel : Nat) (ops : List EngOp) (e e' : Eng)
    (h0 : EngOK e) (hr : Eng.runOps owed fuel e ops = some e') :
    ∀ x ∈ e'.stages, x.cfg.kind = Kind.clocked →
      (∀ k, k < clockedCount x.cfg x.st → (x.st.clk + k * x.cfg.step) / x.cfg.den + (x.cfg.prePost + 1) ≤ x.st.occ) ∧
      clockedClk x.cfg x.st / x.cfg.den ≤ x.st.occ := by
  intro x hx hk
  obtain ⟨h1, h2, h3, h4⟩ := EngOK_runOps owed fuel ops e e' h0 hr x hx hk
  exact ⟨clocked_reads_in_fifo x.cfg x.st h1 h2, clocked_read_ok x.cfg x.st h1 h2 h4 h3⟩

-- non-vacuity: a 147/160 poly-fir0 stage behind a half-band stage, fed, processed, flushed and drained
example : let e : Eng := { stages := [
      { cfg := { kind := .clocked, prePost := 19, den := 160, step := 147, poly0 := true }, st := { occ := 10, clk := 80 } },
      { cfg := { kind := .half, prePost := 32 }, st := { occ := 16 } }] }
    EngOK e ∧ (Eng.runOps (fun n => n) 1000 e [.input 5000, .process 100, .output 100, .flush, .process 50, .output 50]).isSome := by
  refine ⟨?_, by decide⟩
  intro x hx
  simp only [List.mem_cons, List.not_mem_nil, or_false] at hx
  rcases hx with rfl | rfl
  · intro _; decide
  · intro h; cases h

/-- E2 for the constant-rate engine: `_soxr_output` delivers at most what was asked and at most what the output
    FIFO holds (the clamp `min(n, fifo_occupancy)`), so `odone ≤ olen` per channel and the final `fifo_read` succeeds. -/
theorem engine_delivers_at_most_requested (e : Eng) (n0 : Nat) :
    (e.output n0).2.toNat ≤ n0 ∧ (e.output n0).2.toNat ≤ e.outOcc :=
  ⟨engine_output_le e n0, engine_output_le_occ e n0⟩

/-- `idone ≤ ilen`, both paths, every variant. -/
theorem process_idone_le_ilen (v : Variant) (c : Cfg) (k : Call) (iForO : Nat) (err : Bool) (its : List Iter) :
    (process v c k iForO err its).idone ≤ k.ilen0 := by
  unfold process
  split
  · exact ilenOf_le iForO k
  · simp only [processGeneric]
    split
    · exact ilenOf_le iForO k
    · exact Nat.zero_le _

/-- `odone ≤ olen`, both paths, any number of pull-loop iterations, given E2 for the engine. -/
theorem process_odone_le_olen (v : Variant) (c : Cfg) (k : Call) (iForO : Nat) (err : Bool) (its : List Iter)
    (hch : 0 < c.ch) (hdl : Deliv c k.olen 0 its) : (process v c k iForO err its).odone ≤ k.olen := by
  unfold process
  split
  · exact deliv_head_le hdl _ (Nat.sub_lt hch Nat.one_pos)
  · show outputDone c its ≤ k.olen
    exact Nat.zero_add (outputDone c its) ▸ outputDone_le c k.olen hch its 0 (Nat.zero_le _) hdl

/-- **Footprint**, for **any** variant of the two expressions, with the excluding hypothesis visible: every access of
    `soxr_process` to caller memory lies inside the caller's objects; on the original code (`Variant.original`)
    interleaved output needs `8·ch` bytes left at the start of every iteration (F2) and split output must not be
    advanced by the pull loop (F15); for `Variant.repaired` `Excl` is vacuous. -/
theorem process_footprint_any_variant (v : Variant) (c : Cfg) (k : Call) (iForO : Nat) (err : Bool) (its : List Iter)
    (hch : 0 < c.ch) (hdl : Deliv c k.olen 0 its) (hex : Excl v c k.olen 0 its) :
    (process v c k iForO err its).inBounds c k.ilen0 k.olen := by
  unfold process
  split
  · next h =>
    have h := Bool.and_eq_true_iff.mp h
    exact processSplit_inBounds c k iForO _ h.1 h.2 (deliv_head_le hdl)
  · exact processGeneric_inBounds v c k iForO err its hch hdl hex

/-- The code in `/repo` (`Variant.current`, the repaired expressions) needs no excluding hypothesis: every access of
    `soxr_process` to caller memory — input side: `in[0, ilen·ch)` or the pointer array and `in[c][0, ilen)`; output
    side: `out[0, olen·ch)` or the pointer array and `out[c][0, olen)`; blocks of the input function — lies inside
    the caller's objects.  All layouts, both paths, any number of pull-loop iterations, all sizes including 0;
    the only hypothesis about the engine is E2 (`Deliv`). -/
theorem process_footprint (c : Cfg) (k : Call) (iForO : Nat) (err : Bool) (its : List Iter)
    (hch : 0 < c.ch) (hdl : Deliv c k.olen 0 its) :
    (process Variant.current c k iForO err its).inBounds c k.ilen0 k.olen :=
  process_footprint_any_variant Variant.current c k iForO err its hch hdl (excl_repaired c k.olen its 0)

/-- `Excl` for push mode (one iteration, nothing delivered before): interleaved output of at least one pointer per
    channel, i.e. `8 ≤ olen · sample size`; nothing for split output. -/
theorem excl_push_mode (v : Variant) (c : Cfg) (olen : Nat) (it : Iter)
    (h : c.oSplit = false → v.ptrReadAlways = true → c.ch * c.ptrSize ≤ olen * c.ch * c.osz) :
    Excl v c olen 0 [it] := by
  obtain ⟨d, sup⟩ := it
  exact ⟨fun h1 h2 => by rw [Nat.zero_mul, Nat.zero_mul, Nat.zero_add]; exact h h1 h2, fun _ _ => rfl, trivial⟩

-- non-vacuity: a stereo int16-interleaved → float32-split pull call, 3 iterations, the middle one delivering
example : let c : Cfg := { ch := 2, isz := 2, osz := 4, iSplit := false, oSplit := true }
    let its : List Iter := [(fun _ => 0, 64), (fun _ => 30, 64), (fun _ => 70, 0)]
    0 < c.ch ∧ Deliv c 100 0 its := by
  refine ⟨by decide, by decide, fun u _ => by simp, by decide, fun u _ => by simp, by decide, fun u _ => by simp, trivial⟩

/-- int16 mono interleaved both sides, `soxr_process(p, in, 100, &idone, out, 1, &odone)` — design probe e3.c. -/
def f2Cfg : Cfg := { ch := 1, isz := 2, osz := 2, iSplit := false, oSplit := false }
def f2Call : Call := { hasIn := true, flushReq := false, useIdone := true, ilen0 := 100, olen := 1 }
def f2Its : List Iter := [(fun _ => 0, 0)]

/-- **F2, historical** (negation of the footprint clause for the expression before e1592d4).  With a 1-frame int16
    mono interleaved output buffer (2 bytes) the original code read 8 bytes at `out + 0`: `((soxr_bufs_t)out)[0]` at
    soxr.c:689.  E2 holds for the witness, so nothing but `Excl` is violated. -/
theorem F2_historical_interleaved_output_overread :
    Deliv f2Cfg f2Call.olen 0 f2Its ∧
    ¬ (process Variant.original f2Cfg f2Call 2 false f2Its).inBounds f2Cfg f2Call.ilen0 f2Call.olen ∧
    firstBad f2Cfg f2Call.ilen0 f2Call.olen (process Variant.original f2Cfg f2Call 2 false f2Its).acc
      = some ⟨.outBuf, 0, 8, false⟩ := by
  refine ⟨⟨by decide, fun u _ => Nat.zero_le _, trivial⟩, ?_, by decide⟩
  intro h
  have := h ⟨.outBuf, 0, 8, false⟩ (by decide)
  revert this
  decide

/-- float32 mono, interleaved in, split out, pull mode: `soxr_output(p, out, 2)` whose first iteration delivers 1. -/
def f15Cfg : Cfg := { ch := 1, isz := 4, osz := 4, iSplit := false, oSplit := true }
def f15Call : Call := { hasIn := false, flushReq := false, useIdone := false, ilen0 := 0, olen := 2 }
def f15Its : List Iter := [(fun _ => 1, 8), (fun _ => 1, 0)]

/-- **F15, historical** (pull mode with split output, expression before 4b04ca8).  After an iteration that
    delivered one frame the original code had moved `out` — the caller's one-entry pointer array — by
    `osize·odone = 4` bytes, and the next iteration read 8 bytes at `array + 4`; the channel pointer so obtained is
    garbage (`wild` write). -/
theorem F15_historical_split_pull_overread :
    Deliv f15Cfg f15Call.olen 0 f15Its ∧
    ¬ (process Variant.original f15Cfg f15Call 0 false f15Its).inBounds f15Cfg f15Call.ilen0 f15Call.olen ∧
    firstBad f15Cfg f15Call.ilen0 f15Call.olen (process Variant.original f15Cfg f15Call 0 false f15Its).acc
      = some ⟨.outPtrs, 4, 8, false⟩ := by
  refine ⟨⟨by decide, fun u hu => ?_, by decide, fun u hu => ?_, trivial⟩, ?_, by decide⟩
  · show 1 ≤ 2 - 0
    decide
  · show 1 ≤ 2 - (0 + 1)
    decide
  · intro h
    have := h ⟨.outPtrs, 4, 8, false⟩ (by decide)
    revert this
    decide

/-- the same two calls are in bounds on the code as it is now (so the witnesses isolate exactly what was repaired). -/
theorem witnesses_in_bounds_now :
    (process Variant.current f2Cfg f2Call 2 false f2Its).inBounds f2Cfg f2Call.ilen0 f2Call.olen ∧
    (process Variant.current f15Cfg f15Call 0 false f15Its).inBounds f15Cfg f15Call.ilen0 f15Call.olen :=
  ⟨process_footprint f2Cfg f2Call 2 false f2Its (by decide) F2_historical_interleaved_output_overread.1,
   process_footprint f15Cfg f15Call 0 false f15Its (by decide) F15_historical_split_pull_overread.1⟩

/-! ## The capacity clause under C's `double` arithmetic

`max_num_out = 1 + (int)(num_in * out_in_ratio)` with `out_in_ratio = MULT32 * L / (double)step.whole` (poly-fir.h:125,
cr-core.c:53; cr.c:411, 488).  `Float` is opaque to the kernel, so the statement is made about the exact rational value
`p` of the product under the STANDARD MODEL of binary64 arithmetic: each of the three operations (conversion of
`step.whole`, division, multiplication) returns the exact result times `1 + e` with `|e| ≤ 2⁻⁵³` (no overflow or
underflow here: all values lie between 2⁻³¹ and 2⁶⁴).  `three_roundings` turns that model into `RoundedProduct`; the
two capacity theorems need nothing else.  The truncation `(int)p` is `⌊p⌋` because `0 ≤ p < 2³¹`. -/

/-- **Capacity, standard clock and cubic stage** (`den = 2³²`; `num_in ≤ input_size = 8192`, any bound up to 2¹⁹ will do):
    the clock loop's count fits what was reserved, whatever the roundings did. -/
theorem capacity_with_double_rounding (c : StageCfg) (s : StageSt) (hs : 0 < c.step) (hden : c.den ≤ 2 ^ 32)
    (hn : numIn c s ≤ 2 ^ 19) (p : ℚ) (hp : RoundedProduct (numIn c s * c.den) c.step p) :
    clockedCount c s ≤ 1 + ⌊p⌋.toNat :=
  capacity_rounded c s hs (mul_le_two_pow_51 hn hden) p hp

/-- **Capacity, hi-prec clock** (`den = 2³²·2⁶⁴`, 96-bit step): the planner divides by the top 64 bits of the step
    (`step.whole`), which over-estimates the ratio; the bound holds with those 64-bit quantities in the hypothesis. -/
theorem capacity_with_double_rounding_hiprec (c : StageCfg) (s : StageSt) (hden : c.den = 2 ^ 32 * 2 ^ 64)
    (hs : 0 < c.step / 2 ^ 64) (hn : numIn c s ≤ 2 ^ 19) (p : ℚ)
    (hp : RoundedProduct (numIn c s * 2 ^ 32) (c.step / 2 ^ 64) p) :
    clockedCount c s ≤ 1 + ⌊p⌋.toNat :=
  capacity_rounded_hiprec c s (2 ^ 32) hden hs (mul_le_two_pow_51 hn (Nat.le_refl _)) p hp

/-- from the floating-point model itself: `w'` the converted step, `q` the planner's `out_in_ratio`, `p` the kernel's product -/
theorem capacity_from_fp_model (c : StageCfg) (s : StageSt) (hs : 0 < c.step) (hden : c.den ≤ 2 ^ 32) (hn : numIn c s ≤ 2 ^ 19)
    (w' q p : ℚ) (hw' : 0 < w') (h1 : w' ≤ (c.step : ℚ) * (1 + 1 / 2 ^ 53)) (h2 : (c.den : ℚ) / w' * (1 - 1 / 2 ^ 53) ≤ q)
    (h3 : (numIn c s : ℚ) * q * (1 - 1 / 2 ^ 53) ≤ p) : clockedCount c s ≤ 1 + ⌊p⌋.toNat :=
  capacity_with_double_rounding c s hs hden hn p (three_roundings (numIn c s) c.den c.step hs w' q p hw' h1 h2 h3)

/-- … and therefore what the kernel writes lies inside what it reserved (the hypothesis `hcap` of
    `clocked_writes_in_reserved` discharged). -/
theorem clocked_writes_in_reserved_rounded (fifoMin : Nat) (junk : Nat → β) (out : Fifo β) (hwf : WF out)
    (c : StageCfg) (s : StageSt) (hs : 0 < c.step) (hden : c.den ≤ 2 ^ 32) (hn : numIn c s ≤ 2 ^ 19) (p : ℚ)
    (hp : RoundedProduct (numIn c s * c.den) c.step p) :
    ∃ f1 off, reserve fifoMin junk out (1 + ⌊p⌋.toNat) = some (f1, off) ∧
      off + clockedCount c s * out.itemSize ≤ f1.allocation ∧
      WF (trimBy f1 (1 + ⌊p⌋.toNat - clockedCount c s)) ∧
      (contents (trimBy f1 (1 + ⌊p⌋.toNat - clockedCount c s))).length = (contents out).length + clockedCount c s * out.itemSize :=
  clocked_writes_in_reserved fifoMin junk out hwf c s _ (capacity_with_double_rounding c s hs hden hn p hp)

/-- non-vacuity, and the `1 +` is needed: ratio 1.5 (`step = 3·2³¹`), three frames available, clock at 0 — the exact
    product is 2, a product rounded down by the whole allowance is `2 − 2⁻⁵⁰`, `(int)` of it is 1, and the loop yields 2. -/
example : RoundedProduct (3 * 2 ^ 32) (3 * 2 ^ 31) (2 - 1 / 2 ^ 50) ∧ ⌊(2 - 1 / 2 ^ 50 : ℚ)⌋.toNat = 1 ∧
    loopCount 0 (3 * 2 ^ 31) (3 * 2 ^ 32) = 2 := by
  refine ⟨?_, ?_, by decide⟩
  · unfold RoundedProduct; norm_num
  · have : ⌊(2 - 1 / 2 ^ 50 : ℚ)⌋ = 1 := by
      rw [Int.floor_eq_iff]; constructor <;> norm_num
    rw [this]; rfl

/-! The variable-rate engine (`vr32.c`) uses the same `fifo.h` (so the FIFO theorems apply to each of its calls),
but the index sets its poly-phase / half-band kernels read are not modelled in this area (its control skeleton is
the `Vr` area); for C07 it is covered only by the sanitizer streams, and no statement is made about it here. -/

end Soxr.C07
