import SoxrModel.Properties.C03
import SoxrModel.Properties.C15
import SoxrModel.Phase.Bridge
import SoxrModel.Phase.CrBridge
import SoxrModel.Cr.TimeLemmas
import SoxrModel.Phase.Generated
/-!
# C14 The phase setting changes phase only

What Lean carries (the models: `Phase/Model.lean` — selection step of `filter.c:lsx_fir_to_phase`, `lsx_make_lpf`
index structure, `cr.c:dft_stage_init` arithmetic; `Cr/Model.lean` — the count model of the engine):

* **bookkeeping is phase-independent** (`length_phase_independent`, `delay_phase_independent`, `init_stage_wf`): the phase
  setting reaches the engine's control only through `num_taps`, `preload` and `at` of the dft stages, and for *every*
  value of those that `dft_stage_init` can produce the stage is well-formed, so output length, rate and the delay
  relation are those of C03 / C15 — the same for two plans that differ in nothing but the phase.
* **mirror law** (`mirror`): over the *same* cepstral result (opaque: FFTs, `atan2`, `exp` …; it depends on the phase only
  through `phase1`, which is the same for `p` and `100 - p`), the filter for `100 - p` is the filter for `p` reversed and
  the peak position is mirrored: `post_len(100 - p) = len - 1 - post_len(p)`.
* **linear phase is centred and symmetric** (`linear_centred`, `linear_symmetric`, `makeLpf_symmetric`,
  `linear_design_centred`): `post_peak = (num_taps - 1)/2`, `num_taps` odd, tap `j` = tap `n-1-j`.
* **the block-alignment clause of the frequency-domain up-sampling path** (`FDomainOK`: `L ∣ block_len` for power-of-two
  `L`): since the repair of finding F1 (trailing zeros after the phase transform, `tapPad`) it holds for EVERY phase response
  and every power-of-two `L` (`block_aligned_all_phases`; linear phase additionally has `at = 0` and `L·preload = post_peak`,
  `linear_block_aligned`).  `f1_historical_misaligned` keeps the witness of the finding: the arithmetic *without* the padding
  step (`dftStageInitPreF1`) on the plan the planner exported for HQ 1→128 phase 0 violates the clause, the code as it is
  does not.  `fdomain_rate_exact_iff` says what the clause buys: the stage's rate is exactly `L` iff it holds.

* **the stage meets the hypotheses of the constant-rate theorems** (`dft_stage_init_gives_wf_stage`, `…_pow2_sizes`,
  `…_latency`, `…_linear_time_aligned`, `…_linear_early_ok`; `Phase/CrBridge.lean`): the dft clause of `StageWF`, `DftShapeOK`,
  `LatOK`, `EarlyOK` are derived from the model of `dft_stage_init` instead of being evaluated per exported plan; what
  remains hypothesis is listed there (facts about `set_dft_length`, the sizes of `L`, `M`, the planner's call sites).

What Lean does not carry: that the cepstral transform leaves `|H|` unchanged (floating point; measured by the falsifier),
and the end-to-end mirror / symmetry of the multi-stage response (measured).  `Goal_magnitude_preserved` is stated, not claimed.
-/
namespace Soxr.Properties.C14
open Soxr Soxr.Cr Soxr.Phase
open Soxr.Properties

/-! ## (a) bookkeeping -/

/-- **Every stage `dft_stage_init` can leave is well-formed for the count model**, whatever `num_taps` and `post_peak`
    the phase transform produced (only the shape conditions that hold for every phase alike are assumed). -/
theorem init_stage_wf (i : DftIn) (hL : 0 < i.L) (h1 : 1 ≤ (dftStageInit i).numTaps)
    (h2 : (dftStageInit i).numTaps ≤ (dftStageInit i).dftLen) (h3 : i.L ≤ (dftStageInit i).blockLen)
    (h4 : dftOutOK (toStage (dftStageInit i)).cfg 0) : (toStage (dftStageInit i)).WF :=
  toStage_wf i hL h1 h2 h3 h4

/-- the former F1 plan (HQ 1→128, minimum phase, post stage: 381 taps out of the transform, padded to 385) -/
def exMin : DftIn := { lin := false, L := 32, M := 1, fnEqL := true, fsLe1 := true, nRaw := 380, tpLen := 381, tpPost := 289, dftLen := 2048 }
/-- the same stage with linear phase -/
def exLin : DftIn := { exMin with lin := true }

example : (toStage (dftStageInit exMin)).WF := init_stage_wf exMin (by decide) (by decide) (by decide) (by decide) (by decide)
example : (toStage (dftStageInit exLin)).WF := init_stage_wf exLin (by decide) (by decide) (by decide) (by decide) (by decide)

/-- **Output length does not depend on the phase.**  Two resamplers (two plans: think of the same configuration with
    two phase settings) are streamed through *any* two histories accepting the same `N` frames, then drained by *any*
    request sequences that ask for enough.  Neither having been early (C03), both deliver the same total — `owed N`,
    which is a function of `io_ratio` alone. -/
theorem length_phase_independent (num : Num) (a₁ a₂ : Api) (e₁ e₂ : Eng) (ops₁ ops₂ : List StreamOp) (N D₁ D₂ : Nat)
    (reqs₁ reqs₂ : List Nat) (hf₁ : C03.Fresh a₁.eng) (hf₂ : C03.Fresh a₂.eng)
    (hs₁ : Streams a₁.eng ops₁ N D₁ e₁) (hs₂ : Streams a₂.eng ops₂ N D₂ e₂)
    (he₁ : D₁ ≤ num.owed N) (he₂ : D₂ ≤ num.owed N)
    (hr₁ : num.owed N ≤ D₁ + reqs₁.sum) (hr₂ : num.owed N ≤ D₂ + reqs₂.sum) :
    ∀ ods₁ b₁ ods₂ b₂,
      Calls num { a₁ with eng := e₁.flush num.owed, flushing := true } reqs₁ ods₁ b₁ →
      Calls num { a₂ with eng := e₂.flush num.owed, flushing := true } reqs₂ ods₂ b₂ →
      D₁ + ods₁.sum = num.owed N ∧ D₂ + ods₂.sum = num.owed N := by
  intro ods₁ b₁ ods₂ b₂ c₁ c₂
  exact ⟨(C03.total_exact num a₁ e₁ ops₁ N D₁ reqs₁ hf₁ hs₁ he₁ ods₁ b₁ c₁).trans (Nat.min_eq_left hr₁),
    (C03.total_exact num a₂ e₂ ops₂ N D₂ reqs₂ hf₂ hs₂ he₂ ods₂ b₂ c₂).trans (Nat.min_eq_left hr₂)⟩

/-- two engines whose only difference is the dft stage's phase (minimum vs linear): both meet the premises -/
def exEngMin : Eng := { stages := [toStage (dftStageInit exMin)] }
def exEngLin : Eng := { stages := [toStage (dftStageInit exLin)] }
example : C03.Fresh exEngMin := ⟨rfl, rfl, ⟨rfl, by decide, by decide⟩⟩
example : C03.Fresh exEngLin := ⟨rfl, rfl, ⟨rfl, by decide, by decide⟩⟩
example : ∃ F D e', Streams exEngMin [.feed 100, .take 50] F D e' := C03.histories_run exEngMin _ ⟨rfl, rfl, ⟨rfl, by decide, by decide⟩⟩

/-- **The delay relation does not depend on the phase**: at every point of any two streaming histories that accepted
    the same `F` frames, `delivered + round(delay + rem·orate/irate)` is the same number for both plans. -/
theorem delay_phase_independent (e₁ e₁' e₂ e₂' : Eng) (ops₁ ops₂ : List StreamOp) (F D₁ D₂ rem p q : Nat) (hp : 0 < p)
    (hf₁ : C03.Fresh e₁) (hf₂ : C03.Fresh e₂) (h₁ : Streams e₁ ops₁ F D₁ e₁') (h₂ : Streams e₂ ops₂ F D₂ e₂') :
    (D₁ : Int) + C15.roundDiv (C15.delayNum e₁' p q + (rem : Int) * q) p =
    (D₂ : Int) + C15.roundDiv (C15.delayNum e₂' p q + (rem : Int) * q) p := by
  rw [C15.delay_relation_streaming e₁ e₁' ops₁ F D₁ rem p q hp hf₁.sin hf₁.sout hf₁.str h₁,
      C15.delay_relation_streaming e₂ e₂' ops₂ F D₂ rem p q hp hf₂.sin hf₂.sout hf₂.str h₂]

/-! ## (b) the selection step of `lsx_fir_to_phase` -/

/-- **Mirror law.**  For every opaque cepstral part `cep`, every phase `n/d` percent other than 50:
    the filter for `100 - n/d` is the filter for `n/d` reversed, and the peak position is mirrored. -/
theorem mirror {α : Type} (cep : Cep α) (d n : Nat) (h : n ≤ 100 * d) (hne : n ≠ 50 * d) :
    (firToPhaseAt cep d (100 * d - n)).taps = (firToPhaseAt cep d n).taps.reverse ∧
    (firToPhaseAt cep d (100 * d - n)).postLen =
      ((firToPhaseAt cep d n).taps.length : Int) - 1 - (firToPhaseAt cep d n).postLen := by
  rw [firToPhaseAt_mirror cep d n h hne, firToPhaseAt_length]
  exact firToPhase_not ..

/-- a cepstral part for the examples: `work[j] = j`, peak at 40, 21 taps in -/
def exCep : Cep Nat := { sel := fun _ => { len := 21, workLen := 2048, peak := 40, begin0 := 13, end0 := 19 }, work := fun _ j => j }

example : (firToPhaseAt exCep 1 25).taps = [28, 29, 30, 31, 32, 33, 34, 35, 36, 37, 38, 39, 40, 41, 42, 43, 44, 45, 46, 47, 48, 49, 50, 51, 52, 53, 54, 55, 56, 57, 58, 59, 60]
    ∧ (firToPhaseAt exCep 1 25).postLen = 20 ∧ (firToPhaseAt exCep 1 75).postLen = 12
    ∧ (firToPhaseAt exCep 1 75).taps.head? = some 60 := by decide
example : (25 : Nat) ≤ 100 * 1 ∧ (25 : Nat) ≠ 50 * 1 := by decide

/-- **Mirror settings have the same magnitude response** — for any functional `mag` of the tap list that does not see
    time reversal (as `|DFT|` of a real sequence does not; that fact about `mag` is the hypothesis `hrev`). -/
theorem mirror_same_magnitude {α ρ : Type} (mag : List α → ρ) (hrev : ∀ l, mag l.reverse = mag l)
    (cep : Cep α) (d n : Nat) (h : n ≤ 100 * d) (hne : n ≠ 50 * d) :
    mag (firToPhaseAt cep d (100 * d - n)).taps = mag (firToPhaseAt cep d n).taps := by
  rw [(mirror cep d n h hne).1, hrev]

/-- e.g. the sum of squares -/
example : (fun l : List Nat => (l.map (fun x => x * x)).sum) (firToPhaseAt exCep 1 75).taps =
    (fun l : List Nat => (l.map (fun x => x * x)).sum) (firToPhaseAt exCep 1 25).taps := by decide

theorem mirror_length {α : Type} (cep : Cep α) (d n : Nat) (h : n ≤ 100 * d) :
    (firToPhaseAt cep d (100 * d - n)).taps.length = (firToPhaseAt cep d n).taps.length := by
  rw [firToPhaseAt_length, firToPhaseAt_length, fold_mirror d n h, cls_mirror d n h]

/-- **Linear phase puts the peak in the middle** and keeps the length (the `phase1 == 1` branch). -/
theorem linear_centred {α : Type} (cep : Cep α) (d : Nat) (hd : 0 < d) (hl : 1 ≤ (cep.sel (50 * d)).len) :
    (firToPhaseAt cep d (50 * d)).taps.length = (cep.sel (50 * d)).len ∧
    (firToPhaseAt cep d (50 * d)).postLen = (((cep.sel (50 * d)).len - 1) / 2 : Nat) := by
  rw [firToPhaseAt_of_le cep (Nat.le_refl _), cls_half hd]
  exact ⟨firToPhase_length .., postLen_lin _ hl⟩

example : (firToPhaseAt exCep 1 50).postLen = 10 ∧ (firToPhaseAt exCep 1 50).taps.length = 21 := by decide

/-- **Linear phase: symmetric about the peak.**  If the (opaque) array is symmetric about `peak` over the window and the
    length is odd, tap `k` equals tap `len - 1 - k`. -/
theorem linear_symmetric {α : Type} (work : Nat → α) (i : SelIn) (hodd : i.len % 2 = 1)
    (hsym : ∀ t : Nat, t ≤ i.len / 2 →
      work ((((i.peak : Int) + t + i.workLen) % (i.workLen : Int)).toNat) =
      work ((((i.peak : Int) - t + i.workLen) % (i.workLen : Int)).toNat))
    (k : Nat) (hk : k < i.len)
    (h1 : k < (firToPhase work false .lin i).taps.length) (h2 : i.len - 1 - k < (firToPhase work false .lin i).taps.length) :
    (firToPhase work false .lin i).taps[k] = (firToPhase work false .lin i).taps[i.len - 1 - k] := by
  rw [firToPhase_getElem, firToPhase_getElem]
  -- the two taps are equally far from the middle one, on either side
  by_cases hc : k ≤ i.len / 2
  · obtain ⟨e1, e2⟩ := srcIndex_lin i k (i.len - 1 - k) (i.len / 2 - k) (by omega) (by omega)
    rw [e1, e2]; exact (hsym _ (Nat.sub_le _ _)).symm
  · obtain ⟨e1, e2⟩ := srcIndex_lin i (i.len - 1 - k) k (k - i.len / 2) (by omega) (by omega)
    rw [e1, e2]; exact hsym _ (by omega)

/-- a symmetric array for the example: distance from 40 -/
example : (firToPhase (fun j => if j ≤ 40 then 40 - j else j - 40) false .lin { len := 5, workLen := 64, peak := 40, begin0 := 0, end0 := 0 }).taps
    = [2, 1, 0, 1, 2] := by decide

/-- **Minimum / maximum phase keep the length**; the peak is `peak` taps from the start (minimum) or from the end. -/
theorem extreme_phase_window {α : Type} (cep : Cep α) (d : Nat) (hd : 0 < d) :
    (firToPhaseAt cep d 0).taps.length = (cep.sel 0).len ∧
    (firToPhaseAt cep d (100 * d)).taps.length = (cep.sel 0).len ∧
    (firToPhaseAt cep d 0).postLen = ((cep.sel 0).len : Int) - 1 - (cep.sel 0).peak ∧
    (firToPhaseAt cep d (100 * d)).postLen = (cep.sel 0).peak := by
  have h0 := firToPhaseAt_of_le cep (Nat.zero_le (50 * d))
  have h1 := firToPhaseAt_mirror cep d 0 (Nat.zero_le _) (by omega)
  rw [fold_of_le (Nat.zero_le _), gt50_of_le (Nat.zero_le _), Nat.sub_zero] at h1
  rw [cls_zero] at h0 h1
  rw [h0, h1]
  refine ⟨firToPhase_length .., firToPhase_length .., ?_, ?_⟩
  · show (0 : Int) + (cep.sel 0).len - ((cep.sel 0).peak + 1) = _; omega
  · exact Int.sub_zero _

example : (firToPhaseAt exCep 1 0).postLen = -20 ∧ (firToPhaseAt exCep 1 100).postLen = 40 := by decide

/-- **Every branch keeps `num_taps ≡ 1 (mod 4)`** (the design length for non-linear phase is `≡ 1 (mod 4)`). -/
theorem transformed_length_mod4 {α : Type} (cep : Cep α) (d n : Nat) (h : (cep.sel (fold d n)).len % 4 = 1) :
    (firToPhaseAt cep d n).taps.length % 4 = 1 := by
  rw [firToPhaseAt_length]; exact selWindow_len_mod4 _ _ h

example : (exCep.sel (fold 1 25)).len % 4 = 1 ∧ (firToPhaseAt exCep 1 25).taps.length = 33 := by decide

/-- **Mirror settings give plans that are mirrored up to the trailing zeros.**  For `p` and `100 - p` (same `L`, `M`, design,
    and hence the same `set_dft_length` answer, since the padded lengths are equal): the same number of trailing zeros, the
    same `num_taps`, `dft_length`, `block_len` — so the same output-side bookkeeping.  The latency is mirrored about the
    *unpadded* filter: `post_peak(p) + post_peak(100 - p) + 1 = num_taps + pad` (both settings get the zeros at the same end,
    so after padding the two filters are reverses of each other shifted by `pad` taps; with `pad = 0`, i.e. whenever `L`
    already divides the transformed length minus one or `L` is not a power of two, exactly mirrored). -/
theorem mirror_plans {α : Type} (base : DftIn) (cep : Cep α) (d n : Nat) (h : n ≤ 100 * d) (hne : n ≠ 50 * d)
    (h0 : 0 ≤ (firToPhaseAt cep d n).postLen) (h1 : 0 ≤ (firToPhaseAt cep d (100 * d - n)).postLen) :
    let a := dftStageInit (dftInOf base cep d n)
    let b := dftStageInit (dftInOf base cep d (100 * d - n))
    a.numTaps = b.numTaps ∧ a.padTaps = b.padTaps ∧ a.blockLen = b.blockLen ∧
    a.postPeak + b.postPeak + 1 = a.numTaps + a.padTaps ∧ (FDomainOK a ↔ FDomainOK b) := by
  obtain ⟨mt, mp⟩ := mirror cep d n h hne
  have hpost : (firToPhaseAt cep d n).postLen.toNat + (firToPhaseAt cep d (100 * d - n)).postLen.toNat + 1 =
      (firToPhaseAt cep d n).taps.length := by omega
  -- the two inputs of `dft_stage_init` differ in `tpPost` only
  have hi : dftInOf base cep d (100 * d - n) =
      { dftInOf base cep d n with tpPost := (firToPhaseAt cep d (100 * d - n)).postLen.toNat } := by
    unfold dftInOf; rw [mt, List.length_reverse]
  rw [hi]
  obtain ⟨g1, g2, g3, g4⟩ := dft_nonlin_tpPost (dftInOf base cep d n) rfl (firToPhaseAt cep d (100 * d - n)).postLen.toNat
  obtain ⟨hat, hap, hapad, _⟩ := dft_nonlin (dftInOf base cep d n) rfl
  have eT : (dftInOf base cep d n).tpLen = (firToPhaseAt cep d n).taps.length := rfl
  have eP : (dftInOf base cep d n).tpPost = (firToPhaseAt cep d n).postLen.toNat := rfl
  refine ⟨g1.symm, g2.symm, g3.symm, ?_, by unfold FDomainOK; rw [g3]; exact Iff.rfl⟩
  rw [g4, hap, hat, hapad, eT, eP]
  omega

example : let a := dftStageInit (dftInOf exMin exCep 1 25); let b := dftStageInit (dftInOf exMin exCep 1 75)
    a.numTaps = 33 ∧ b.numTaps = 33 ∧ a.padTaps = 0 ∧ a.postPeak = 20 ∧ b.postPeak = 12 := by decide
/-- with trailing zeros: 21 taps at minimum / maximum phase (peak 5 taps in), `L = 32`: 12 zeros, 33 taps -/
def exCep2 : Cep Nat := { sel := fun _ => { len := 21, workLen := 2048, peak := 5, begin0 := 13, end0 := 19 }, work := fun _ j => j }
example : let a := dftStageInit (dftInOf exMin exCep2 1 0); let b := dftStageInit (dftInOf exMin exCep2 1 100)
    a.numTaps = 33 ∧ a.padTaps = 12 ∧ b.padTaps = 12 ∧ a.postPeak + b.postPeak + 1 = 33 + 12 := by decide

/-! ## (c) `lsx_make_lpf` -/

/-- **The designed low-pass is symmetric**: every tap is written and tap `j` is the value computed for
    `min j (n-1-j)`, so `h[j] = h[n-1-j]` — for every length `n ≥ 1` and whatever the loop body computes. -/
theorem makeLpf_symmetric {α : Type} (f : Nat → α) (n j : Nat) (hn : 1 ≤ n) (hj : j < n) :
    makeLpf f n j = some (f (min j (n - 1 - j))) ∧ makeLpf f n j = makeLpf f n (n - 1 - j) := by
  have h1 := makeLpf_spec f n j hn hj
  refine ⟨h1, ?_⟩
  rw [h1, makeLpf_spec f n (n - 1 - j) hn (by omega), Nat.sub_sub_self (Nat.le_sub_one_of_lt hj), Nat.min_comm]

example : (List.range 6).map (makeLpf (fun i => 10 * i) 6) = [some 0, some 10, some 20, some 20, some 10, some 0] := by decide
example : (List.range 5).map (makeLpf (fun i => 10 * i) 5) = [some 0, some 10, some 20, some 10, some 0] := by decide

/-! ## (d) `dft_stage_init`: latency bookkeeping and the block-alignment clause -/

/-- **Latency is compensated by construction, for every phase**: `post_peak = L·preload + at` with `at < L`. -/
theorem latency_split (i : DftIn) (hL : 0 < i.L) :
    (dftStageInit i).postPeak = i.L * (dftStageInit i).preload + (dftStageInit i).clk ∧ (dftStageInit i).clk < i.L :=
  dft_latency i hL

example : (dftStageInit exMin).postPeak = 293 ∧ (dftStageInit exMin).preload = 9 ∧ (dftStageInit exMin).clk = 5 := by decide

/-- **Linear phase: odd length, peak exactly in the middle** — for every `L`, `Fn`, every length estimate. -/
theorem linear_design_centred (i : DftIn) (hl : i.lin = true) :
    (dftStageInit i).numTaps = 2 * (dftStageInit i).postPeak + 1 :=
  dft_lin_centred i hl

example : (dftStageInit exLin).numTaps = 385 ∧ (dftStageInit exLin).postPeak = 192 := by decide

/-- **Linear phase always satisfies the block-alignment clause.**  Power-of-two `L` with `Fn == L` (the only way the
    planner makes a power-of-two `L > 4`): `num_taps = 2·L·q + 1`; `set_dft_length` answers a power of two (`≥ 1`) and the
    padding loop keeps it one and makes it `≥ 32·L`, so `L ∣ dft_length` and `L ∣ block_len` — no size hypothesis is left;
    and the filter's centre falls on the input grid: `at = 0`, `L·preload = post_peak`. -/
theorem linear_block_aligned (i : DftIn) (hl : i.lin = true) (hp : isPow2L i.L = true) (hf : i.fnEqL = true)
    (b : Nat) (hD : i.dftLen = 2 ^ b) :
    FDomainOK (dftStageInit i) ∧ (dftStageInit i).clk = 0 ∧ i.L * (dftStageInit i).preload = (dftStageInit i).postPeak ∧
    32 * i.L ≤ (dftStageInit i).dftLen := by
  obtain ⟨q, _, hpp, _⟩ := dft_lin_form i hl hp hf
  obtain ⟨h1, _, _, h4⟩ := dft_block_aligned i hp b hD (fun _ => Or.inl hf) (fun h => by rw [hl] at h; cases h)
  refine ⟨h1, ?_, ?_, h4⟩
  · rw [dft_clk, hpp]; exact Nat.mul_mod_right _ _
  · rw [dft_preload, hpp, Nat.mul_div_cancel_left _ (isPow2L_pos hp)]

example : FDomainOK (dftStageInit exLin) ∧ (dftStageInit exLin).blockLen = 1664 := by decide
example : isPow2L exLin.L = true ∧ exLin.dftLen = 2 ^ 11 := by decide

/-- **The padding loop of `dft_stage_init`** (repair of F5): for a power-of-two `L` the forward transform keeps at least 32
    points (`dft_length ≥ 32·L`), the length only ever doubles (a power of two stays one), and a length that is already
    large enough — the F1 witness plan, every plan with the default size limits — is untouched. -/
theorem dft_length_padded (i : DftIn) (hD : 1 ≤ i.dftLen) :
    (isPow2L i.L = true → 32 * i.L ≤ (dftStageInit i).dftLen) ∧
    (∃ j, (dftStageInit i).dftLen = i.dftLen * 2 ^ j) ∧
    (32 * i.L ≤ i.dftLen → (dftStageInit i).dftLen = i.dftLen) :=
  ⟨fun hp => finalDftLen_ge _ _ hp hD, finalDftLen_form _ _, finalDftLen_id _ _⟩

/-- `log2_large_dft_size = 8`, 1→8192 (the F5 configuration): `set_dft_length` answers 4096 for the `L = 256` stage, padded to 8192 -/
example : (dftStageInit { lin := true, L := 256, M := 1, nRaw := 2000, dftLen := 4096 }).dftLen = 8192 ∧
    (dftStageInit exMin).dftLen = 2048 ∧ (dftStageInit { exMin with L := 3, dftLen := 64 }).dftLen = 64 := by decide

/-- **Every phase satisfies the clause when `L ∣ 4`** (`L = 2`, `4`: the pre-stage and small post-stages): the length is
    `≡ 1 (mod 4)` both as designed (`k = 4`) and after `lsx_fir_to_phase` (`transformed_length_mod4`). -/
theorem small_L_block_aligned (i : DftIn) (hL4 : i.L ∣ 4) (hD : i.L ∣ (dftStageInit i).dftLen)
    (hmod : (dftStageInit i).numTaps % 4 = 1) : FDomainOK (dftStageInit i) := by
  have h4 : 4 ∣ (dftStageInit i).numTaps - 1 := Nat.dvd_of_mod_eq_zero (by omega)
  exact fun _ => Nat.dvd_sub hD (Nat.dvd_trans hL4 h4)

/-- the design length for non-linear phase is `≡ 1 (mod 4)` -/
theorem nonlinear_design_mod4 (i : DftIn) (hl : i.lin = false) : (dftStageInit i).nDesign % 4 = 1 := by
  rw [(dft_nonlin i hl).2.2.2.2]; unfold roundTaps; omega

def exSmall : DftIn := { lin := false, L := 4, M := 1, fnEqL := false, nRaw := 810, tpLen := 813, tpPost := 795, dftLen := 4096 }
example : FDomainOK (dftStageInit exSmall) ∧ (dftStageInit exSmall).numTaps % 4 = 1 ∧ exSmall.L ∣ 4 := by decide

/-- **The block-alignment clause holds for every phase response.**  Power-of-two `L`, `set_dft_length` answering a power of
    two: non-linear phase — whatever length and peak position the transform produced — by the trailing zeros
    (`tapPad`: `L ∣ num_taps - 1`); linear phase by the length rounding (`k = 2L` when `Fn == L`, else `k = 4` with `L ∣ 4`:
    the two ways the planner calls `dft_stage_init` with a power-of-two `L`; hypothesis `hlin`, evaluated on every exported
    plan).  And the forward transform keeps 32 points. -/
theorem block_aligned_all_phases (i : DftIn) (hp : isPow2L i.L = true) (b : Nat) (hD : i.dftLen = 2 ^ b)
    (hlin : i.lin = true → i.fnEqL = true ∨ i.L ∣ 4) (hnl : i.lin = false → 1 ≤ i.tpLen) :
    FDomainOK (dftStageInit i) ∧ i.L ∣ (dftStageInit i).blockLen ∧ i.L ∣ (dftStageInit i).numTaps - 1 ∧
    32 * i.L ≤ (dftStageInit i).dftLen :=
  dft_block_aligned i hp b hD hlin hnl

example : FDomainOK (dftStageInit exMin) ∧ (dftStageInit exMin).numTaps = 385 ∧ (dftStageInit exMin).padTaps = 4 ∧
    (dftStageInit exMin).blockLen = 1664 := by decide
example : isPow2L exMin.L = true ∧ exMin.dftLen = 2 ^ 11 ∧ 1 ≤ exMin.tpLen := by decide

/-- **Finding F1, historical witness.**  The plan the planner exported for HQ, 1→128, `phase_response = 0` before the repair
    (post stage: `L = 32`, transformed filter of 381 taps, peak 289 from the end, `dft_length = 2048`): with the arithmetic
    as it was — no padding step, `dftStageInitPreF1` — the power-of-two `L` does not divide `block_len = 1668` and the stage
    is still well-formed for the count model (which is why the count-level theorems did not exclude it); with the code as
    it is (4 trailing zeros, 385 taps, `block_len = 1664`) the clause holds. -/
theorem f1_historical_misaligned :
    ∃ i : DftIn, i.lin = false ∧ isPow2L i.L = true ∧ (toStage (dftStageInitPreF1 i)).WF ∧ ¬ FDomainOK (dftStageInitPreF1 i) ∧
      (dftStageInitPreF1 i).blockLen = 1668 ∧ FDomainOK (dftStageInit i) ∧ (dftStageInit i).blockLen = 1664 :=
  ⟨exMin, by decide, by decide, by decide, by decide, by decide, by decide, by decide⟩

/-- **What the clause buys**: a block yields `block_len` frames for `⌈(block_len − at)/L⌉` frames read (`at` never
    changes on the frequency-domain path), so the stage's rate is exactly `L` iff `L ∣ block_len`. -/
theorem fdomain_rate_exact_iff (L bl clk : Nat) (hL : 0 < L) (hc : clk < L) : L * fdQuot L bl clk = bl ↔ L ∣ bl := by
  constructor
  · intro h; exact ⟨_, h.symm⟩
  · rintro ⟨t, rfl⟩
    unfold fdQuot
    have : L * t + L - 1 - clk = (L - 1 - clk) + L * t := by omega
    rw [this, Nat.add_mul_div_left _ _ hL, Nat.div_eq_of_lt (by omega), Nat.zero_add]

example : 32 * fdQuot 32 1668 1 = 1696 ∧ 32 * fdQuot 32 1664 0 = 1664 := by decide

/-! ## (e) generated constants of the working tree (`harness/phase/gen.c` → `Phase/Generated.lean`, regenerated on every run) -/

/-- **The recipe's phase bits**: `SOXR_LINEAR_PHASE` selects the linear branch, `SOXR_INTERMEDIATE_PHASE` the intermediate
    one, `SOXR_MINIMUM_PHASE` the minimum-phase branch, and the undocumented code 2 is its mirror setting (maximum phase):
    same folded phase, opposite reading direction. -/
theorem recipe_phase_bits :
    (Generated.recipePhase[Generated.codeLinear]?).map (cls 1) = some .lin ∧
    (Generated.recipePhase[Generated.codeIntermediate]?).map (cls 1) = some .mid ∧
    (Generated.recipePhase[Generated.codeMinimum]?).map (cls 1) = some .min ∧
    (Generated.recipePhase[Generated.codeMinimum]?).map (fun p => 100 * 1 - p) = Generated.recipePhase[2]? ∧
    Generated.recipePhase.all (· ≤ 100) = true := by decide

/-- **`isPow2L` is the C macro `lsx_is_power_of_2`** on `0 … 130` (beyond: the correspondence of `checks/c14.py`). -/
theorem isPow2L_matches_macro : (List.range 131).map isPow2L = Generated.pow2Table := by decide

/-! ## (f) the stage `dft_stage_init` leaves meets the hypotheses of the constant-rate theorems (`Phase/CrBridge.lean`) -/

/-- **`dft_stage_init` gives a well-formed, well-shaped stage.**  The exported stage (`lstageOf`: `kind = dft`, `L`, `dftLen`,
    `numTaps`, `M = step.integer`, `clk = at.integer`, `remM = 0`, `occ = preload`, `isz = input_size`, as `harness/cr/trace.c`
    prints it) satisfies the whole dft clause of `StageWF` and the whole of `DftShapeOK` — what `never_early`,
    `delay_gt_neg_one_every_run`, `dft_inv` and the schedule theorems assume of a dft stage — for every phase response,
    every `L` (power-of-two `L ≥ 8` included), `step = M` and the F-domain decimator alike.  Hypotheses: facts about the
    parts the model does not compute — `hT` the transform's length is `≡ 1 (mod 4)` (a theorem of the selection-step model:
    `transformed_length_mod4`), `hD`/`hN` `set_dft_length` answers a power of two not below `num_taps` (floating-point `log`),
    `hB` `L`, `M` do not exceed the block (the `L` half for power-of-two `L`: `dft_stage_init_pow2_sizes`), `hlin` the planner's call
    sites for linear phase. -/
theorem dft_stage_init_gives_wf_stage (i : DftIn) (hL : 0 < i.L) (hM : 0 < i.M)
    (hT : i.lin = false → i.tpLen % 4 = 1)
    (b : Nat) (hD : i.dftLen = 2 ^ b) (hN : (dftStageInit i).numTaps ≤ i.dftLen)
    (hB : i.L ≤ (dftStageInit i).blockLen ∧ i.M ≤ (dftStageInit i).blockLen)
    (hlin : i.lin = true → isPow2L i.L = true → i.fnEqL = true ∨ i.L ∣ 4) :
    StageWF (lstageOf (dftStageInit i)).cfg (lstageOf (dftStageInit i)).s0 ∧
    DftShapeOK (lstageOf (dftStageInit i)).cfg (lstageOf (dftStageInit i)).s0 :=
  stage_init_wf_shape i hL hM hT b hD hN hB hlin

/-- the former F1 stage (minimum phase, `L = 32`), its linear-phase twin, and an F-domain decimator by 2 -/
example : StageWF (lstageOf (dftStageInit exMin)).cfg (lstageOf (dftStageInit exMin)).s0 ∧
    DftShapeOK (lstageOf (dftStageInit exMin)).cfg (lstageOf (dftStageInit exMin)).s0 :=
  dft_stage_init_gives_wf_stage exMin (by decide) (by decide) (by decide) 11 (by decide) (by decide) (by decide) (by decide)
example : StageWF (lstageOf (dftStageInit exLin)).cfg (lstageOf (dftStageInit exLin)).s0 ∧
    DftShapeOK (lstageOf (dftStageInit exLin)).cfg (lstageOf (dftStageInit exLin)).s0 :=
  dft_stage_init_gives_wf_stage exLin (by decide) (by decide) (by decide) 11 (by decide) (by decide) (by decide) (by decide)
def exDown : DftIn := { lin := false, L := 1, M := 2, fnEqL := false, fsLe1 := true, nRaw := 800, tpLen := 801, tpPost := 700, dftLen := 4096 }
example : (dftStageInit exDown).step = -1 ∧ StageWF (lstageOf (dftStageInit exDown)).cfg (lstageOf (dftStageInit exDown)).s0 ∧
    DftShapeOK (lstageOf (dftStageInit exDown)).cfg (lstageOf (dftStageInit exDown)).s0 :=
  ⟨by decide, dft_stage_init_gives_wf_stage exDown (by decide) (by decide) (by decide) 12 (by decide) (by decide) (by decide) (by decide)⟩

/-- **For a power-of-two `L` the size hypotheses reduce to one numeric fact about `set_dft_length`**
    (`3·n ≤ 2·set_dft_length(n)`; the C expression `1 << (int)(log2 n + 1.77)` is at least `2^0.77·n`): then
    `num_taps ≤ dft_length` and, by the padding loop, the block is more than ten times `L`. -/
theorem dft_stage_init_pow2_sizes (i : DftIn) (hp : isPow2L i.L = true) (hS : 3 * (dftStageInit i).numTaps ≤ 2 * i.dftLen)
    (hD1 : 1 ≤ i.dftLen) : (dftStageInit i).numTaps ≤ i.dftLen ∧ 10 * i.L < (dftStageInit i).blockLen := by
  have hge := finalDftLen_ge i.L i.dftLen hp hD1
  have hself := finalDftLen_ge_self i.L i.dftLen
  rw [dft_blockLen, dft_dftLen]
  omega

example : 3 * (dftStageInit exMin).numTaps ≤ 2 * exMin.dftLen ∧ isPow2L exMin.L = true := by decide

/-- the C macro and the model's power-of-two test agree where it matters: what `dft_stage_fn` treats as a frequency-domain
    up-sampler (`lsx_is_power_of_2(L)`, bitwise) is a power of two -/
theorem isPow2_macro_is_pow2 (x : Nat) (h : isPow2 x = true) : isPow2L x = true ∧ ∃ a, 1 ≤ a ∧ x = 2 ^ a :=
  ⟨isPow2L_of_isPow2 x h, isPow2_spec x h⟩

example : isPow2 64 = true := by decide

/-- **Latency, every phase**: the exported integers satisfy `preload = post_peak / L`, `at = post_peak % L`,
    `post_peak = L·preload + at`, `at < L` — `post_peak` including the trailing zeros of the F1 repair. -/
theorem dft_stage_init_latency (i : DftIn) (hL : 0 < i.L) :
    let x := lstageOf (dftStageInit i)
    x.s0.occ = x.lat.postPeak / x.cfg.L ∧ x.s0.clk = x.lat.postPeak % x.cfg.L ∧
    x.lat.postPeak = x.cfg.L * x.s0.occ + x.s0.clk ∧ x.s0.clk < x.cfg.L :=
  ⟨rfl, rfl, dft_latency i hL⟩

/-- **Linear phase is time-aligned**: `LatOK` holds (the hypothesis of `dft_b` / `tstage_b_exact`), so output frame `j` of the
    stage represents instant `(M/L)·j` of its input exactly: `(tstage x).b = 0`. -/
theorem dft_stage_init_linear_time_aligned (i : DftIn) (hL : 0 < i.L) (hl : i.lin = true) :
    LatOK true (lstageOf (dftStageInit i)) ∧ LatOK false (lstageOf (dftStageInit i)) ∧
    (tstage (lstageOf (dftStageInit i))).b = 0 :=
  ⟨lstage_latOK_linear i hL hl true, lstage_latOK_linear i hL hl false,
   dft_b _ rfl true (lstage_latOK_linear i hL hl true)⟩

example : exLin.lin = true ∧ 0 < exLin.L := by decide

/-- **`EarlyOK` for a linear-phase power-of-two up-sampler** (with the two theorems above: every per-stage hypothesis of
    `never_early` for such a stage): the peak is at least `L − 1` taps in as soon as the Kaiser estimate asks for two taps. -/
theorem dft_stage_init_linear_early_ok (i : DftIn) (hl : i.lin = true) (hp : isPow2L i.L = true) (hf : i.fnEqL = true)
    (hn : 2 ≤ i.nRaw) (hM : 0 < i.M) (b : Nat) (hD : i.dftLen = 2 ^ b) (hN : (dftStageInit i).numTaps ≤ i.dftLen)
    (hB : i.L ≤ (dftStageInit i).blockLen ∧ i.M ≤ (dftStageInit i).blockLen) :
    EarlyOK (lstageOf (dftStageInit i)) :=
  ⟨lstage_peak_ge_L i hl hp hf hn,
   (stage_init_wf_shape i (isPow2L_pos hp) hM (fun h => by rw [hl] at h; cases h) b hD hN hB (fun _ _ => Or.inl hf)).2⟩

example : EarlyOK (lstageOf (dftStageInit exLin)) :=
  dft_stage_init_linear_early_ok exLin (by decide) (by decide) (by decide) (by decide) (by decide) 11 (by decide) (by decide) (by decide)

/-- **End to end for the single-stage plan**: a resampler whose plan is the one linear-phase power-of-two up-sampling stage
    `dft_stage_init` leaves (1→2, 1→4 with the small-integer optimisation …) is never early — `never_early` of C03 with every
    per-stage hypothesis discharged from the model of `dft_stage_init`, for every kernel, history and input. -/
theorem never_early_linear_dft_plan {α : Type} (K : Kern α) (z : α) (owed : Nat → Nat) (i : DftIn)
    (hl : i.lin = true) (hp : isPow2L i.L = true) (hf : i.fnEqL = true)
    (hn : 2 ≤ i.nRaw) (hM : 0 < i.M) (b : Nat) (hD : i.dftLen = 2 ^ b) (hN : (dftStageInit i).numTaps ≤ i.dftLen)
    (hB : i.L ≤ (dftStageInit i).blockLen ∧ i.M ≤ (dftStageInit i).blockLen)
    (ops : List (DOp α)) (F D : List α) (e : DEng α)
    (r : DRuns K z owed (DEng.fresh z ([lstageOf (dftStageInit i)].map LStage.toPlan)) ops F D e) (hfl : e.fl = false) :
    (1 ≤ D.length → ((D.length : ℚ) - 1) * rateOf ([lstageOf (dftStageInit i)].map tstage) < F.length) ∧
    (0 < rateOf ([lstageOf (dftStageInit i)].map tstage) →
      D.length ≤ ⌈(F.length : ℚ) / rateOf ([lstageOf (dftStageInit i)].map tstage)⌉₊) := by
  have hL := isPow2L_pos hp
  have hwf := (stage_init_wf_shape i hL hM (fun h => by rw [hl] at h; cases h) b hD hN hB (fun _ _ => Or.inl hf)).1
  exact C03.never_early K z owed [lstageOf (dftStageInit i)]
    (List.forall_mem_singleton.mpr hwf)
    (List.forall_mem_singleton.mpr (dft_stage_init_linear_early_ok i hl hp hf hn hM b hD hN hB))
    (List.forall_mem_singleton.mpr (lstage_latOK_linear i hL hl false))
    ops F D e r hfl

/-! ## not carried by Lean (measured by the falsifier of `checks/c14.py`) -/

/-- the cepstral transform changes the phase only: with `mag l ω` the magnitude response of the tap list `l` and `h` the
    designed (linear-phase) filter, `|H_p(ω)| = |H(ω)|` for every phase setting.  Floating point (FFT, `atan2`, `log`, `exp`)
    plus a truncation to `len` taps that costs up to ≈ 3·10⁻⁴ relative at minimum phase — **not proved**; measured. -/
def Goal_magnitude_preserved {α ρ : Type} (mag : List α → Nat → ρ) (cep : Cep α) (h : List α) (d : Nat) : Prop :=
  ∀ n, n ≤ 100 * d → ∀ ω, mag (firToPhaseAt cep d n).taps ω = mag h ω

end Soxr.Properties.C14
