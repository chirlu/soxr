import SoxrModel.Cr.Pull
import SoxrModel.Cr.Stream
import SoxrModel.Properties.C03
/-!
# C15 `soxr_delay` reports exactly the output still owed for the input accepted

`_soxr_delay = samples_in / io_ratio − samples_out`.  With `io_ratio = p / q` (the exact rational `irate/orate`;
`p, q > 0`) the delay is the rational `(samples_in·q − samples_out·p) / p`; everything below is stated on that
numerator, in integers, so that no rounding of the model can hide anything.  `roundDiv a p = ⌊a/p + ½⌋`.
The C code evaluates the same expression in binary64; the check compares the two bit for bit through the driver and
evaluates the property's relation in exact rationals (ties within 1e-6 counted separately).
-/
namespace Soxr.Properties.C15
open Soxr Soxr.Cr

/-- `⌊a/p + 1/2⌋` (round half up) -/
def roundDiv (a : Int) (p : Nat) : Int := (2 * a + p) / (2 * p)

/-- numerator of the reported delay over the denominator `p` -/
def delayNum (e : Eng) (p q : Nat) : Int := (e.sin : Int) * q - e.sout * p

/-- numerator of what `soxr_delay()` reports: the guard of soxr.c first (`(p && !p->error && p->resamplers)? resampler_delay : 0`:
    an object that carries an error reports 0), then the engine's value -/
def apiDelayNum (a : Api) (p q : Nat) : Int := if a.error then 0 else delayNum a.eng p q

/-- **After an error nothing more is owed, and `soxr_delay` says so.**  Once an error is recorded (the input function reported
    failure, a NULL buffer was refused, …) every later `soxr_output`, with any request and any input-function script, delivers
    nothing, asks for nothing and leaves the object as it is — and the reported delay is 0: `delivered + round(delay) = the total
    finally delivered` also on that path.  (Round 7 of the seeded changes, `C15-delay-guard-drops-error-test`: the guard lost its
    `!p->error` and the streaming value kept being reported for output that will never come.) -/
theorem delay_zero_after_error (num : Num) (fuel : Nat) (a : Api) (p q len0 : Nat) (script : List Supply) (herr : a.error = true) :
    apiDelayNum a p q = 0 ∧ a.output num fuel len0 script = some (a, 0, script, []) :=
  ⟨if_pos herr, output_of_error herr⟩

/-- without an error the guard is transparent: every other theorem of this file speaks about what `soxr_delay` returns -/
theorem delay_guard_transparent (a : Api) (p q : Nat) (herr : a.error = false) : apiDelayNum a p q = delayNum a.eng p q := by
  unfold apiDelayNum; simp [herr]

/-- non-vacuity: an object that has accepted 1000 frames at 2:1 and then recorded an error reports 0, not 500 -/
example : apiDelayNum { eng := { stages := [], sin := 1000 }, error := true } 2 1 = 0 ∧
    delayNum ({ eng := { stages := [], sin := 1000 }, error := true } : Api).eng 2 1 = 1000 := by decide

theorem roundDiv_add_mul (a s : Int) (p : Nat) (hp : 0 < p) : roundDiv (a + s * p) p = roundDiv a p + s := by
  unfold roundDiv
  have e : 2 * (a + s * p) + p = (2 * a + p) + s * (2 * p) := by
    rw [Int.mul_add, Int.mul_left_comm 2 s]; omega
  rw [e, Int.add_mul_ediv_right _ _ (by omega : (2 * (p : Int)) ≠ 0)]

/-- **Delay relation while streaming.**  At every point of every streaming history (any call sizes), with `rem`
    frames still to be supplied: `delivered + round(delay + rem·orate/irate) = round((accepted + rem)·orate/irate)`,
    the total the stream will finally deliver. -/
theorem delay_relation_streaming (e e' : Eng) (ops : List StreamOp) (F D rem p q : Nat) (hp : 0 < p)
    (hsin : e.sin = 0) (hsout : e.sout = 0) (hs : Streaming e) (h : Streams e ops F D e') :
    (D : Int) + roundDiv (delayNum e' p q + (rem : Int) * q) p = roundDiv (((F + rem : Nat) : Int) * q) p := by
  obtain ⟨_, h2, h3⟩ := streams_counters ops e F D e' hs h
  unfold delayNum
  rw [h2, h3, hsin, hsout]
  have e1 : ((0 + F : Nat) : Int) * q - (0 + (D : Int)) * p + (rem : Int) * q = ((F + rem : Nat) : Int) * q + (-(D : Int)) * p := by
    push_cast; simp only [Int.zero_add]; rw [Int.add_mul, Int.neg_mul]; omega
  rw [e1, roundDiv_add_mul _ _ _ hp]; omega

/-- **After end-of-input the delay is the number of frames still to come** (an integer, never negative):
    `delivered so far + delay = owed N`, for every history before and every request sequence after the flush. -/
theorem delay_after_flush (num : Num) (a : Api) (e' : Eng) (ops : List StreamOp) (N D : Nat) (reqs : List Nat)
    (hsin : a.eng.sin = 0) (hsout : a.eng.sout = 0) (hstr : Streaming a.eng)
    (hs : Streams a.eng ops N D e') (hearly : D ≤ num.owed N) :
    let a1 : Api := { a with eng := e'.flush num.owed, flushing := true }
    ∀ ods a2, Calls num a1 reqs ods a2 →
      a2.eng.sin = 0 ∧ 0 ≤ -a2.eng.sout ∧ (D : Int) + ods.sum + (-a2.eng.sout) = num.owed N := by
  intro a1 ods a2 hc
  obtain ⟨-, k1, k2, k3⟩ := drain_after_stream num a.eng e' ops N D hsin hsout hstr hs hearly a1 rfl rfl reqs ods a2 hc
  exact ⟨k1, by omega, by omega⟩

/-- **Zero before any input** (and after `soxr_clear`, which the model — like the code — implements as a fresh engine). -/
theorem delay_zero_fresh (e : Eng) (p q : Nat) (hsin : e.sin = 0) (hsout : e.sout = 0) : delayNum e p q = 0 := by
  unfold delayNum; rw [hsin, hsout]; simp

/-- **Zero once drained**: when nothing is owed any more the delay is 0. -/
theorem delay_zero_drained (e : Eng) (p q : Nat) (hsin : e.sin = 0) (hd : Draining e) (h0 : e.owedLeft = 0) :
    delayNum e p q = 0 := by
  unfold delayNum Eng.owedLeft at *
  have := hd.sout
  have : e.sout = 0 := by omega
  rw [hsin, this]; simp

/-- **Never below −1 while streaming**, given the never-early bound `D ≤ ⌈N·q/p⌉` (C03): `delay·p > −p`. -/
theorem delay_gt_neg_one (e : Eng) (p q N D : Nat) (hsin : e.sin = N) (hsout : e.sout = D)
    (hearly : (D : Int) * p < (N : Int) * q + p) : -(p : Int) < delayNum e p q := by
  unfold delayNum; rw [hsin, hsout]; omega

/-- **Never below −1, for every run** (no never-early hypothesis): for a plan whose rate product is `p/q`
    (`= irate/orate` for a rational plan) and whose decidable hypotheses hold (C03 `never_early`), at every point of
    every streaming run the delay numerator `accepted·q − delivered·p` exceeds `−p`, i.e. `soxr_delay() > −1`. -/
theorem delay_gt_neg_one_every_run {α : Type} (K : Kern α) (z : α) (owed : Nat → Nat) (lp : List LStage)
    (hwf : ∀ x ∈ lp, StageWF x.cfg x.s0) (he : PlanEarlyOK lp) (hlat : PlanLatOK false lp) (p q : Nat) (hp : 0 < p) (hq : 0 < q)
    (hrate : rateOf (lp.map tstage) = (p : ℚ) / q) (ops : List (DOp α)) (F D : List α) (e : DEng α)
    (r : DRuns K z owed (DEng.fresh z (lp.map LStage.toPlan)) ops F D e) (hfl : e.fl = false) :
    -(p : Int) < (F.length : Int) * q - (D.length : Int) * p :=
  early_delay hp hq (hrate ▸ (Soxr.Properties.C03.never_early K z owed lp hwf he hlat ops F D e r hfl).1)

/-- **Never negative at end-of-input, for every run**: the hypothesis `D ≤ owed N` of `delay_after_flush` holds at every point of
    every streaming run of a plan whose decidable hypotheses hold, the post-context clause included (`rate/2 ≤ 1 + offset + margin`;
    `margin` counts what an output WAITS for — for the cubic stage its hold-back `pre_post`, which is what makes the clause true
    of every linear-phase plan the real planner produces, the large-factor `SOXR_QQ` plans included; evaluated by the driver on
    every exported plan), provided the engine's floating-point `owed` is not below the exact rounding `⌊N/rate + ½⌋`.  So whenever
    end-of-input is said, nothing has been handed out that the final total does not contain: the delay then reported,
    `owed N − D`, is not negative. -/
theorem hearly_every_run {α : Type} (K : Kern α) (z : α) (owed : Nat → Nat) (lp : List LStage)
    (hwf : ∀ x ∈ lp, StageWF x.cfg x.s0) (he : PlanEarlyOK lp) (hlat : PlanLatOK false lp)
    (hpost : rateOf (lp.map tstage) / 2 ≤ 1 + offsetOf (lp.map tstage) + margOf lp) (hpos : 0 < rateOf (lp.map tstage))
    (ops : List (DOp α)) (F D : List α) (e : DEng α)
    (r : DRuns K z owed (DEng.fresh z (lp.map LStage.toPlan)) ops F D e) (hfl : e.fl = false)
    (howed : ⌊(F.length : ℚ) / rateOf (lp.map tstage) + 1 / 2⌋₊ ≤ owed F.length) :
    D.length ≤ owed F.length :=
  le_trans (Soxr.Properties.C03.never_early_round K z owed lp hwf he hlat hpost hpos ops F D e r hfl).2 howed

/-- **Never below −1 while streaming, for every history of the count model** (`accepted·q − delivered·p > −p`, i.e. `soxr_delay() > −1`,
    for a plan whose rate product is `p/q`). -/
theorem delay_gt_neg_one_every_history (lp : List LStage) (hwf : ∀ x ∈ lp, StageWF x.cfg x.s0) (he : PlanEarlyOK lp) (hlat : PlanLatOK false lp)
    (hne : lp ≠ []) (p q : Nat) (hp : 0 < p) (hq : 0 < q) (hrate : rateOf (lp.map tstage) = (p : ℚ) / q)
    (ops : List StreamOp) (N D : Nat) (e' : Eng) (hs : Streams (Soxr.Properties.C03.freshEng lp) ops N D e') :
    -(p : Int) < (N : Int) * q - (D : Int) * p :=
  early_delay hp hq (hrate ▸ Soxr.Properties.C03.never_early_counts lp hwf he hlat hne ops N D e' hs)

/-- **After end-of-input the delay is the number of frames still to come, never negative — for every history, any phase response,
    no never-early hypothesis.**  A plan that meets the decidable hypotheses the driver evaluates on every exported plan
    (`PlanEarlyGen`: the centred-filter clauses are not needed); the engine's `owed` not below the exact rounding.  ANY streaming
    history of the freshly initialised resampler (count model: the one the per-call correspondence ties to the code; every such
    history is the shadow of one on samples, `streams_lift`), then end-of-input, then any requests: at every point
    `samples_in = 0`, `delay = −samples_out ≥ 0` and `delivered + delay = owed N`. -/
theorem delay_after_flush_any_phase (num : Num) (lp : List LStage) (hwf : ∀ x ∈ lp, StageWF x.cfg x.s0) (he : PlanEarlyGen lp)
    (hpost : rateOf (lp.map tstage) / 2 ≤ 1 + offsetOf (lp.map tstage) + margOf lp)
    (hpos : 0 < rateOf (lp.map tstage)) (hne : lp ≠ [])
    (howed : ∀ n : Nat, ⌊(n : ℚ) / rateOf (lp.map tstage) + 1 / 2⌋₊ ≤ num.owed n)
    (a : Api) (ha : a.eng = Soxr.Properties.C03.freshEng lp) (e' : Eng) (ops : List StreamOp) (N D : Nat) (reqs : List Nat)
    (hs : Streams a.eng ops N D e') :
    let a1 : Api := { a with eng := e'.flush num.owed, flushing := true }
    ∀ ods a2, Calls num a1 reqs ods a2 →
      a2.eng.sin = 0 ∧ 0 ≤ -a2.eng.sout ∧ (D : Int) + ods.sum + (-a2.eng.sout) = num.owed N :=
  have hf : Soxr.Properties.C03.Fresh a.eng := ha ▸ Soxr.Properties.C03.freshEng_fresh lp hwf hne
  delay_after_flush num a e' ops N D reqs hf.sin hf.sout hf.str hs
    (le_trans (Soxr.Properties.C03.never_early_round_counts_gen lp hwf he hpost hpos hne ops N D e' (ha ▸ hs)) (howed N))

/-- … for centred filters -/
theorem delay_after_flush_every_history (num : Num) (lp : List LStage) (hwf : ∀ x ∈ lp, StageWF x.cfg x.s0) (he : PlanEarlyOK lp)
    (hlat : PlanLatOK false lp) (hpost : rateOf (lp.map tstage) / 2 ≤ 1 + offsetOf (lp.map tstage) + margOf lp)
    (hpos : 0 < rateOf (lp.map tstage)) (hne : lp ≠ [])
    (howed : ∀ n : Nat, ⌊(n : ℚ) / rateOf (lp.map tstage) + 1 / 2⌋₊ ≤ num.owed n)
    (a : Api) (ha : a.eng = Soxr.Properties.C03.freshEng lp) (e' : Eng) (ops : List StreamOp) (N D : Nat) (reqs : List Nat)
    (hs : Streams a.eng ops N D e') :
    let a1 : Api := { a with eng := e'.flush num.owed, flushing := true }
    ∀ ods a2, Calls num a1 reqs ods a2 →
      a2.eng.sin = 0 ∧ 0 ≤ -a2.eng.sout ∧ (D : Int) + ods.sum + (-a2.eng.sout) = num.owed N :=
  delay_after_flush_any_phase num lp hwf (earlyGen_of_ok lp he hlat) hpost hpos hne howed a ha e' ops N D reqs hs

/-- non-vacuity of `hearly_every_run` where it matters: the plan the real planner builds for 49 → 10 at `SOXR_QQ` (one cubic stage,
    step 4.9·2³² rounded, `pre_post = 4`, `pre = preload = 1`) meets every hypothesis, the post-context clause included … -/
def exCubic : List LStage :=
  [ { cfg := { kind := .clocked, prePost := 4, den := 4294967296, step := 21045339750, taps := 4 },
      s0 := { occ := 1, clk := 0, isz := 8192 }, lat := { pre := 1, cubic := true } } ]

example : (∀ x ∈ exCubic, StageWF x.cfg x.s0) ∧ PlanEarlyOK exCubic ∧ PlanLatOK false exCubic := by decide
example : rateOf (exCubic.map tstage) / 2 ≤ 1 + offsetOf (exCubic.map tstage) + margOf exCubic := by
  simp only [exCubic, List.map, rateOf, offsetOf, margOf, tstage, margin]; norm_num

/-- … and the same stage with half the window kept as history (`pre = preload = pre_post >> 1 = 2`, a change that passes the
    test-suite and makes the library hand out one frame too many before end-of-input) does not: the clause is what separates them -/
def exCubicHalved : List LStage :=
  [ { cfg := { kind := .clocked, prePost := 4, den := 4294967296, step := 21045339750, taps := 4 },
      s0 := { occ := 2, clk := 0, isz := 8192 }, lat := { pre := 2, cubic := true } } ]

example : ¬ (rateOf (exCubicHalved.map tstage) / 2 ≤ 1 + offsetOf (exCubicHalved.map tstage) + margOf exCubicHalved) := by
  simp only [exCubicHalved, List.map, rateOf, offsetOf, margOf, tstage, margin]; norm_num

example : roundDiv 7 2 = 4 ∧ roundDiv 5 2 = 3 ∧ roundDiv (-1) 2 = 0 := by decide

end Soxr.Properties.C15
