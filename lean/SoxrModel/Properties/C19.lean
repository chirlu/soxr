import SoxrModel.Lsr.Invariant
import SoxrModel.Conv.LemmasProps
import SoxrModel.Conv.LemmasLsr

/-!
# C19 — the libsamplerate-compatible wrapper keeps the `SRC_DATA` contract

Model: `SoxrModel/Lsr/Model.lean` — `soxr-lsr.c` and the API layer of `soxr.c` under it (`soxr_set_io_ratio` with lazy
initialisation, `soxr_set_error` **as written** (inverted), `fatal_error`, `soxr_clear`, `soxr_process` with the
`~input_frames` encoding on 64-bit words and `soxr_i_for_o` in correctly rounded `double` arithmetic, `soxr_input`,
`soxr_output` with its pull loop) as a state machine over an **abstract engine**: every call into the engine is an event,
every answer of the engine / of the caller's callback comes from an oracle.  Theorems hold for **every oracle** (any engine
answers, any callback answers, any number of pull-loop iterations), every object state, every argument value.
The engine law E2 (`resampler_output` hands over at most what was asked) is part of the abstract engine (`askOutput`);
the laws used for the totals clause (exact drain C03, progress C08) are explicit hypotheses of `totals_owed_then_zero`.
The array helpers are `Conv.lsrToShort / lsrToInt / lsrToFloat` on exact dyadics (every float32 value is one).

Clauses and theorems
* constants read from /repo               `generated_constants`
* `~input_frames`                         `eoi_encoding_roundtrip`
* used ≤ input_frames, gen ≤ output_frames `process_contract`, `callback_read_contract`, `simple_contract`
  (all three for any engine, any callback script, any state; `pull_loop_bound` is the loop lemma)
* totals = owed, then 0                    `totals_owed_then_zero` (engine laws as hypotheses), `drain_call_reports_engine_answer`
* src_reset = fresh                        `reset_is_fresh` (every converter id, any history), `reset_of_new_is_noop`;
                                           `reset_on_clear_not_fresh_historical`: what ids 3, 4, 5 did before /repo's repair
                                           88f0e06 (finding F31, fixed) — still what `RESET_ON_CLEAR` objects of `soxr.h` do
* NULL converter / data ⇒ error code       `null_arguments_give_error` (every entry point incl. `src_error`, since a55ec94;
                                           findings F32, F33 fixed)
* per-call ratio change, as written        `set_error_never_records`, `refused_ratio_change_is_noop`, `same_ratio_accepted`
* src_simple on failure                    `simple_failure_reports_zero`
* helpers                                  `float_to_short_is_reference`, `float_to_int_is_reference`, `helpers_nearest`,
                                           `helpers_saturate`, `helpers_nonfinite`, `short_float_short_exact`,
                                           `int_float_int_exact`, `short_to_float_exact`
* outside the contract (why the assumptions are needed)  `invalid_ratio_crashes`
* a failed create, then `src_reset`           `failed_create_then_reset_reports_error` (as repaired by /repo b5a678f, finding F40);
                                           `failed_create_then_reset_crashed_historical`

* no crash with a valid ratio              `no_crash_in_contract` (single call, any engine / callback behaviour)
* its hypothesis is an invariant            `channels_invariant_process` (every oracle, no side hypothesis),
                                           `channels_invariant_read`, `channels_invariant_set_ratio`,
                                           `wellformed_invariant_reset` (every entry point keeps `Wf`: channels set and not torn
                                           down, or torn down and carrying the error), `wellformed_invariant_step`;
                                           `channels_invariant_reset_violated_historical` (the pre-repair `soxr_clear`, F40)
* no crash, every sequence                 `no_crash_every_sequence` — full strength: from `src_new` / `src_callback_new`, every
                                           sequence of in-contract calls incl. `src_reset`, EVERY oracle (failing
                                           `resampler_create` included); `channels_kept_without_failing_create`
-/

set_option exponentiation.threshold 4096
namespace Soxr.Lsr.C19
open Soxr.Lsr Soxr.Conv

/-- what `harness/lsr/gen.c` reads off the real `src_new` objects on every run (`Lsr/Generated.lean`): no LSR converter id
    has an engine with a `set_io_ratio` entry and none carries `RESET_ON_CLEAR`; `max_ilen` after `src_callback_new`; the
    `1e-15` literal; word sizes; `src_strerror` distinguishes 0 / 1 / other. -/
theorem generated_constants :
    (∀ id < 6, (cfgOf id).vr = false) ∧
    (∀ id < 6, (cfgOf id).reset = false) ∧
    Gen.maxIlen = 2 ^ 64 - 1 ∧ Gen.tinyBits = tiny ∧ Gen.sizeofLong = 8 ∧ Gen.sizeofSizeT = 8 ∧
    Gen.strerrorDistinct = true := by decide

/-- `(size_t)(io->end_of_input ? ~io->input_frames : io->input_frames)` is decoded by `soxr_process` to exactly
    (`end_of_input`, `input_frames`) for every non-negative `input_frames` (64-bit words). -/
theorem eoi_encoding_roundtrip (n : BitVec 64) (h : n.msb = false) :
    decodeIlen (~~~n) = (true, n) ∧ decodeIlen n = (false, n) := decodeIlen_roundtrip n h

example : (1000#64).msb = false := by decide

/-- the hypothesis is needed: a negative `input_frames` without `end_of_input` is taken for an end-of-input block of
    `-input_frames - 1` frames (the code reads that many frames from `data_in`). -/
theorem negative_input_frames_read_as_flush : decodeIlen (BitVec.ofInt 64 (-5)) = (true, 4#64) := by decide

/-- **`src_process`**: whatever the converter's state, the engine's and the callback's answers: both counts are
    reported, `input_frames_used ≤ input_frames`, `output_frames_gen ≤ output_frames`. -/
theorem process_contract (fuel : Nat) (o : Obj) (d : Data) (hin : d.inFrames.msb = false) (c c' : Ctx)
    (p' : Option Obj) (r : PRes) (h : srcProcess fuel (some o) (some d) c = .ok (p', r) c') :
    ∃ u g, r.used = some u ∧ r.gen = some g ∧ u ≤ d.inFrames.toNat ∧ g ≤ d.outFrames.toNat := by
  obtain ⟨_, u, g, e, -, hu, hg⟩ := (srcProcess_spec fuel o d c).ok h
  cases e
  exact ⟨u, g, rfl, rfl, decodeIlen_eoi _ hin d.eoi ▸ hu, hg⟩

/-- a run that returns: converter 4, 2 channels, ratio 2.0, 100 frames in, room for 300, end of input; the engine is
    created twice, takes 100 frames per channel, is flushed and hands over 200. -/
example : srcProcess 3 (some (fresh 4 2 false)) (some ⟨0x4000000000000000, 100#64, 300#64, true, false, false⟩)
      ⟨[], [.c true, .c true, .g 200, .g 200]⟩ =
    .ok (some { fresh 4 2 false with ioRatio := 0x3fe0000000000000, inited := true, flushing := true },
         ⟨0, some 100, some 200⟩)
      ⟨[.output 200, .process 300, .flush, .output 200, .process 300, .flush, .input 100, .input 100,
        .create 0x3fe0000000000000 true, .create 0x3fe0000000000000 true], []⟩ := by decide +kernel

/-- the loop lemma: `soxr_output` never delivers more than was asked for, for any number of iterations. -/
theorem pull_loop_bound (fuel : Nat) (o : Obj) (outNull : Bool) (len0 : Nat) (c c' : Ctx) (o' : Obj) (r : Nat)
    (h : soxrOutput fuel o outNull len0 c = .ok (o', r) c') : r ≤ len0 := ((soxrOutput_spec fuel o outNull len0 c).ok h).2

/-- **`src_callback_read`** returns `-1` for a NULL converter or a negative length (touching nothing), otherwise a count
    between 0 and `olen` — for every callback script (short, zero, NULL supplies) and every engine. -/
theorem callback_read_contract (fuel : Nat) (p : Option Obj) (ratio : D) (olen : BitVec 64) (outNull : Bool)
    (c c' : Ctx) (p' : Option Obj) (ret : Int) (h : srcCallbackRead fuel p ratio olen outNull c = .ok (p', ret) c') :
    (p = none ∨ olen.msb = true → ret = -1 ∧ p' = p ∧ c' = c) ∧
    (p ≠ none → olen.msb = false → 0 ≤ ret ∧ ret ≤ olen.toNat) := by
  refine ⟨fun hp => ?_, fun hp hm => ?_⟩
  · rw [srcCallbackRead_refused fuel p ratio olen outNull hp c] at h
    cases h; exact ⟨rfl, rfl, rfl⟩
  · obtain ⟨o, rfl⟩ := Option.ne_none_iff_exists'.mp hp
    obtain ⟨_, _, _, hb⟩ := (srcCallbackRead_spec fuel o ratio olen outNull c).ok h
    exact hb hm

/-- a read of 200 frames at ratio 1.5: nothing yet, callback supplies 64, nothing yet, callback supplies 0 (end), flush: 96. -/
example : srcCallbackRead 9 (some (fresh 1 1 true)) 0x3ff8000000000000 200#64 false
      ⟨[], [.c true, .g 0, .k 64 false, .g 0, .k 0 false, .g 96]⟩ =
    .ok (some { fresh 1 1 true with ioRatio := 0x3fe5555555555555, inited := true, flushing := true }, 96)
      ⟨[.output 96, .process 200, .flush, .cb 0 false, .output 0, .process 200, .input 64, .cb 64 false, .output 0,
        .process 200, .create 0x3fe5555555555555 true], []⟩ := by decide +kernel

/-- **`src_simple`**: when it completes, the counts are within the offered sizes. -/
theorem simple_contract (fuel : Nat) (d : Data) (id : Nat) (chans : Int) (c c' : Ctx) (rc : Int) (u g : Nat)
    (h : srcSimple fuel (some d) id chans c = .ok (.done rc u g) c') :
    u ≤ d.inFrames.toNat ∧ g ≤ d.outFrames.toNat ∧ d.inFrames.msb = false :=
  (srcSimple_spec fuel d id chans c).ok h rc u g rfl

example : srcSimple 3 (some ⟨0x3ff4000000000000, 100#64, 200#64, false, false, false⟩) 2 1 ⟨[], [.c true, .g 125]⟩ =
    .ok (.done 0 100 125) ⟨[.close, .output 125, .process 200, .flush, .input 100, .create 0x3fe999999999999a true], []⟩ := by
  decide +kernel

/-- **Totals**: along any run of calls with `end_of_input` set in which the engine obeys E2, exact drain (C03: never more
    than the owed total) and progress (C08: something is delivered while output is owed and room is offered), the first
    call that returns 0 although room was offered comes exactly when the owed total has been delivered, and every later
    call returns 0.  (`owed` is `round(input · src_ratio)` for the engines by the delay relation C03; the check's
    falsifier measures it on the real code.) -/
theorem totals_owed_then_zero (owed tout : Nat) (pre post : List Drain) (d : Drain) (h0 : tout ≤ owed)
    (h : Lawful owed tout (pre ++ d :: post)) (hroom : 0 < d.olen) (hz : d.g = 0) :
    tout + delivered pre = owed ∧ ∀ e ∈ post, e.g = 0 :=
  Soxr.Lsr.totals_owed_then_zero owed tout pre post d h0 h hroom hz

example : Lawful 200 0 ([⟨150, 150⟩, ⟨0, 0⟩, ⟨150, 50⟩] ++ ⟨100, 0⟩ :: [⟨7, 0⟩]) := by
  simp [Lawful]

/-- what a drain call reports is the engine's answer: a running one-channel converter that is flushing, room for `len`
    frames, engine answer `g`: `soxr_output` flushes, asks for `len`, and returns `min g len` (the `min` is E2). -/
theorem drain_call_reports_engine_answer (o : Obj) (len g : Nat) (evs : List Ev) (rest : List Tok)
    (he : o.error = none) (hch : o.chans = 1) (hi : o.inited = true) (hfl : o.flushing = true) :
    soxrOutput 1 o false len ⟨evs, .g g :: rest⟩ =
      .ok (o, min g len) ⟨.output (min g len) :: .process len :: .flush :: evs, rest⟩ := by
  simp [soxrOutput, pullLoop, outputNoCallback, outChans, M.bind, M.pure, emit, askOutput, he, hch, hi, hfl]

/-- **`src_reset` = fresh, every converter id** (no id carries `RESET_ON_CLEAR` since /repo's repair 88f0e06, see
    `generated_constants`): any history, any stored error, running or not — the engine instances are closed, the object
    is the one `src_new` returns, the return code is 0. -/
theorem reset_is_fresh (id chans : Nat) (fn : Bool) (hid : id < 6) (o : Obj) (hcfg : o.cfg = cfgOf id)
    (hch : o.chans = chans) (hfn : o.hasFn = fn) (hmax : o.maxIlen = 2 ^ 64 - 1) (hdead : o.dead = false) (c : Ctx) :
    ∃ c', srcReset (some o) c = .ok (some (fresh id chans fn), 0) c' ∧ c'.toks = c.toks :=
  reset_is_fresh_of_flag id chans fn o hcfg (generated_constants.2.1 id hid) hch hfn hmax hdead c

example : ({ fresh 4 2 false with ioRatio := 0x3fe0000000000000, inited := true, flushing := true, error := some .nullOut } : Obj).dead = false ∧
    ({ fresh 4 2 false with ioRatio := 0x3fe0000000000000, inited := true } : Obj).cfg = cfgOf 4 := by
  decide

/-- converter 4 after a run at ratio 2.0: `src_reset` closes the engine; the next `src_process` at ratio 0.5 creates it
    at `io_ratio` 2.0 and 100 frames in give 50 out — as on a new converter. -/
example :
    let used : Obj := { fresh 4 1 false with ioRatio := 0x3fe0000000000000, inited := true, flushing := true }
    let d : Data := ⟨0x3fe0000000000000, 100#64, 300#64, true, false, false⟩
    srcReset (some used) ⟨[], []⟩ = .ok (some (fresh 4 1 false), 0) ⟨[.close], []⟩ ∧
    srcProcess 3 (some (fresh 4 1 false)) (some d) ⟨[], [.c true, .g 50]⟩ =
      .ok (some { fresh 4 1 false with ioRatio := 0x4000000000000000, inited := true, flushing := true },
           ⟨0, some 100, some 50⟩)
        ⟨[.output 50, .process 300, .flush, .input 100, .create 0x4000000000000000 true], []⟩ := by decide +kernel

/-- HISTORICAL witness (finding F31, fixed by 88f0e06): before the repair `soxr_quality_spec` gave converter ids 3, 4, 5
    `RESET_ON_CLEAR` (`cfg.reset = true`).  On such an object — which is still what `soxr_clear` does for the ordinary
    recipes of `soxr.h` — `src_reset` after a run at ratio 2.0 closes the engine and creates it again **at the old
    `io_ratio` 0.5**; the next `src_process` at ratio 0.5 (`io_ratio` 2.0) is refused silently: return code 0, engine still
    at 0.5, 100 frames in give 200 out. -/
theorem reset_on_clear_not_fresh_historical :
    let new4 : Obj := { fresh 4 1 false with cfg := ⟨true, false⟩ }
    let used : Obj := { new4 with ioRatio := 0x3fe0000000000000, inited := true, flushing := true }
    let afterReset : Obj := { new4 with ioRatio := 0x3fe0000000000000, inited := true }
    let d : Data := ⟨0x3fe0000000000000, 100#64, 300#64, true, false, false⟩
    srcReset (some used) ⟨[], [.c true]⟩ = .ok (some afterReset, 0) ⟨[.create 0x3fe0000000000000 true, .close], []⟩ ∧
    afterReset ≠ new4 ∧
    srcProcess 3 (some afterReset) (some d) ⟨[], [.g 200]⟩ =
      .ok (some { afterReset with flushing := true }, ⟨0, some 100, some 200⟩)
        ⟨[.output 200, .process 300, .flush, .input 100], []⟩ := by decide +kernel

/-- on a converter that has not been used yet `src_reset` changes nothing and returns 0, whatever the id. -/
theorem reset_of_new_is_noop :
    srcReset (some (fresh 4 1 false)) ⟨[], []⟩ = .ok (some (fresh 4 1 false), 0) ⟨[], []⟩ ∧
    srcReset (some (fresh 1 1 false)) ⟨[], []⟩ = .ok (some (fresh 1 1 false), 0) ⟨[], []⟩ := by decide +kernel

/-- `soxr_clear` with `RESET_ON_CLEAR` (which no libsamplerate converter id sets) on a used object is "close everything, forget
    error / flushing, then `soxr_set_io_ratio(p, old io_ratio, 0)` on the cleared object that keeps the old ratio" — a new
    converter that has already been given the old ratio. -/
theorem reset_is_fresh_partial (o : Obj) (hr : o.cfg.reset = true) (hc : o.chans ≠ 0) (hz : isZero o.ioRatio = false)
    (hd : o.dead = false) (c : Ctx) :
    soxrClear o c = M.bind (closeAll o) (fun _ =>
      setIoRatio { o with error := none, inited := false, flushing := false } o.ioRatio 0) c := by
  unfold soxrClear
  simp [hr, hc, hz, hd]

example : ({ fresh 4 1 false with cfg := ⟨true, false⟩, ioRatio := 0x3fe0000000000000 } : Obj).cfg.reset = true ∧
    isZero 0x3fe0000000000000 = false ∧ (fresh 4 1 false).dead = false := by decide +kernel

/-- **A NULL converter or data block yields `-1`, not a crash**, and nothing is touched: `src_process` (either NULL),
    `src_callback_read`, `src_set_ratio`, `src_reset`, `src_error`, `src_simple` (NULL data); `src_delete(NULL)` is a
    no-op. -/
theorem null_arguments_give_error (fuel : Nat) (p : Option Obj) (io : Option Data) (r : D) (olen : BitVec 64) (b : Bool)
    (id : Nat) (ch : Int) (c : Ctx) :
    (p = none ∨ io = none → srcProcess fuel p io c = .ok (p, ⟨-1, none, none⟩) c) ∧
    srcCallbackRead fuel none r olen b c = .ok (none, -1) c ∧
    srcSetRatio none r c = .ok (none, -1) c ∧
    srcReset none c = .ok (none, -1) c ∧
    srcError none c = .ok (-1) c ∧
    srcSimple fuel none id ch c = .ok .refused c ∧
    srcDelete none c = .ok () c :=
  ⟨fun h => srcProcess_null fuel p io h c, rfl, rfl, rfl, rfl, rfl, rfl⟩

/-- `soxr_set_error` never records a new error: with none stored, the object is unchanged whatever it is given. -/
theorem set_error_never_records (o : Obj) (e : Option Err) (h : o.error = none) : setError o e = o :=
  setError_none o e h

/-- a running constant-rate converter (all LSR ids on the pinned tree: no engine has a `set_io_ratio` entry, see
    `generated_constants`) refuses a different ratio, and the refusal changes nothing and is not recorded: the old
    ratio stays in force and `src_process` carries on. -/
theorem refused_ratio_change_is_noop (o : Obj) (r : D) (slew : Nat) (he : o.error = none) (hc : o.chans ≠ 0)
    (hr : dpos r = true) (hi : o.inited = true) (hv : o.cfg.vr = false) (hd : closeTo o.ioRatio r = false) (c : Ctx) :
    setIoRatio o r slew c = .ok (o, some .varying) c ∧ setError o (some .varying) = o :=
  ⟨by rw [setIoRatio_const_rate o r slew he hc hr hi hv, hd]; rfl, setError_none o _ he⟩

example : closeTo 0x3fe0000000000000 0x4000000000000000 = false ∧ dpos 0x4000000000000000 = true := by decide +kernel

/-- the same ratio (reciprocal within `1e-15` of the stored one) is accepted and changes nothing. -/
theorem same_ratio_accepted (o : Obj) (r : D) (slew : Nat) (he : o.error = none) (hc : o.chans ≠ 0)
    (hr : dpos r = true) (hi : o.inited = true) (hv : o.cfg.vr = false) (hd : closeTo o.ioRatio r = true) (c : Ctx) :
    setIoRatio o r slew c = .ok (o, none) c := by rw [setIoRatio_const_rate o r slew he hc hr hi hv, hd]; rfl

example : closeTo 0x3fe0000000000000 0x3fe0000000000001 = true := by decide +kernel

/-- with `src_ratio` 0 or negative (here `-1.0`) `soxr_create` fails inside `soxr_oneshot`: `-1` and both counts 0 (since
    a55ec94; before it two uninitialised locals were copied out, finding F33); with a bad channel count or bad sizes
    nothing is written. -/
theorem simple_failure_reports_zero :
    srcSimple 3 (some ⟨0, 100#64, 400#64, false, false, false⟩) 2 1 ⟨[], []⟩ = .ok (.done (-1) 0 0) ⟨[], []⟩ ∧
    srcSimple 3 (some ⟨0xBFF0000000000000, 100#64, 400#64, false, false, false⟩) 2 1 ⟨[], []⟩ = .ok (.done (-1) 0 0) ⟨[], []⟩ ∧
    srcSimple 3 (some ⟨0x3ff0000000000000, 100#64, 400#64, false, false, false⟩) 2 0 ⟨[], []⟩ = .ok .refused ⟨[], []⟩ := by
  decide +kernel

/-! Outside the contract: why the assumptions are there. -/

/-- an invalid `src_ratio` (here `-1.0`) on a new converter: the error of `soxr_set_io_ratio` is lost in
    `soxr_set_error`, `soxr_process` runs on the uninitialised object and dereferences `p->resamplers` (NULL). -/
theorem invalid_ratio_crashes :
    srcProcess 3 (some (fresh 0 1 false)) (some ⟨0xBFF0000000000000, 10#64, 10#64, false, false, false⟩) ⟨[], []⟩ =
      .crash ⟨[], []⟩ := by decide +kernel

/-- a failing `resampler_create` (here: `src_ratio = 0`, `io_ratio = inf`) leaves the torn-down object with the error;
    `src_reset` refuses it (`-1`, error kept); the next `src_process` reports the error with zero counts — no crash
    (as repaired by /repo b5a678f; regression sequence `fixed-failed-create-reset` of the check, with `src_ratio = 2^-32`). -/
theorem failed_create_then_reset_reports_error :
    let d0 : Data := ⟨0, 10#64, 10#64, false, false, false⟩
    let d1 : Data := ⟨0x3ff0000000000000, 10#64, 10#64, false, false, false⟩
    srcProcess 3 (some (fresh 0 1 false)) (some d0) ⟨[], [.c false]⟩ =
      .ok (some (deadObj .engine), ⟨-1, some 0, some 0⟩) ⟨[.close, .create 0x7ff0000000000000 false], []⟩ ∧
    srcReset (some (deadObj .engine)) ⟨[], []⟩ = .ok (some (deadObj .engine), -1) ⟨[], []⟩ ∧
    srcProcess 3 (some (deadObj .engine)) (some d1) ⟨[], []⟩ = .ok (some (deadObj .engine), ⟨-1, some 0, some 0⟩) ⟨[], []⟩ ∧
    srcCallbackRead 3 (some (deadObj .engine)) 0x3ff0000000000000 10#64 false ⟨[], []⟩ = .ok (some (deadObj .engine), 0) ⟨[], []⟩ := by
  decide +kernel

/-- HISTORICAL (finding F40, fixed by /repo b5a678f): with the pre-repair `soxr_clear`, `src_reset` dropped the error of the
    torn-down object and the next call crashed.  Replayed on the real code before the repair (`src_ratio = 2^-32`:
    `src_process` -1, `src_reset` 0, `src_error` 0, next `src_process` SIGSEGV), model and code agreeing op by op. -/
theorem failed_create_then_reset_crashed_historical :
    let d1 : Data := ⟨0x3ff0000000000000, 10#64, 10#64, false, false, false⟩
    Historical.srcResetPre (some (deadObj .engine)) ⟨[], []⟩ = .ok (some { deadObj .engine with error := none }, 0) ⟨[], []⟩ ∧
    srcProcess 3 (some { deadObj .engine with error := none }) (some d1) ⟨[], []⟩ = .crash ⟨[], []⟩ := by decide +kernel

/-- **No crash with a valid ratio**: `src_process` and `src_callback_read` cannot reach a crash site of the model for a
    valid `src_ratio` (`1 / src_ratio > 0`) on any object that is not "zeroed with its error dropped"
    (`error = none → num_channels ≠ 0`: true of every new converter) — whatever the engine and the callback answer, whether
    `resampler_create` fails or not, for any buffer pointers and sizes. -/
theorem no_crash_in_contract (fuel : Nat) (o : Obj) (d : Data) (ratio : D) (olen : BitVec 64) (outNull : Bool)
    (hch : o.error = none → o.chans ≠ 0) (c c' : Ctx) :
    (dpos (recip d.ratio) = true → srcProcess fuel (some o) (some d) c ≠ .crash c') ∧
    (dpos (recip ratio) = true → srcCallbackRead fuel (some o) ratio olen outNull c ≠ .crash c') :=
  ⟨fun hr => (srcProcess_spec fuel o d c).no_crash ⟨hch, hr⟩ c',
    fun hr => (srcCallbackRead_spec fuel o ratio olen outNull c).no_crash ⟨hch, hr⟩ c'⟩

example : ((fresh 3 2 true).error = none → (fresh 3 2 true).chans ≠ 0) ∧ dpos (recip 0x3ff8000000000000) = true := by
  decide +kernel

/-! The hypothesis of `no_crash_in_contract` as an invariant: `Inv o` is `o.error = none → o.chans ≠ 0`; `Live o` is
`o.chans ≠ 0`; `NoFail toks`: the oracle has no failing `resampler_create` (`Lsr/Invariant.lean`).  `src_reset` broke it
before /repo b5a678f (finding F40, kept as historical witness). -/

/-- **`src_process` keeps the invariant** — for every oracle (a failing `resampler_create` zeroes the channel count but
    stores the error), every data block, in contract or not. -/
theorem channels_invariant_process (fuel : Nat) (o : Obj) (d : Data) (c c' : Ctx) (o' : Obj) (r : PRes)
    (hi : o.error = none → o.chans ≠ 0) (h : srcProcess fuel (some o) (some d) c = .ok (some o', r) c') :
    o'.error = none → o'.chans ≠ 0 := by
  obtain ⟨_, _, _, e, hn, -⟩ := (srcProcess_spec fuel o d c).ok h
  cases e; exact hn.inv hi

example : srcProcess 3 (some (fresh 0 1 false)) (some ⟨0, 10#64, 10#64, false, false, false⟩) ⟨[], [.c false]⟩ =
    .ok (some (deadObj .engine), ⟨-1, some 0, some 0⟩) ⟨[.close, .create 0x7ff0000000000000 false], []⟩ ∧
    Inv (deadObj .engine) := ⟨by decide +kernel, (deadObj_wf _).inv⟩

/-- `src_callback_read` keeps it (every oracle). -/
theorem channels_invariant_read (fuel : Nat) (o : Obj) (ratio : D) (olen : BitVec 64) (outNull : Bool) (c c' : Ctx)
    (o' : Obj) (ret : Int) (hi : Inv o) (h : srcCallbackRead fuel (some o) ratio olen outNull c = .ok (some o', ret) c') :
    Inv o' := by
  obtain ⟨_, e, hn, -⟩ := (srcCallbackRead_spec fuel o ratio olen outNull c).ok h
  cases e; exact hn.inv hi

/-- `src_set_ratio` keeps it (every oracle, any ratio) and never crashes. -/
theorem channels_invariant_set_ratio (o : Obj) (ratio : D) (c c' : Ctx) (o' : Obj) (rc : Int) (hi : Inv o)
    (h : srcSetRatio (some o) ratio c = .ok (some o', rc) c') : Inv o' ∧ ∀ c'', srcSetRatio (some o) ratio c ≠ .crash c'' := by
  obtain ⟨_, e, hn⟩ := (srcSetRatio_spec (P := True) o ratio c).ok h
  cases e; exact ⟨hn.inv hi, (srcSetRatio_spec o ratio c).no_crash trivial⟩

/-- **`src_reset` keeps the object well-formed** (every oracle): `Wf o` — channels set and not torn down, or torn down by
    `fatal_error` and carrying the error — implies the hypothesis of `no_crash_in_contract`, and `src_reset` never crashes
    and returns a `Wf` object: a torn-down one is refused and keeps its error (/repo b5a678f), any other is cleared. -/
theorem wellformed_invariant_reset (o : Obj) (c c' : Ctx) (o' : Obj) (rc : Int) (hw : Wf o)
    (h : srcReset (some o) c = .ok (some o', rc) c') :
    Wf o' ∧ (o'.error = none → o'.chans ≠ 0) ∧ (NoFail c.toks → Live o → Live o') ∧
    ∀ c'', srcReset (some o) c ≠ .crash c'' := by
  obtain ⟨_, e, w2, l2⟩ := (srcReset_spec (P := True) o c).ok h
  cases e; exact ⟨w2 hw, (w2 hw).inv, l2, (srcReset_spec o c).no_crash trivial⟩

example : Wf (deadObj .engine) ∧ Wf (fresh 2 1 false) ∧ NoFail [.c true, .g 5] :=
  ⟨deadObj_wf _, fresh_wf 2 1 false (by decide), by unfold NoFail; decide⟩

/-- HISTORICAL (finding F40): the pre-repair `src_reset` did not keep the invariant. -/
theorem channels_invariant_reset_violated_historical :
    Inv (deadObj .engine) ∧
    Historical.srcResetPre (some (deadObj .engine)) ⟨[], []⟩ = .ok (some { deadObj .engine with error := none }, 0) ⟨[], []⟩ ∧
    ¬ Inv { deadObj .engine with error := none } := ⟨(deadObj_wf _).inv, by decide, fun h => h rfl rfl⟩

/-- one in-contract call of any kind (with its own oracle, as the driver runs it) from a well-formed object, **every
    oracle**: no crash, the result is well-formed; the channel count is kept when no `resampler_create` fails. -/
theorem wellformed_invariant_step (fuel : Nat) (o : Obj) (op : Op) (toks : List Tok) (hc : op.inContract) (hw : Wf o) :
    stepOp fuel o op toks ≠ .crash ∧
    (∀ o', stepOp fuel o op toks = .ok o' → Wf o' ∧ (NoFail toks → Live o → Live o')) := stepOp_spec fuel o op toks hc hw

/-- **No crash, every sequence — full strength**: from the object `src_new` / `src_callback_new` returns (any converter
    id, any positive channel count), through every sequence of in-contract calls — `src_process` / `src_callback_read` with
    a valid ratio and any sizes, buffers, `end_of_input`; `src_set_ratio` with any ratio; `src_reset`; `src_error` — for
    **every** oracle: whatever the engine and the callback answer and wherever `resampler_create` fails, no call crashes,
    and the object stays well-formed.  (`no_crash_in_contract` without its hypothesis.) -/
theorem no_crash_every_sequence (fuel id chans : Nat) (fn : Bool) (hch : chans ≠ 0) (ops : List (Op × List Tok))
    (hops : ∀ x ∈ ops, x.1.inContract) :
    runOps fuel (fresh id chans fn) ops ≠ .crash ∧ ∀ o', runOps fuel (fresh id chans fn) ops = .ok o' → Wf o' :=
  (runOps_spec fuel _ (fresh_wf id chans fn hch) ops hops).imp_right fun h o' ho => (h o' ho).1

/-- when moreover no `resampler_create` fails, the converter is never torn down: it keeps its channel count. -/
theorem channels_kept_without_failing_create (fuel id chans : Nat) (fn : Bool) (hch : chans ≠ 0)
    (ops : List (Op × List Tok)) (hops : ∀ x ∈ ops, x.1.inContract ∧ NoFail x.2) (o' : Obj)
    (h : runOps fuel (fresh id chans fn) ops = .ok o') : o'.chans ≠ 0 :=
  ((runOps_spec fuel _ (fresh_wf id chans fn hch) ops fun x hx => (hops x hx).1).2 o' h).2 (fun x hx => (hops x hx).2) hch

/-- a sequence that runs: new converter 4, process (engine created, 100 in, 200 out), reset, set ratio, error. -/
example : runOps 3 (fresh 4 1 false)
    [(.process ⟨0x4000000000000000, 100#64, 300#64, true, false, false⟩, [.c true, .g 200]), (.reset, []),
     (.setRatio 0x3ff0000000000000, [.c true]), (.error, [])] =
    .ok { fresh 4 1 false with ioRatio := 0x3ff0000000000000, inited := true } := by decide +kernel

/-- and one in which `resampler_create` fails: the error is reported, `src_reset` is refused, later calls report the error. -/
example : runOps 3 (fresh 0 1 false)
    [(.process ⟨0x3df0000000000000, 10#64, 10#64, false, false, false⟩, [.c false]), (.reset, []),
     (.process ⟨0x3ff0000000000000, 10#64, 10#64, false, false, false⟩, []), (.read 0x3ff0000000000000 5#64 false, [])] =
    .ok (deadObj .engine) := by decide +kernel

/-- **`src_float_to_short_array`** on every finite operand is the saturating round-half-even reference of the exact
    product `x · 32768`, and `fistp` never raises. -/
theorem float_to_short_is_reference (x : Int) :
    lsrToShort (.fin x) = ((convSample 32767 (.fin (x * 32768))).1, false) := lsrToShort_eq_ref x

/-- **`src_float_to_int_array`** likewise with `2^31`. -/
theorem float_to_int_is_reference (x : Int) :
    lsrToInt (.fin x) = ((convSample 2147483647 (.fin (x * 2147483648))).1, false) := lsrToInt_eq_ref x

/-- hence **round to nearest, ties to even** whenever the scaled value is in range (`unit` = 1 LSB), both helpers. -/
theorem helpers_nearest (x : Int) :
    ((convSample 32767 (.fin (x * 32768))).2 = false →
      2 * ((lsrToShort (.fin x)).1 * (unit : Int) - x * 32768).natAbs ≤ unit ∧
      (2 * ((lsrToShort (.fin x)).1 * (unit : Int) - x * 32768).natAbs = unit → (lsrToShort (.fin x)).1 % 2 = 0)) ∧
    ((convSample 2147483647 (.fin (x * 2147483648))).2 = false →
      2 * ((lsrToInt (.fin x)).1 * (unit : Int) - x * 2147483648).natAbs ≤ unit ∧
      (2 * ((lsrToInt (.fin x)).1 * (unit : Int) - x * 2147483648).natAbs = unit → (lsrToInt (.fin x)).1 % 2 = 0)) := by
  rw [lsrToShort_eq_ref, lsrToInt_eq_ref]
  exact ⟨convSample_nearest 32767 _, convSample_nearest 2147483647 _⟩

example : (convSample 32767 (.fin (unit / 2 * 32768))).2 = false := by decide +kernel

/-- **and saturate**: every operand — finite, infinite, NaN — gives a value inside the integer type's range. -/
theorem helpers_saturate (v : Val) :
    -32768 ≤ (lsrToShort v).1 ∧ (lsrToShort v).1 ≤ 32767 ∧
    -2147483648 ≤ (lsrToInt v).1 ∧ (lsrToInt v).1 ≤ 2147483647 := by
  cases v with
  | fin x =>
    rw [lsrToShort_eq_ref, lsrToInt_eq_ref]
    have a := convSample_range 32767 (by decide) (.fin (x * 32768))
    have b := convSample_range 2147483647 (by decide) (.fin (x * 2147483648))
    simp only at a b ⊢
    omega
  | inf neg => cases neg <;> simp [lsrToShort, lsrToInt]
  | nan => simp [lsrToShort, lsrToInt]

/-- `1.0f` gives 32767 (saturated), `-1.0f` gives -32768 exactly; every float32 pattern is covered by `helpers_saturate`
    through `f32.decode`. -/
example : lsrToShort (f32.decode 0x3f800000) = (32767, false) ∧ lsrToShort (f32.decode 0xbf800000) = (-32768, false) ∧
    lsrToInt (f32.decode 0x3f800000) = (2147483647, false) := by decide +kernel

/-- ±Inf saturate by the comparisons; NaN fails both comparisons, goes through `fistp` and gives the most negative
    value with the x87 invalid flag raised (the helpers do not clear it). -/
theorem helpers_nonfinite :
    lsrToShort (.inf false) = (32767, false) ∧ lsrToShort (.inf true) = (-32768, false) ∧ lsrToShort .nan = (-32768, true) ∧
    lsrToInt (.inf false) = (2147483647, false) ∧ lsrToInt (.inf true) = (-2147483648, false) ∧
    lsrToInt .nan = (-2147483648, true) := ⟨rfl, rfl, rfl, rfl, rfl, rfl⟩

/-- **short → float → short is the identity** for every `short`. -/
theorem short_float_short_exact (v : Int) (h1 : -32768 ≤ v) (h2 : v ≤ 32767) :
    lsrToShort (f32.decode (lsrToFloat 15 v)) = (v, false) := lsr_short_roundtrip v h1 h2

/-- int → float → int is the identity on the integers float32 holds (`|v| < 2^24`). -/
theorem int_float_int_exact (v : Int) (hv : v.natAbs < 2 ^ 24) :
    lsrToInt (f32.decode (lsrToFloat 31 v)) = (v, false) := lsr_int_roundtrip v hv

/-- `src_short_to_float_array` is exact: `v ↦ v / 32768` (in units: `v · 2^(1074-15)`). -/
theorem short_to_float_exact (v : Int) (hv : v.natAbs < 2 ^ 24) :
    f32.decode (lsrToFloat 15 v) = .fin (v * ((2 ^ (U - 15) : Nat) : Int)) := lsrToFloat_exact 15 (by decide) v hv

example : f32.decode (lsrToFloat 15 (-32768)) = .fin (-(unit : Int)) := by decide +kernel

end Soxr.Lsr.C19
