import SoxrModel.Config.Lemmas
import SoxrModel.Config.PlannerLemmas
import SoxrModel.Config.PlannerRat
/-!
# C09 Every configuration is rejected with an error or yields a working resampler

Model: `SoxrModel/Config/Model.lean` — the decision logic of `soxr_create` (`validate`), of the validation block at the
top of `_soxr_init` (`engineValidate`), of the `SOXR_*` overrides (`runtimeNum`, `runtimeFlag`, `applyEnv`) and the error
state machine of a live `soxr_t` (`step`, `run`), on binary64 values as exact dyadics with IEEE comparisons.  Tied to
`/repo` on every run by the generated recipe table / override ranges / literals (`Config/Generated.lean`) and by the
correspondence of `checks/c09.py` (verdict, error string, engine, stored specs of thousands of generated `soxr_create`
calls; every answer of random API call sequences).

What is proved here, for ALL values of every field (NaN, infinities, denormals included) and ALL call sequences:
`accepted → ranges` (no NaN gets through), `ranges → accepted`, the order in which errors are reported, the verdict for
every recipe of the generated table, the clamps of the environment overrides, and that a recorded error is sticky on
every path.  The deviations the pinned tree had (NaN fields, `io_spec.e` ignored, two negative rates, the split/split path
of `soxr_process`, `soxr_engine` after a fatal error) have been repaired in `/repo` (findings F21, F24..F28) and the
model moved with the code; `pre_repair_range_test_passes_nan` keeps the historical witness for the old range tests.
`soxr_set_error` is still modelled as written (`set_error_as_written`).

NOT proved (not provable on this model): `accepted → the planner's plan is well-formed` (floating-point planner); the
check decides `PipeWF` on the exported plan of sampled accepted configurations and runs them under sanitizers instead.
-/
namespace Soxr.Properties.C09
open Soxr.Config Soxr.Config.Dbl

/-- **Accepted ⇒ every validated quantity is inside its range** (engine validation, constant-rate engines). -/
theorem accepted_ranges (r : Dbl) (q : QSpec) (h : engineValidate r q = none) :
    (eq q.precision zero = true ∨ (le c15 q.precision = true ∧ le q.precision c33 = true)) ∧
    (le zero q.phase = true ∧ le q.phase c100 = true) ∧
    (le tbwLo (tbw0 q) = true ∧ le (tbw0 q) tbwHi = true) ∧
    le pbLo q.pb = true ∧ le q.sb sbHi = true ∧
    gt r zero = true ∧ lt r cFactorMax = true :=
  ((engineValidate_none_iff_ranges r q).1 h).2

/-- **No NaN gets through**: none of the four double fields of an accepted quality spec is NaN. -/
theorem accepted_fields_not_nan (r : Dbl) (q : QSpec) (h : engineValidate r q = none) :
    q.precision.isNaN = false ∧ q.phase.isNaN = false ∧ q.pb.isNaN = false ∧ q.sb.isNaN = false := by
  obtain ⟨h1, h2, _, h4, h5, _, _⟩ := accepted_ranges r q h
  refine ⟨?_, (not_nan_of_le _ _ h2.1).2, (not_nan_of_le _ _ h4).2, (not_nan_of_le _ _ h5).1⟩
  rcases h1 with h1 | h1
  · generalize q.precision = p at h1
    cases p <;> first | rfl | cases h1
  · exact (not_nan_of_le _ _ h1.1).2

/-- **Inside every range ⇒ accepted** (the converse; `imagingTest` is the one cross-field condition). -/
theorem ranges_accepted (r : Dbl) (q : QSpec) (himg : imagingTest r q = false)
    (hp : eq q.precision zero = true ∨ (le c15 q.precision = true ∧ le q.precision c33 = true))
    (hph : le zero q.phase = true ∧ le q.phase c100 = true)
    (htbw : le tbwLo (tbw0 q) = true ∧ le (tbw0 q) tbwHi = true)
    (hpb : le pbLo q.pb = true) (hsb : le q.sb sbHi = true)
    (hr0 : gt r zero = true) (hr1 : lt r cFactorMax = true) : engineValidate r q = none :=
  (engineValidate_none_iff_ranges r q).2 ⟨himg, hp, hph, htbw, hpb, hsb, hr0, hr1⟩

/-- the HQ recipe, used by the examples -/
def hq : QSpec := qualitySpec 4 0

example : engineValidate (div (ofNat 44100) (ofNat 48000)) hq = none := by decide +kernel
example : engineValidate (ofNat 2) { hq with precision := ofNat 14 } = some .precision := by decide +kernel
example : engineValidate (ofNat 2) { hq with phase := ofNat 101 } = some .phase := by decide +kernel

/-- a NaN in any of the four fields is rejected, each with the message of the first test it fails -/
example : engineValidate (ofNat 2) { hq with precision := .nan } = some .precision ∧
    engineValidate (ofNat 2) { hq with phase := .nan } = some .phase ∧
    engineValidate (ofNat 2) { hq with pb := .nan } = some .transitionBandwidth ∧
    engineValidate (ofNat 2) { hq with sb := .nan } = some .transitionBandwidth := by decide +kernel

/-- **Historical witness (finding F26, repaired):** the expression the range tests had before — `lo > x || x > hi` —
    lets every NaN through, whatever the bounds. -/
theorem pre_repair_range_test_passes_nan (lo hi : Dbl) : preRepairRangeTest lo hi .nan = false := by
  cases lo <;> cases hi <;> rfl

/-- error precedence inside `_soxr_init`: each message is returned exactly when its test is the first that fires -/
theorem engine_error_precedence (r : Dbl) (q : QSpec) :
    (engineValidate r q = some .imaging ↔ imagingTest r q = true) ∧
    (engineValidate r q = some .transitionBandwidth ↔ imagingTest r q = false ∧ tbwTest q = true) ∧
    (engineValidate r q = some .transitionBand ↔ imagingTest r q = false ∧ tbwTest q = false ∧ bandTest q = true) ∧
    (engineValidate r q = some .precision ↔
      imagingTest r q = false ∧ tbwTest q = false ∧ bandTest q = false ∧ precisionTest q = true) ∧
    (engineValidate r q = some .factorNotPositive ↔
      imagingTest r q = false ∧ tbwTest q = false ∧ bandTest q = false ∧ precisionTest q = false ∧ notPositiveTest r = true) ∧
    (engineValidate r q = some .factorTooLarge ↔
      imagingTest r q = false ∧ tbwTest q = false ∧ bandTest q = false ∧ precisionTest q = false ∧ notPositiveTest r = false ∧
      tooLargeTest r = true) ∧
    (engineValidate r q = some .phase ↔
      imagingTest r q = false ∧ tbwTest q = false ∧ bandTest q = false ∧ precisionTest q = false ∧ notPositiveTest r = false ∧
      tooLargeTest r = false ∧ phaseTest q = true) := by
  -- the tests are made in this order: once one fires, the later ones do not matter
  simp only [engineValidate, ite_some_eq_some, reduceCtorEq, and_false, and_true, or_false, false_or, and_self]

/-- **What an accepted `soxr_create` guarantees**: no constructor error, datatype codes below 8, the engine is the one
    `selectEngine` names, the stored specs are the rescaled quality spec and the overridden runtime spec; when the
    resamplers were built the ratio is positive and passed the engine's validation (constant-rate engines: every range
    test; variable-rate engine: ratio below 2^30). -/
theorem create_accepted (c : Config) (a : Accepted) (h : validate c = .ok a) :
    qErr c = false ∧ ioErr c = false ∧ a.engine = selectEngine (effectiveQ c) c.env c.cpu ∧ a.q = effectiveQ c ∧
    a.rt = effectiveRt c ∧ a.ioRatio = ioRatioOf c.irate c.orate ∧
    (a.ready = true → c.channels ≠ 0 ∧ gt a.ioRatio zero = true ∧ (a.engine ≠ .vr32 → engineValidate a.ioRatio a.q = none) ∧
      (a.engine = .vr32 → lt a.ioRatio cVrFactorMax = true)) ∧
    (a.ready = false → c.channels = 0 ∨ eq a.ioRatio zero = true) := by
  unfold validate at h
  cases hq : qErr c <;> rw [hq] at h
  case true => cases h
  cases hio : ioErr c <;> rw [hio] at h
  case true => cases h
  simp only [Bool.false_eq_true, if_false] at h
  by_cases hc : c.channels ≠ 0 ∧ ne (ioRatioOf c.irate c.orate) zero = true
  · rw [if_pos hc] at h
    cases hpos : gt (ioRatioOf c.irate c.orate) zero <;> rw [hpos] at h
    case false => cases h
    cases hcr : engineCreate (selectEngine (effectiveQ c) c.env c.cpu) (ioRatioOf c.irate c.orate) (effectiveQ c) <;>
      rw [hcr] at h
    case some => cases h
    cases h
    exact ⟨rfl, rfl, rfl, rfl, rfl, rfl, fun _ => ⟨hc.1, hpos, (engineCreate_none_iff _ _ _).1 hcr⟩, fun hf => (by cases hf)⟩
  · rw [if_neg hc] at h
    cases h
    refine ⟨rfl, rfl, rfl, rfl, rfl, rfl, fun hf => (by cases hf), fun _ => ?_⟩
    by_cases h0 : c.channels = 0
    · exact Or.inl h0
    · exact Or.inr (by simpa [ne, h0] using hc)

/-- **Accepted and built on a constant-rate engine ⇒ all ranges hold** (corollary of the two theorems above). -/
theorem create_accepted_ranges (c : Config) (a : Accepted) (h : validate c = .ok a) (hr : a.ready = true) (he : a.engine ≠ .vr32) :
    (eq a.q.precision zero = true ∨ (le c15 a.q.precision = true ∧ le a.q.precision c33 = true)) ∧
    (le zero a.q.phase = true ∧ le a.q.phase c100 = true) ∧
    gt a.ioRatio zero = true ∧ lt a.ioRatio cFactorMax = true := by
  obtain ⟨_, _, _, _, _, _, h7, _⟩ := create_accepted c a h
  obtain ⟨g1, g2, _, _, _, g6, g7⟩ := accepted_ranges _ _ ((h7 hr).2.2.1 he)
  exact ⟨g1, g2, g6, g7⟩

/-- **Order of the errors of `soxr_create`**: quality-spec error first, then datatypes, then the ratio test of
    `soxr_set_io_ratio`, then the engine's own validation. -/
theorem create_error_precedence (c : Config) :
    (qErr c = true → validate c = .error .invalidQuality) ∧
    (qErr c = false → ioErr c = true → validate c = .error .invalidDatatype) ∧
    (qErr c = false → ioErr c = false → c.channels ≠ 0 → ne (ioRatioOf c.irate c.orate) zero = true →
      gt (ioRatioOf c.irate c.orate) zero = false → validate c = .error .ratioOutOfRange) ∧
    (∀ e, qErr c = false → ioErr c = false → c.channels ≠ 0 → gt (ioRatioOf c.irate c.orate) zero = true →
      engineCreate (selectEngine (effectiveQ c) c.env c.cpu) (ioRatioOf c.irate c.orate) (effectiveQ c) = some e →
      validate c = .error e) := by
  refine ⟨?_, ?_, ?_, ?_⟩
  · intro h; simp [validate, h]
  · intro h1 h2; simp [validate, h1, h2]
  · intro h1 h2 h3 h4 h5; simp [validate, h1, h2, h3, h4, h5]
  · intro e h1 h2 h3 h4 h5
    have hne := ne_zero_of_gt_zero _ h4
    simp [validate, h1, h2, h3, hne, h4, h5]

/-- **Datatype codes outside 0..7 are rejected** (`(itype | otype) >= 8` is the same as one of them being `>= 8`). -/
theorem bad_datatype_rejected (c : Config) (io : IoSpec) (hio : c.io = some io) (hq : qErr c = false)
    (h : 8 ≤ io.itype ∨ 8 ≤ io.otype) : validate c = .error .invalidDatatype := by
  refine (create_error_precedence c).2.1 hq ?_
  have : 8 ≤ io.itype ||| io.otype := by
    rcases h with h | h
    · exact Nat.le_trans h Nat.left_le_or
    · exact Nat.le_trans h Nat.right_le_or
  simp [ioErr, hio, this]

theorem good_datatype_passes (c : Config) (io : IoSpec) (hio : c.io = some io) (he : io.e = false) (hi : io.itype < 8)
    (ho : io.otype < 8) : ioErr c = false := by
  have : io.itype ||| io.otype < 2 ^ 3 := Nat.or_lt_two_pow hi ho
  simp [ioErr, hio, he]; omega

/-- **The constructor's own error flag is honoured**: `soxr_io_spec` marks invalid datatypes in `.e` (and leaves both
    codes 0); `soxr_create` rejects such a spec with the datatype message (finding F21, repaired). -/
theorem io_constructor_error_rejected (c : Config) (io : IoSpec) (hio : c.io = some io) (hq : qErr c = false)
    (he : io.e = true) : validate c = .error .invalidDatatype :=
  (create_error_precedence c).2.1 hq (by simp [ioErr, hio, he])

/-- **One rate given, the other zero ⇒ rejected** (when channels are given): the ratio is set to −1. -/
theorem one_rate_zero_rejected (c : Config) (hq : qErr c = false) (hio : ioErr c = false) (hc : c.channels ≠ 0)
    (h : (ne c.irate zero = true ∧ ne c.orate zero = false) ∨ (ne c.irate zero = false ∧ ne c.orate zero = true)) :
    validate c = .error .ratioOutOfRange := by
  obtain ⟨h1, h2⟩ := unusable_ratio _ (Or.inl (ioRatioOf_one_zero _ _ h))
  exact (create_error_precedence c).2.2.1 hq hio hc h1 h2

/-- **A negative rate ⇒ rejected**, whatever the other rate is (each rate, not only the quotient, must be positive;
    finding F27, repaired). -/
theorem negative_rate_rejected (c : Config) (hq : qErr c = false) (hio : ioErr c = false) (hc : c.channels ≠ 0)
    (h : lt c.irate zero = true ∨ lt c.orate zero = true) : validate c = .error .ratioOutOfRange := by
  obtain ⟨h1, h2⟩ := unusable_ratio _ (Or.inl (ioRatioOf_of_neg _ _ h))
  exact (create_error_precedence c).2.2.1 hq hio hc h1 h2

/-- …and without channels nothing is built from it either: a negative rate never yields a built resampler. -/
theorem negative_rate_never_ready (c : Config) (a : Accepted) (h : lt c.irate zero = true ∨ lt c.orate zero = true)
    (hv : validate c = .ok a) : a.ready = false := by
  obtain ⟨_, _, _, _, _, hr, h7, _⟩ := create_accepted c a hv
  cases hrd : a.ready
  · rfl
  · have hpos := (h7 hrd).2.1
    rw [hr, (unusable_ratio _ (Or.inl (ioRatioOf_of_neg _ _ h))).2] at hpos
    cases hpos

example : isReady (validate { irate := .fin true 44100 0, orate := .fin true 48000 0, channels := 1, q := none, io := none,
                              rt := none, env := {}, cpu := ⟨true, true⟩ }) = false := by decide +kernel

/-- **A NaN rate ⇒ rejected** (the quotient is NaN, which is not `> 0`). -/
theorem nan_rate_rejected (c : Config) (hq : qErr c = false) (hio : ioErr c = false) (hc : c.channels ≠ 0)
    (h : c.irate = .nan ∨ c.orate = .nan) : validate c = .error .ratioOutOfRange := by
  obtain ⟨h1, h2⟩ := unusable_ratio _ (ioRatioOf_nan _ _ h)
  exact (create_error_precedence c).2.2.1 hq hio hc h1 h2

/-- the fields the validation looks at do not depend on the flag word or on recipe bits beyond `0x7f` -/
theorem qualitySpec_fields (recipe flags : Nat) :
    (qualitySpec recipe flags).precision = (qualitySpec (recipe % 128) 0).precision ∧
    (qualitySpec recipe flags).phase = (qualitySpec (recipe % 128) 0).phase ∧
    (qualitySpec recipe flags).pb = (qualitySpec (recipe % 128) 0).pb ∧
    (qualitySpec recipe flags).sb = (qualitySpec (recipe % 128) 0).sb ∧
    (qualitySpec recipe flags).e = (qualitySpec (recipe % 128) 0).e := by
  unfold qualitySpec
  rw [Nat.mod_mod]
  cases Gen.recipeTable.find? (fun r => r.1 == recipe % 128) with
  | none => exact ⟨rfl, rfl, rfl, rfl, rfl⟩
  | some x => obtain ⟨_, _, _, _, _, _, _, _⟩ := x; exact ⟨rfl, rfl, rfl, rfl, rfl⟩

/-- the tests that do not involve the ratio, on the stored (rescaled) spec -/
def staticTests (q : QSpec) : Bool :=
  tbwTest (rescale q) || bandTest (rescale q) || precisionTest (rescale q) || phaseTest (rescale q) ||
  gt (sub (rescale q).sb one) (sub one (div (rescale q).pb tolerance))

theorem staticTests_congr (q q' : QSpec) (h1 : q.precision = q'.precision) (h2 : q.phase = q'.phase) (h3 : q.pb = q'.pb)
    (h4 : q.sb = q'.sb) : staticTests q = staticTests q' := by
  simp only [staticTests, tbwTest, bandTest, precisionTest, phaseTest, tbw0, rescale, h1, h2, h3, h4]

/-- decided over the generated table: all 128 recipe words -/
theorem recipe_table_passes : ∀ k < 128, (qualitySpec k 0).e = false → staticTests (qualitySpec k 0) = false := by
  have rows : ∀ row ∈ Gen.recipeTable, (rowSpec row 0).e = false → staticTests (rowSpec row 0) = false := by
    decide +kernel
  intro k _
  rw [qualitySpec_eq_row]
  exact rows _ (List.getElem_mem _)

/-- **Every recipe is accepted**: for every recipe word and every flag word for which `soxr_quality_spec` reports no
    error, every channel count ≥ 1, every valid io spec and every ratio in `(0, 2^31 - 1)` (`(0, 2^30)` when the flag word
    asks for the variable-rate engine), `soxr_create` builds a resampler. -/
theorem every_recipe_accepted (c : Config) (recipe flags : Nat) (hq : c.q = some (qualitySpec recipe flags))
    (he : (qualitySpec recipe flags).e = false) (hio : ioErr c = false) (hc : c.channels ≠ 0)
    (hr0 : gt (ioRatioOf c.irate c.orate) zero = true) (hr1 : lt (ioRatioOf c.irate c.orate) cFactorMax = true)
    (hvr : hasFlag (qualitySpec recipe flags).flags Gen.flagVR = true → lt (ioRatioOf c.irate c.orate) cVrFactorMax = true) :
    ∃ a, validate c = .ok a ∧ a.ready = true := by
  obtain ⟨f1, f2, f3, f4, f5⟩ := qualitySpec_fields recipe flags
  have hst : staticTests (qualitySpec recipe flags) = false := by
    rw [staticTests_congr _ _ f1 f2 f3 f4]
    exact recipe_table_passes (recipe % 128) (Nat.mod_lt _ (by decide)) (by rw [← f5]; exact he)
  simp only [staticTests, Bool.or_eq_false_iff] at hst
  obtain ⟨⟨⟨⟨t1, t2⟩, t3⟩, t4⟩, t5⟩ := hst
  have hqe : qErr c = false := by simp only [qErr, hq, he]
  have heff : effectiveQ c = rescale (qualitySpec recipe flags) := by simp only [effectiveQ, hq]
  have hcr : engineCreate (selectEngine (effectiveQ c) c.env c.cpu) (ioRatioOf c.irate c.orate) (effectiveQ c) = none := by
    rw [engineCreate_none_iff, selectEngine_eq_vr32_iff, heff]
    refine ⟨fun _ => ?_, hvr⟩
    exact (engineValidate_none_iff _ _).2 ⟨by rw [imagingTest, t5, Bool.and_false], t1, t2, t3,
      (notPositiveTest_false_iff _).2 hr0, (tooLargeTest_false_iff _).2 hr1, t4⟩
  simp [validate, hqe, hio, hc, ne_zero_of_gt_zero _ hr0, hr0, hcr]

example : isReady (validate
    { irate := ofNat 44100, orate := ofNat 48000, channels := 2, q := some (qualitySpec 6 8), io := none,
      rt := none, env := {}, cpu := ⟨true, true⟩ }) = true := by decide +kernel

/-- **`runtime_num` clamps**: the field keeps the caller's value or takes a value inside `[min, max]`. -/
theorem runtimeNum_clamp (env : Option String) (lo hi : Int) (field : Nat) (hlo : 0 ≤ lo) :
    runtimeNum env lo hi field = field ∨
    (lo ≤ (runtimeNum env lo hi field : Int) ∧ (runtimeNum env lo hi field : Int) ≤ hi) := by
  unfold runtimeNum
  cases env with
  | none => exact Or.inl rfl
  | some e =>
    simp only []
    split
    · next h => right; rw [Int.toNat_of_nonneg (by omega)]; exact h
    · exact Or.inl rfl

/-- the ranges measured on the real `soxr_create` (generated) are the documented ones -/
theorem env_ranges : numRange 0 = (8, 15) ∧ numRange 1 = (8, 20) ∧ numRange 2 = (100, 800) ∧ numRange 3 = (0, 64) ∧
    flagField 0 = (2, 0) ∧ flagField 1 = (1, 2) ∧ flagField 2 = (1, 3) := by decide

/-- **A runtime spec inside the documented ranges stays inside them under every environment.** -/
theorem applyEnv_in_range (env : Env) (r : RtSpec) (h1 : 8 ≤ r.minDft ∧ r.minDft ≤ 15) (h2 : 8 ≤ r.largeDft ∧ r.largeDft ≤ 20) :
    (8 ≤ (applyEnv env r).minDft ∧ (applyEnv env r).minDft ≤ 15) ∧
    (8 ≤ (applyEnv env r).largeDft ∧ (applyEnv env r).largeDft ≤ 20) := by
  obtain ⟨e0, e1, _⟩ := env_ranges
  have k0 := runtimeNum_clamp env.minDft 8 15 r.minDft (by decide)
  have k1 := runtimeNum_clamp env.largeDft 8 20 r.largeDft (by decide)
  simp only [applyEnv, e0, e1]
  omega

/-- **`runtime_flag`**: the flag word is unchanged, or exactly the addressed bit field is replaced by a value that fits. -/
theorem runtimeFlag_cases (env : Option String) (nBits shift flags : Nat) :
    runtimeFlag env nBits shift flags = flags ∨
    ∃ v, v ≤ 2 ^ nBits - 1 ∧
      runtimeFlag env nBits shift flags = (flags ^^^ (flags &&& ((2 ^ nBits - 1) <<< shift))) ||| (v <<< shift) := by
  unfold runtimeFlag
  cases env with
  | none => exact Or.inl rfl
  | some e =>
    simp only []
    split
    · next h => exact Or.inr ⟨(atoi e).toNat, by omega, rfl⟩
    · exact Or.inl rfl

example : runtimeNum (some "12") 8 15 10 = 12 ∧ runtimeNum (some "16") 8 15 10 = 10 ∧ runtimeNum (some " +9x") 8 15 10 = 9 ∧
    runtimeNum (some "4294967306") 8 15 11 = 10 ∧ runtimeFlag (some "3") 2 0 8 = 11 := by decide +kernel

/-- a live resampler with the error `e` recorded, interleaved on at least one side -/
def exErr : Api :=
  { error := some .nullOutput, channels := 1, ioRatio := ofNat 2, built := true, wiped := false, q := hq, itype := 0, otype := 0,
    engine := .cr32s }

/-- **Sticky error.**  Once `p->error` is set, for EVERY later call sequence that contains neither `soxr_clear` nor
    `soxr_set_error` — on every path, whatever the layouts: the error is still recorded at the end, every `soxr_process`
    returns it with `odone = 0`, every `soxr_output` and `soxr_delay` returns 0, `soxr_set_io_ratio` and `soxr_error`
    return it. -/
theorem sticky_error (s : Api) (e : ErrorKind) (ops : List Op) (h : s.error = some e) (hq : ∀ op ∈ ops, op.quiet = true) :
    (run s ops).1.error = some e ∧ Answers (stickyRet e) ops (run s ops).2 := by
  induction ops generalizing s with
  | nil => exact ⟨h, Answers.nil⟩
  | cons op ops ih =>
    obtain ⟨h1, h3⟩ := step_sticky s e op h (hq op (List.mem_cons_self ..))
    obtain ⟨g1, g2⟩ := ih (step s op).1 h1 (fun o ho => hq o (List.mem_cons_of_mem _ ho))
    exact ⟨g1, Answers.cons h3 g2⟩

example : (run exErr [.process false false 10 .quiet, .output false 5 .quiet, .delay, .setIoRatio (ofNat 2), .error]).2 =
    [.frames .zero (some .nullOutput), .count .zero, .count .zero, .status (some .nullOutput), .status (some .nullOutput)] := by
  decide +kernel

/-- the split-input/split-output path too (finding F25, repaired: that branch of `soxr_process` used not to test `p->error`) -/
example : (step { exErr with itype := 4, otype := 4 } (.process false false 100 .quiet)).2 = .frames .zero (some .nullOutput) := by
  decide +kernel

/-- **How errors get recorded**: a NULL output buffer with `olen > 0`, or a failing input function, on a healthy
    resampler records the error at once and (NULL buffer) delivers nothing. -/
theorem error_recorded (s : Api) (olen : Nat) (fn : FnObs) (h : s.error = none) (hb : s.built = true) (hl : 0 < olen) :
    (output s true olen fn).1.error = some .nullOutput ∧ (output s true olen fn).2 = .count .zero ∧
    (s.otype &&& Gen.splitBit = 0 → (output s false olen .failed).1.error = some .inputFailure) := by
  refine ⟨by simp [output, h, hb, hl], by simp [output, h, hb, hl], ?_⟩
  intro hsplit
  simp [output, h, hb]

/-- **`soxr_clear` resets the error**: afterwards no error is recorded, unless re-creating the engine (recipes with
    RESET_ON_CLEAR) fails — then that engine error is recorded — or the resampler had been torn down by a fatal error
    (control block zeroed): then `soxr_clear` refuses, returns the error and leaves everything as it is. -/
theorem clear_resets_error (s : Api) :
    (clear s).1.error = none ∨ (∃ e, (clear s).1.error = some e ∧ engineCreate s.engine s.ioRatio s.q = some e) ∨
    (s.wiped = true ∧ s.error ≠ none ∧ clear s = (s, .status s.error)) := by
  unfold clear
  cases hw : (s.error.isSome && s.wiped)
  case true =>
    simp only [Bool.and_eq_true, Option.isSome_iff_ne_none] at hw
    exact Or.inr (Or.inr ⟨hw.2, hw.1, rfl⟩)
  cases hasFlag s.q.flags Gen.flagResetOnClear
  case false => exact Or.inl rfl
  by_cases hc : s.channels ≠ 0 ∧ ne s.ioRatio zero = true
  · simp only [Bool.false_eq_true, if_false, if_true, if_pos hc]
    -- the engine is created again: `soxr_set_io_ratio` on a state without error
    rcases setIoRatio_state { s with error := none, built := false } s.ioRatio with h | h | ⟨e, he, h⟩
    · exact Or.inl (by rw [h])
    · exact Or.inl (by rw [h])
    · exact Or.inr (Or.inl ⟨e, by rw [h]; rfl, he⟩)
  · exact Or.inl (by simp only [Bool.false_eq_true, if_false, if_true, if_neg hc])

/-- **`soxr_set_error` as written** (`if (!p->error && p->error != error) return p->error;`): it can never record an
    error on a healthy resampler, and it overwrites — or clears — an error that is already recorded. -/
theorem set_error_as_written (s : Api) (x : Option ErrorKind) :
    (s.error = none → (setError s x).1.error = none) ∧ (∀ e, s.error = some e → (setError s x).1.error = x) := by
  constructor
  · intro h
    unfold setError
    split
    · exact h
    · next hn => cases x <;> simp_all
  · intro e h
    unfold setError
    split
    · next hn => rw [h] at hn; cases hn.1
    · rfl

/-! ## the stage planner's rate decomposition (`planRates`, Config/Planner.lean)

The model mirrors the stage-determination loop of `_soxr_init` statement by statement and is compared with the real
planner's exported plan on every run (checks/c09.py, stage `planner`).  Proved here for ALL ratios (any binary64 value)
and ALL knob settings: the loops end, and the integer skeleton of the plan is bounded. -/

/-- **The `while (!n++)` loop of the planner always ends**: from any state three passes suffice (each repetition uses up
    one of the two reasons to repeat — splitting off a post stage, bumping `mode` from 0), and more fuel changes nothing. -/
theorem planner_loop_total (k : Knobs) (st : PSt) :
    (planLoop k 3 st).again = false ∧ ∀ g, planLoop k (3 + g) st = planLoop k 3 st :=
  planLoop_stable k 3 st (Nat.lt_succ_of_le (measure_le st))

/-- **`planRates` is total**: for every ratio, every knob setting, the plan it returns is one the loop arrived at by itself
    (never a state cut off by the pass limit of the executable model). -/
theorem planner_terminates (r : Dbl) (k : Knobs) (g : Bool) : (planRates r k g).finished = true := by
  obtain ⟨_, _, _, e⟩ := planRates_eq r k g
  rw [e]
  show (!(planState r k).again) = true
  rw [planState_finished]; rfl

/-- **The halving loop `for (i = (int)(.5 * arbM); i >>= 1; …)` ends** within 31 rounds for every non-negative `int`: the 64
    rounds the model allows are never used up, so its result does not depend on that limit.  (`i` is negative only for
    factors `>= 2^32`, which `_soxr_init` rejects before — finding F4; there the C loop itself never ends.) -/
theorem planner_halving_total (i : Int) (a : Dbl) (s : Nat) (ok : Bool) (h0 : 0 ≤ i) (h1 : i < 2 ^ 31) (g : Nat) :
    halve (64 + g) i a s ok = halve 64 i a s ok ∧ (halve 64 i a s ok).2.1 ≤ s + 31 := by
  have e31 : halve 64 i a s ok = halve 31 i a s ok := halve_fuel 31 33 i a s ok h0 h1
  refine ⟨?_, ?_⟩
  · have : 64 + g = 31 + (33 + g) := by omega
    rw [this, halve_fuel 31 (33 + g) i a s ok h0 h1, e31]
  · rw [e31]; exact halve_shr_le 31 i a s ok

/-- what a denominator search returns is a denominator within `maxL` whose multiple of `frac` passed the planner's own
    test `fabs(try / (frac * i) - 1) <= epsilon`, with `try = (int)(frac * i + .5)` -/
theorem planner_search_spec (frac eps : Dbl) (maxL i : Nat) (t : Int) (h : search frac eps maxL 1 = some (i, t)) :
    1 ≤ i ∧ i ≤ maxL ∧ t = (add (mul frac (ofNat i)) half).truncInt ∧
    le (abs (sub (div (ofInt t) (mul frac (ofNat i))) one)) eps = true := by
  obtain ⟨h1, h2, h3, h4⟩ := search_range frac eps maxL 1 i t h
  exact ⟨h1, by omega, h3, h4⟩

/-- **Bounds of every plan** (the integer skeleton the well-formedness clauses rest on): the denominator of the
    arbitrary-ratio stage is at most `max(2048, maxL)`; `postM` is 1 or 2; `postL` is 1 or a power of two from 4 to 256;
    `preL >= 1`; at most 65 half-band stages (31 for accepted ratios, `planner_halving_total`); at most `shr + 3` stages. -/
theorem planner_bounds (r : Dbl) (k : Knobs) (g : Bool) :
    (planRates r k g).arbL ≤ lMax k ∧
    ((planRates r k g).postM = 1 ∨ (planRates r k g).postM = 2) ∧
    (∃ b, b ≤ 8 ∧ b ≠ 1 ∧ (planRates r k g).postL = 2 ^ b) ∧
    1 ≤ (planRates r k g).preL ∧
    (planRates r k g).shr ≤ 65 ∧
    (planRates r k g).numStages ≤ (planRates r k g).shr + 3 := by
  have hn : (planRates r k g).numStages ≤ (planRates r k g).shr + 3 :=
    show _ ≤ _ + 1 + 1 + 1 from Nat.add_le_add (Nat.add_le_add (Nat.add_le_add_left (b2n_le _) _) (b2n_le _)) (b2n_le _)
  obtain ⟨l, c, hl, e⟩ := planRates_eq r k g
  have h := planState_inv r k
  obtain ⟨b, h1, h2, h3⟩ := h.postL
  rw [e] at hn ⊢
  refine ⟨?_, h.postM, ⟨b, h1, h3, h2⟩, h.preL, h.shr, hn⟩
  rcases hl with rfl | rfl
  · exact h.arbL
  · exact Nat.zero_le _

example : (planRates (div (ofNat 44100) (ofNat 48000)) { bitsZero := false, mode0 := 3, interpolator := -1, iOpt := true, kb := 400, sizeofReal := 4 } false).arbL = 80 ∧
    (planRates (div (ofNat 44100) (ofNat 48000)) { bitsZero := false, mode0 := 3, interpolator := -1, iOpt := true, kb := 400, sizeofReal := 4 } false).arbM = ofInt 147 ∧
    (planRates (div (ofNat 44100) (ofNat 48000)) { bitsZero := false, mode0 := 3, interpolator := -1, iOpt := true, kb := 400, sizeofReal := 4 } false).preL = 2 := by
  decide +kernel

/-! ### the product of the stage rates (exact rationals)

`ratioOf st = 2^shr · max(preM,1)/preL · arbM/arbL · postM/postL` is the factor a planner state stands for (`toRat` reads a
binary64 as the rational it is).  One pass of the loop from a fresh state (`arbL = 1`, true of every pass: `PInv.fresh`)
that does not split off a post stage: -/

/-- **`rate_product`, no snap**: when the search finds no denominator (an irrational ratio — the stage then runs on a
    rounded clock step —, or no fraction at all) the product of the stage rates is EXACTLY the value the pass started
    from (over the post stage already split off), through the small-integer shortcut and the mode retry too. -/
theorem rate_product_unsnapped (k : Knobs) (st : PSt) (hfin : isFin st.arbM) (hfresh : st.arbL = 1)
    (hnone : (core k st).found = none) (hp : ¬ takesPost k st (core k st) = true)
    (hsm : takesSmallInt k (core k st) = true →
      1 ≤ (core k st).M ∧
      (((if (core k st).postM == 2 then scale2 (core k st).a4 1 else (core k st).a4).truncNat : ℕ) : ℚ) =
        toRat (core k st).a4 * (core k st).postM) :
    ratioOf (iter k st) = toRat st.arbM / st.postL := by
  rw [iter_ratio k st (Nat.le_of_eq hfresh.symm) hp hsm, base_ratio k st hfresh, hnone]
  show toRat (core k st).a3 * _ / _ = _
  rw [core_rates k st hfin]

/-- **`rate_product`, snapped**: when the search finds `(i, try)` the product of the stage rates is the starting value times
    `snapped / arbM` EXACTLY, `arbM` being the value that entered the snap and `snapped` the rational `(int)arbM + try/i`
    (or `ceil(arbM)`) that replaces it; `planner_search_spec` is the planner's own bound on the two
    (`fabs(try / (frac * i) - 1) <= epsilon` in binary64). -/
theorem rate_product_snapped (k : Knobs) (st : PSt) (hfin : isFin st.arbM) (hfresh : st.arbL = 1) (i : Nat) (t : Int)
    (hsome : (core k st).found = some (i, t)) (hp : ¬ takesPost k st (core k st) = true)
    (hsm : takesSmallInt k (core k st) = true →
      1 ≤ (core k st).M ∧
      (((if (core k st).postM == 2 then scale2 (core k st).a4 1 else (core k st).a4).truncNat : ℕ) : ℚ) =
        toRat (core k st).a4 * (core k st).postM) :
    ratioOf (iter k st) * toRat (core k st).a3 = toRat st.arbM / st.postL * snappedValue (core k st).a3 i t := by
  rw [iter_ratio k st (Nat.le_of_eq hfresh.symm) hp hsm, base_ratio k st hfresh, hsome, ← core_rates k st hfin]
  show snappedValue (core k st).a3 i t * _ / _ * _ = _
  ring

/-- the value that enters the snap is the pass's starting value times `preL / (2^shr · postM)`, exactly -/
theorem rate_before_snap (k : Knobs) (st : PSt) (hfin : isFin st.arbM) :
    toRat (core k st).a3 * (core k st).postM * (2 : ℚ) ^ (core k st).shr = toRat st.arbM * (core k st).preL :=
  core_a3 k st hfin

/-- non-vacuity: 44100 → 48000 at HQ snaps to 147/80 after the pre stage doubles the rate (`arbM = 147`, `arbL = 80`,
    search result `(80, 67)`: 1 + 67/80) -/
example : (core { bitsZero := false, mode0 := 3, interpolator := -1, iOpt := true, kb := 400, sizeofReal := 4 }
    { arbM := div (ofNat 44100) (ofNat 48000), mode := 3 }).found = some (80, 67) := by decide +kernel

/-- What is NOT proved: a bound in real numbers on `|snapped - arbM|` (and on the rounding of `arbM * postL / arbL` when a post
    stage is split off).  It follows from the planner's test only through an error analysis of the three rounded binary64
    operations in it (`frac * i`, `try / d`, `… - 1`); the model states the test in binary64 (`planner_search_spec`), and
    the driver decides, in exact integers, `|product - io_ratio| <= 2^-32 · max(1, io_ratio)` on every plan of the sweep
    (`RatePlan.productNear`) — the hypothesis Properties/C04 `drift_bound` takes. -/
def Goal_snap_bound : Prop :=
  ∀ (k : Knobs) (st : PSt) (i : Nat) (t : Int), isFin st.arbM → (core k st).found = some (i, t) →
    |snappedValue (core k st).a3 i t - toRat (core k st).a3| * 2 ^ 32 ≤ 1

end Soxr.Properties.C09
