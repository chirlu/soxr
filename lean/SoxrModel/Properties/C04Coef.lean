import SoxrModel.Cr.CoefTableLemmas
import SoxrModel.Cr.TimeLemmas
/-!
# The coefficient table of the poly-phase stages (C04: where the stage's response is centred; C12: the gain reaches
# every tap; C07: table writes and kernel reads stay inside the allocation)

Model: `Cr/CoefTable.lean` — `prepare_poly_fir_coefs` (cr.c) statement by statement over any sample type, the index macros
`coef` / `coef4` (cr.h).  Tie: `harness/cr/coeftab.c` runs the REAL `prepare_poly_fir_coefs` (through the real macros, all
four engine layouts) on marker prototypes; the compiled driver runs `prep` — the model of the loop — and `spec` — the
entries `E` of the theorems, looked up by a search for the index triple that owns a position (no theorem states
`prep = spec`; agreement of the two is part of what the check compares) — on the same prototypes (`cr.coeftab`); every
entry of the whole allocation is compared as an integer (checks/coeftab.py, run by C04 and C12).

`Cr/Time.lean` takes the position of the poly-phase kernel's centre ("tap `i`, phase `j` holds prototype coefficient
`i·P + j − 1` …") from a reading of the source.  Here it is a theorem about the model of that source:

* `table_is_closed_form` — for every prototype, multiplier, `num_coefs`, `num_phases`, order ≤ 3, both layouts: the loop
  leaves at `(phase j, coefficient number ci, tap num_coefs4 − 1 − i)` the `ci`-th polynomial coefficient of the four
  scaled prototype taps around position `i·P + j − 1`, zeros elsewhere;
* `order0_entry` — for a plain (order 0) table that is `multiplier × coefs[i·P + j − 1]`;
* `gain_reaches_every_tap` — every value the table is built from is `multiplier ×` a prototype tap (or zero), the first
  one — seeded before the loop — included (the clause the F-SG4 defect broke);
* `table_mirror` — for a symmetric prototype (every `lsx_design_lpf` result is; `Phase` area, `makeLpf_symmetric`) the
  taps at equal distances before and after prototype index `(nc·P − 2)/2` are equal;
* `centre_is_where_the_time_map_puts_it` — the coefficient that multiplies FIFO position `div + k` at phase `φ` sits
  `k − (φ/P + num_coefs4 − 1 − nc/2)` input periods from that centre: exactly the constant `tstage` uses for a clocked
  poly-phase stage;
* `table_writes_in_bounds` / `kernel_reads_in_bounds` (C07) — every index `STORE` writes and every index a kernel forms
  from `phase < num_phases`, `tap < num_coefs4`, coefficient number ≤ order is below `length`.
-/
namespace Soxr.Properties.C04Coef
open Soxr.Cr Soxr.Cr.CoefTable

variable {α : Type}

/-- **the loop computes the closed form** (any sample type, any prototype and multiplier, both layouts, order ≤ 3) -/
theorem table_is_closed_form (p : Par α) (hord : p.ord ≤ 3) :
    (∀ i j ci, i < p.nc → j < p.P → ci ≤ p.ord → prep p (p.idx j ci (p.len - 1 - i)) = (E p i j).get ci) ∧
    (∀ x, (∀ i j ci, i < p.nc → j < p.P → ci ≤ p.ord → x ≠ p.idx j ci (p.len - 1 - i)) → prep p x = p.o.zero) :=
  prep_spec p hord

/-- order 0 (`poly-fir0.h`, exact rational ratios): the entry is the scaled prototype tap itself -/
theorem order0_entry (p : Par α) (h0 : p.ord = 0) (i j : Nat) (hi : i < p.nc) (hj : j < p.P) :
    prep p (p.idx j 0 (p.len - 1 - i)) = F p ((i : Int) * p.P + j - 1) := by
  rw [(prep_spec p (by omega)).1 i j 0 hi hj (by omega)]
  unfold E comp; rw [h0]; rfl

/-- every value that enters the table is zero or `multiplier ×` a prototype tap -/
theorem gain_reaches_every_tap (p : Par α) (q : Int) :
    F p q = p.o.zero ∨ ∃ k, F p q = p.o.mul (p.coefs k) p.mult := by
  by_cases h1 : q = (p.nc : Int) * p.P - 2
  · exact Or.inr ⟨0, h1 ▸ F_last p⟩
  by_cases h2 : q < 0
  · exact Or.inl (F_neg p h2 h1)
  by_cases h3 : q < (p.nc : Int) * p.P - 2
  · exact Or.inr ⟨_, F_inside p (Int.not_lt.mp h2) h3⟩
  · exact Or.inl (F_ge p (by omega))

/-- with a prototype whose two end taps agree (a symmetric one) the loop's view of the prototype is simply
    `multiplier × coefs[q]` on the whole support — also at the last position, whose value is seeded before the loop -/
theorem scaled_prototype (p : Par α) (hends : p.coefs 0 = p.coefs (p.nc * p.P - 2)) (q : Nat) (hq : q + 2 ≤ p.nc * p.P) :
    F p q = p.o.mul (p.coefs q) p.mult := by
  have hc : ((p.nc * p.P : Nat) : Int) = (p.nc : Int) * p.P := Int.natCast_mul _ _
  by_cases h1 : (q : Int) = (p.nc : Int) * p.P - 2
  · rw [h1, F_last, hends, show q = p.nc * p.P - 2 by omega]
  · rw [F_inside p (Int.natCast_nonneg q) (by omega)]; rfl

/-- symmetric prototype: `coefs[a] = coefs[b]` whenever `a + b = nc·P − 2` -/
def Symmetric (p : Par α) : Prop := ∀ a b : Nat, a + b + 2 = p.nc * p.P → p.coefs a = p.coefs b

theorem F_mirror (p : Par α) (hs : Symmetric p) (h2 : 2 ≤ p.nc * p.P) (q q' : Int) (h : q + q' = (p.nc : Int) * p.P - 2) :
    F p q = F p q' := by
  have hc : ((p.nc * p.P : Nat) : Int) = (p.nc : Int) * p.P := Int.natCast_mul _ _
  -- both outside (one below 0, its mirror image beyond the last position), or both inside
  have out : ∀ r r' : Int, r + r' = (p.nc : Int) * p.P - 2 → r < 0 → F p r = F p r' := fun r r' hr hneg => by
    rw [F_ge p (q := r') (by omega), F_neg p hneg (by omega)]
  by_cases hneg : q < 0
  · exact out q q' h hneg
  by_cases hneg' : q' < 0
  · exact (out q' q (by omega) hneg').symm
  obtain ⟨a, rfl⟩ := Int.eq_ofNat_of_zero_le (Int.not_lt.mp hneg)
  obtain ⟨b, rfl⟩ := Int.eq_ofNat_of_zero_le (Int.not_lt.mp hneg')
  have hends := hs 0 (p.nc * p.P - 2) (by omega)
  rw [scaled_prototype p hends a (by omega), scaled_prototype p hends b (by omega), hs a b (by omega)]

/-- **mirror symmetry of the plain table**: two entries whose prototype positions are equally far on either side of
    the centre `(nc·P − 2)/2` are equal -/
theorem table_mirror (p : Par α) (h0 : p.ord = 0) (hs : Symmetric p) (i j i' j' : Nat) (hi : i < p.nc) (hj : j < p.P)
    (hi' : i' < p.nc) (hj' : j' < p.P) (h2 : 2 ≤ p.nc * p.P) (h : i * p.P + j + (i' * p.P + j') = p.nc * p.P) :
    prep p (p.idx j 0 (p.len - 1 - i)) = prep p (p.idx j' 0 (p.len - 1 - i')) := by
  rw [order0_entry p h0 i j hi hj, order0_entry p h0 i' j' hi' hj']
  apply F_mirror p hs h2
  have : ((i * p.P + j + (i' * p.P + j') : Nat) : Int) = ((p.nc * p.P : Nat) : Int) := by rw [h]
  push_cast at this; omega

/-- twice the distance, in units of `1/P` input periods, from the prototype's centre `(nc·P − 2)/2` to the coefficient
    that multiplies window position `k` at phase `φ` (tap `i = num_coefs4 − 1 − k`) -/
def twiceOffset (p : Par α) (k φ : Nat) : Int := 2 * (((p.len : Int) - 1 - k) * p.P + φ - 1) - ((p.nc : Int) * p.P - 2)

/-- **the centre of the stage's response is where `tstage` puts it.**  For a clocked poly-phase stage of the plan
    (`den = P` phases, `taps = num_coefs4`, `nc = num_coefs`, clock `φ`, preload `pl`) the coefficient multiplying FIFO
    position `k` lies `k − (b + pl)` input periods after the prototype's centre, `b` being the offset `tstage` computes;
    so with a mirror-symmetric table (`table_mirror`) the response is symmetric about the instant the time map assigns. -/
theorem centre_is_where_the_time_map_puts_it (p : Par α) (x : LStage) (k : Nat) (hk : x.cfg.kind = .clocked)
    (hc : x.lat.cubic = false) (hden : x.cfg.den = p.P) (hP : 0 < p.P) (htaps : x.cfg.taps = p.len) (hnc : x.lat.nc = p.nc) :
    ((k : ℚ) - ((tstage x).b + (x.s0.occ : ℚ))) * (2 * p.P) = -(twiceOffset p k x.s0.clk : ℚ) := by
  unfold tstage twiceOffset
  simp only [hk, hc, hden, htaps, hnc]
  have : (p.P : ℚ) ≠ 0 := by exact_mod_cast (Nat.pos_iff_ne_zero.mp hP)
  push_cast
  field_simp
  ring

/-! ### the gain multiplies the whole table (C12: "gain applied exactly once"), exact arithmetic over any commutative ring -/

/-- the loop's arithmetic in a commutative ring; `.5` and `1/6.` are whatever elements `h`, `s` (no division needed) -/
def ringOps (R : Type) [CommRing R] (h s : R) : Ops R :=
  { zero := 0, add := (· + ·), sub := (· - ·), mul := (· * ·), half := h, sixth := s, four := 4 }

theorem comp_scales {R : Type} [CommRing R] (h s m a b c d : R) (ord ci : Nat) (hord : ord ≤ 3) :
    (comp (ringOps R h s) ord (m * a) (m * b) (m * c) (m * d)).get ci = m * (comp (ringOps R h s) ord a b c d).get ci := by
  -- scaling commutes with `+`, `−` and with multiplication by the constants `.5`, `1/6.`, `4`
  have key : comp (ringOps R h s) ord (m * a) (m * b) (m * c) (m * d) =
      ⟨m * (comp (ringOps R h s) ord a b c d).f0, m * (comp (ringOps R h s) ord a b c d).b,
       m * (comp (ringOps R h s) ord a b c d).c, m * (comp (ringOps R h s) ord a b c d).d⟩ := by
    rcases ord with _ | _ | _ | _ | n <;> simp only [comp, ringOps, mul_sub, mul_add, mul_zero, mul_left_comm m]
  rw [key]
  rcases ci with _ | _ | _ | _ <;> rfl

/-- a call of `prepare_poly_fir_coefs` in a commutative ring with multiplier `m` -/
def rpar {R : Type} [CommRing R] (h s : R) (coefs : Nat → R) (nc P ord : Nat) (simd : Bool) (m : R) : Par R :=
  { o := ringOps R h s, coefs := coefs, mult := m, nc := nc, P := P, ord := ord, simd := simd }

theorem F_scales {R : Type} [CommRing R] (h s m : R) (coefs : Nat → R) (nc P ord : Nat) (simd : Bool) (q : Int) :
    F (rpar h s coefs nc P ord simd m) q = m * F (rpar h s coefs nc P ord simd 1) q := by
  unfold F
  simp only [rpar, ringOps, mul_one, mul_comm m, ite_mul, zero_mul]
  rfl

theorem E_scales {R : Type} [CommRing R] (h s m : R) (coefs : Nat → R) (nc P ord : Nat) (simd : Bool) (hord : ord ≤ 3) (i j ci : Nat) :
    (E (rpar h s coefs nc P ord simd m) i j).get ci = m * (E (rpar h s coefs nc P ord simd 1) i j).get ci := by
  unfold E
  simp only [F_scales h s m coefs nc P ord simd]
  exact comp_scales h s m _ _ _ _ ord ci hord

/-- **The gain multiplies every cell of the table, once**: the table built with multiplier `m` is `m ×` the table built with
    multiplier 1, cell by cell over the whole allocation — every order, both layouts, any prototype (exact arithmetic in any
    commutative ring; with `dot_scaled_table` of `Properties/C12Fir` a gain folded into the table is that gain on the output). -/
theorem gain_scales_whole_table {R : Type} [CommRing R] (h s m : R) (coefs : Nat → R) (nc P ord : Nat) (simd : Bool) (hord : ord ≤ 3)
    (x : Nat) : prep (rpar h s coefs nc P ord simd m) x = m * prep (rpar h s coefs nc P ord simd 1) x := by
  obtain ⟨A1, A2⟩ := prep_spec (rpar h s coefs nc P ord simd m) hord
  obtain ⟨B1, B2⟩ := prep_spec (rpar h s coefs nc P ord simd 1) hord
  -- the cells written do not depend on the multiplier
  by_cases hx : ∃ i j ci, i < nc ∧ j < P ∧ ci ≤ ord ∧
      x = (rpar h s coefs nc P ord simd 1).idx j ci ((rpar h s coefs nc P ord simd 1).len - 1 - i)
  · obtain ⟨i, j, ci, hi, hj, hci, rfl⟩ := hx
    rw [B1 i j ci hi hj hci]
    exact (A1 i j ci hi hj hci).trans (E_scales h s m coefs nc P ord simd hord i j ci)
  · have hne := fun i j ci hi hj hci he => hx ⟨i, j, ci, hi, hj, hci, he⟩
    rw [A2 x hne, B2 x hne]
    exact (mul_zero m).symm

/-- **Continuity of the interpolated table across phases.**  The kernels of `poly-fir.h` evaluate `f0 + x·(b + x·(c + x·d))` with
    `x ∈ [0, 1)` the fraction of a phase.  At `x = 1` that polynomial is `f0 + b + c + d`, and for every order 1, 2, 3 the loop's
    coefficients make it exactly `f1`, the `f0` of the next prototype position: between two neighbouring phases the interpolated
    coefficient moves from one table value to the next with no jump, whatever `.5` and `1/6.` are (any commutative ring). -/
theorem interp_reaches_next_value {R : Type} [CommRing R] (h s fm1 f0 f1 f2 : R) (ord : Nat) (h1 : 1 ≤ ord) (h3 : ord ≤ 3) :
    let e := comp (ringOps R h s) ord fm1 f0 f1 f2
    e.f0 + e.b + e.c + e.d = f1 := by
  rcases (by omega : ord = 1 ∨ ord = 2 ∨ ord = 3) with rfl | rfl | rfl <;> simp only [comp, ringOps] <;> ring

/-- … and at `x = 0` it is the table value itself, for every order -/
theorem interp_starts_at_value {R : Type} [CommRing R] (h s fm1 f0 f1 f2 : R) (ord : Nat) :
    (comp (ringOps R h s) ord fm1 f0 f1 f2).f0 = f0 := by
  unfold comp; split <;> rfl

/-- the SIMD-less interpolated kernels of `poly-fir.h` index the table as `coefs[(ORDER+1)*(N*phase+j) + (ORDER-ci)]`: the same cell
    as the macro `coef` that `prepare_poly_fir_coefs` stores through -/
theorem kernel_index_form (ord N phase ci j : Nat) : (ord + 1) * (N * phase + j) + (ord - ci) = coefIdx ord N phase ci j := by
  unfold coefIdx; ring

/-- C07: every index `STORE` writes lies inside the `length` items `prepare_poly_fir_coefs` allocates -/
theorem table_writes_in_bounds (p : Par α) (i j ci : Nat) (hi : i < p.nc) (hj : j < p.P) (hci : ci ≤ p.ord) :
    p.idx j ci (p.len - 1 - i) < p.length := by
  have := len_ge p
  exact p.idx_lt hj hci (by omega)

/-- C07: every index a kernel forms from a phase `< num_phases`, a tap `< num_coefs4` and a coefficient number `≤ order`
    lies inside the allocation -/
theorem kernel_reads_in_bounds (p : Par α) (φ k ci : Nat) (hφ : φ < p.P) (hk : k < p.len) (hci : ci ≤ p.ord) :
    p.idx φ ci k < p.length := p.idx_lt hφ hci hk

/-- … and two different triples never share a cell -/
theorem table_cells_distinct (p : Par α) {j ci k j' ci' k' : Nat} (hci : ci ≤ p.ord) (hci' : ci' ≤ p.ord) (hk : k < p.len)
    (hk' : k' < p.len) (h : p.idx j ci k = p.idx j' ci' k') : j = j' ∧ ci = ci' ∧ k = k' := p.idx_inj hci hci' hk hk' h

/-! ### non-vacuity: a concrete call on integers (3 taps × 2 phases, order 0, SIMD layout, gain 5) -/

def intOps : Ops Int := { zero := 0, add := (· + ·), sub := (· - ·), mul := (· * ·), half := 1, sixth := 1, four := 4 }
def exPar : Par Int := { o := intOps, coefs := fun k => [1, 4, 9, 4, 1].getD k 0, mult := 5, nc := 3, P := 2, ord := 0, simd := true }

example : exPar.ord ≤ 3 ∧ exPar.len = 4 ∧ exPar.length = 8 := by decide
example : Symmetric exPar := by
  intro a b h
  have e : exPar.nc * exPar.P = 6 := rfl
  rw [e] at h
  have hb : b = 4 - a := by omega
  subst hb
  rcases (by omega : a = 0 ∨ a = 1 ∨ a = 2 ∨ a = 3 ∨ a = 4) with rfl | rfl | rfl | rfl | rfl <;> rfl
/-- the whole table of the example: one padding cell, then in tap order phase 0 holds `coefs[3], coefs[1], 0`, phase 1 `coefs[4], coefs[2], coefs[0]`, times 5 (`num_coefs4 = 4`) -/
example : (List.range 8).map (prep exPar) = [0, 20, 20, 0, 0, 5, 45, 5] := by decide

end Soxr.Properties.C04Coef
