import SoxrModel.Config.Lemmas
import SoxrModel.Properties.C09
import SoxrModel.Properties.C03
import SoxrModel.Properties.C15
/-!
# C13 Engine equivalence: which engine is selected, and what cannot depend on it

* **Selection** (`soxr_create`, modelled by `selectEngine`; tied to `/repo` by the correspondence of `checks/c13.py` over the
  flag / precision / `SOXR_USE_SIMD*` space and by the generated engine-name table): the decision table is complete and
  exclusive; `SOXR_VR` ⇒ `vr32`; otherwise precision `> 20` or `SOXR_DOUBLE_PRECISION` ⇒ a double-precision engine, else a
  single-precision one; the SIMD variant by `SOXR_USE_SIMD`, then `SOXR_USE_SIMD32/64`, then CPU detection; `soxr_engine()`
  names the selected engine for the whole life of the resampler.
* **Length and delay do not depend on the engine.**  The four constant-rate engines produce *different* plans (7-tap
  half-band, unrolled `U100` poly-phase kernels, `num_coefs4`), but `total_exact` (C03) and the delay relation (C15)
  hold for ANY well-formed plan; so for two engines given the same stream the totals agree, and at every point of the
  stream "frames delivered + delay" agrees — stated explicitly below for two arbitrary well-formed pipelines.
* **Clip behaviour**: the conversion kernels are chosen by precision class, not by SIMD variant, so given equal samples the
  two engines of a class clip identically (`conversion_kernels_shared`).
* Agreement of the *sample values* within the configured precision is a numeric fact about floating-point kernels:
  not provable here; `Goal_samples_agree` states it and the check's falsifier decides it on the real code.
-/
namespace Soxr.Properties.C13
open Soxr Soxr.Cr Soxr.Config Soxr.Config.Dbl

/-- **The decision table of `soxr_create`, complete and exclusive.** -/
theorem select_engine (q : QSpec) (env : Env) (cpu : Cpu) :
    (hasFlag q.flags Gen.flagVR = true → selectEngine q env cpu = .vr32) ∧
    (hasFlag q.flags Gen.flagVR = false → le q.precision c20 = true → hasFlag q.flags Gen.flagDoublePrecision = false →
      selectEngine q env cpu = if useSimd env.simd env.simd32 cpu.simd32 then .cr32s else .cr32) ∧
    (hasFlag q.flags Gen.flagVR = false → (le q.precision c20 = false ∨ hasFlag q.flags Gen.flagDoublePrecision = true) →
      selectEngine q env cpu = if useSimd env.simd env.simd64 cpu.simd64 then .cr64s else .cr64) := by
  refine ⟨?_, ?_, ?_⟩
  · intro h; simp [selectEngine, h]
  · intro h1 h2 h3; simp [selectEngine, h1, h2, h3]
  · intro h1 h2
    rcases h2 with h2 | h2 <;> simp [selectEngine, h1, h2]

/-- **Precision above 20 bits, or `SOXR_DOUBLE_PRECISION`, selects a double-precision engine** (unless `SOXR_VR`). -/
theorem double_precision_engine (q : QSpec) (env : Env) (cpu : Cpu) (hv : hasFlag q.flags Gen.flagVR = false)
    (h : gt q.precision c20 = true ∨ hasFlag q.flags Gen.flagDoublePrecision = true) :
    (selectEngine q env cpu).isDouble = true := by
  -- `precision > 20` excludes `precision <= 20`
  have h' := h.imp_left fun h => Bool.eq_false_iff.2 fun hl => by
    rw [gt, lt_false_of_le _ _ hl] at h; cases h
  rw [(select_engine q env cpu).2.2 hv h']
  split <;> rfl

/-- …and only then: a single-precision constant-rate engine is selected exactly for precision `<= 20` without the flag. -/
theorem single_precision_engine_iff (q : QSpec) (env : Env) (cpu : Cpu) :
    ((selectEngine q env cpu = .cr32 ∨ selectEngine q env cpu = .cr32s) ↔
      (hasFlag q.flags Gen.flagVR = false ∧ le q.precision c20 = true ∧ hasFlag q.flags Gen.flagDoublePrecision = false)) := by
  unfold selectEngine
  cases hasFlag q.flags Gen.flagVR
  case true => simp
  cases le q.precision c20
  case false => cases useSimd env.simd env.simd64 cpu.simd64 <;> simp
  cases hasFlag q.flags Gen.flagDoublePrecision
  · cases useSimd env.simd env.simd32 cpu.simd32 <;> simp
  · cases useSimd env.simd env.simd64 cpu.simd64 <;> simp

/-- **`SOXR_VR` selects the variable-rate engine**, whatever else is set. -/
theorem vr_engine_iff (q : QSpec) (env : Env) (cpu : Cpu) :
    selectEngine q env cpu = .vr32 ↔ hasFlag q.flags Gen.flagVR = true :=
  selectEngine_eq_vr32_iff q env cpu

/-- **SIMD or portable**: `SOXR_USE_SIMD` decides if set; else the variable of the precision class; else the CPU. -/
theorem simd_choice (all specific : Option String) (cpu : Bool) :
    (∀ e, all = some e → useSimd all specific cpu = (atoi e != 0)) ∧
    (∀ e, all = none → specific = some e → useSimd all specific cpu = (atoi e != 0)) ∧
    (all = none → specific = none → useSimd all specific cpu = cpu) := by
  refine ⟨?_, ?_, ?_⟩
  · intro e h; subst h; rfl
  · intro e h1 h2; subst h1; subst h2; rfl
  · intro h1 h2; subst h1; subst h2; rfl

theorem simd_variant_iff (q : QSpec) (env : Env) (cpu : Cpu) :
    (selectEngine q env cpu).isSimd = true ↔
      (hasFlag q.flags Gen.flagVR = false ∧
       ((le q.precision c20 && !hasFlag q.flags Gen.flagDoublePrecision) = true → useSimd env.simd env.simd32 cpu.simd32 = true) ∧
       ((le q.precision c20 && !hasFlag q.flags Gen.flagDoublePrecision) = false → useSimd env.simd env.simd64 cpu.simd64 = true)) := by
  unfold selectEngine
  cases hasFlag q.flags Gen.flagVR
  case true => simp [Engine.isSimd]
  cases (le q.precision c20 && !hasFlag q.flags Gen.flagDoublePrecision)
  · cases useSimd env.simd env.simd64 cpu.simd64 <;> simp [Engine.isSimd]
  · cases useSimd env.simd env.simd32 cpu.simd32 <;> simp [Engine.isSimd]

example : selectEngine (qualitySpec 4 0) {} ⟨true, true⟩ = .cr32s ∧ selectEngine (qualitySpec 6 0) {} ⟨true, false⟩ = .cr64 ∧
    selectEngine (qualitySpec 4 16) { simd := some "0" } ⟨true, true⟩ = .cr64 ∧
    selectEngine (qualitySpec 6 32) { simd64 := some "1" } ⟨false, false⟩ = .vr32 ∧
    selectEngine { (qualitySpec 4 0) with precision := .nan } {} ⟨true, true⟩ = .cr64s := by decide +kernel

/-- **`soxr_engine()` names** (generated from the five control blocks' `id()` entries): each engine has its own name. -/
theorem engine_names :
    Engine.cr32.name = "cr32" ∧ Engine.cr32s.name = "cr32s" ∧ Engine.cr64.name = "cr64" ∧ Engine.cr64s.name = "cr64s" ∧
    Engine.vr32.name = "vr32" := by decide

theorem engine_name_injective (a b : Engine) (h : a.name = b.name) : a = b := by
  revert h
  cases a <;> cases b <;> decide

/-- **`soxr_engine()` names the engine in use, for every call history.**  The engine installed by `soxr_create` is the one
    `selectEngine` picks, no API call changes it, and `soxr_engine()` answers its name — or, once `fatal_error` has zeroed
    the control block (a deferred initialisation failed), the generated placeholder name ("none"; finding F28, repaired). -/
theorem engine_reported (c : Config) (a : Accepted) (h : validate c = .ok a) (ops : List Op) :
    let s := (run (Api.ofAccepted c a) ops).1
    s.engine = selectEngine (effectiveQ c) c.env c.cpu ∧
    (step s .engine).2 = .name (if s.wiped then Gen.engineNameWiped else (selectEngine (effectiveQ c) c.env c.cpu).name) := by
  intro s
  have he : s.engine = selectEngine (effectiveQ c) c.env c.cpu := by
    show (run (Api.ofAccepted c a) ops).1.engine = _
    rw [run_engine]
    exact (C09.create_accepted c a h).2.2.1
  refine ⟨he, ?_⟩
  cases hw : s.wiped <;> simp [step, hw, he]

/-- the placeholder is none of the engine names -/
theorem wiped_name_is_no_engine (e : Engine) : e.name ≠ Gen.engineNameWiped := by
  cases e <;> decide

/-- **Equal output length.**  Two well-formed pipelines — the plans of two different engines for the same job — are
    streamed through arbitrary (different) call histories that accept the same `N` frames, then drained by arbitrary
    request sequences that ask for enough: both deliver exactly `owed N` frames in total.  (`owed` is the engine's
    `(int64)(N / io_ratio + .5)`, computed by code all engines share.) -/
theorem engines_equal_total (num : Num) (a b : Cr.Api) (ea eb : Eng) (opsA opsB : List StreamOp) (N DA DB : Nat)
    (reqsA reqsB : List Nat) (hfa : C03.Fresh a.eng) (hfb : C03.Fresh b.eng)
    (hsa : Streams a.eng opsA N DA ea) (hsb : Streams b.eng opsB N DB eb)
    (hea : DA ≤ num.owed N) (heb : DB ≤ num.owed N)
    (odsA odsB : List Nat) (a2 b2 : Cr.Api)
    (hca : Calls num { a with eng := ea.flush num.owed, flushing := true } reqsA odsA a2)
    (hcb : Calls num { b with eng := eb.flush num.owed, flushing := true } reqsB odsB b2)
    (hra : num.owed N ≤ DA + reqsA.sum) (hrb : num.owed N ≤ DB + reqsB.sum) :
    DA + odsA.sum = DB + odsB.sum ∧ DA + odsA.sum = num.owed N := by
  have h1 := (C03.total_exact num a ea opsA N DA reqsA hfa hsa hea odsA a2 hca).trans (Nat.min_eq_left hra)
  have h2 := (C03.total_exact num b eb opsB N DB reqsB hfb hsb heb odsB b2 hcb).trans (Nat.min_eq_left hrb)
  exact ⟨h1.trans h2.symm, h1⟩

/-- **Equal delay.**  At any point of the stream, after arbitrary histories that accepted the same `F` frames, "frames
    delivered + reported delay" is the same for both pipelines (numerators over the common denominator `p`, `io_ratio =
    p/q`): the engines may have delivered different amounts so far, their delays differ by exactly that amount. -/
theorem engines_equal_delay (ea ea' eb eb' : Eng) (opsA opsB : List StreamOp) (F DA DB p q : Nat)
    (hfa : C03.Fresh ea) (hfb : C03.Fresh eb) (hsa : Streams ea opsA F DA ea') (hsb : Streams eb opsB F DB eb') :
    C15.delayNum ea' p q + (DA : Int) * p = C15.delayNum eb' p q + (DB : Int) * p := by
  obtain ⟨a1, a2, _⟩ := C03.streaming_counts ea ea' opsA F DA hfa hsa
  obtain ⟨b1, b2, _⟩ := C03.streaming_counts eb eb' opsB F DB hfb hsb
  unfold C15.delayNum
  rw [a1, a2, b1, b2]
  omega

/-- …and both satisfy the same delay relation (C15): what is still to come is the same function of what was accepted. -/
theorem engines_same_delay_relation (ea ea' eb eb' : Eng) (opsA opsB : List StreamOp) (F DA DB rem p q : Nat) (hp : 0 < p)
    (hfa : C03.Fresh ea) (hfb : C03.Fresh eb) (hsa : Streams ea opsA F DA ea') (hsb : Streams eb opsB F DB eb') :
    (DA : Int) + C15.roundDiv (C15.delayNum ea' p q + (rem : Int) * q) p =
    (DB : Int) + C15.roundDiv (C15.delayNum eb' p q + (rem : Int) * q) p := by
  rw [C15.delay_relation_streaming ea ea' opsA F DA rem p q hp hfa.sin hfa.sout hfa.str hsa,
      C15.delay_relation_streaming eb eb' opsB F DB rem p q hp hfb.sin hfb.sout hfb.str hsb]

/-- non-vacuity: the plans of two different engines for 44100 → 48000 (HQ): the SIMD plan of C03's example and a portable
    plan whose poly-phase stage has 11 taps instead of 16 — both well-formed, both fresh -/
def exPortable : Eng :=
  { stages := [ { cfg := { kind := .clocked, prePost := 10, den := 80, step := 147, poly0 := true, taps := 11 }, st := { occ := 5, clk := 40, isz := 8192 } },
                { cfg := { kind := .dft, L := 2, dftLen := 2048, numTaps := 409, M := 1 }, st := { occ := 102, clk := 0, isz := 1024 } } ] }

example : C03.Fresh exPortable ∧ C03.Fresh C03.exEng ∧ exPortable ≠ C03.exEng :=
  ⟨⟨rfl, rfl, ⟨rfl, by decide, by decide⟩⟩, ⟨rfl, rfl, ⟨rfl, by decide, by decide⟩⟩,
   fun h => by have := congrArg (fun e : Eng => e.stages.head?.map (·.cfg.taps)) h; revert this; decide⟩

/-- **The conversion (and clip-counting) kernels depend on the precision class only**: the portable and the SIMD engine
    of a class are given the same `interleave` / `deinterleave` functions by `soxr_create`, so equal samples are
    converted, clipped and counted identically. -/
theorem conversion_kernels_shared :
    Engine.cr32.floatKernels = Engine.cr32s.floatKernels ∧ Engine.cr64.floatKernels = Engine.cr64s.floatKernels ∧
    (∀ e : Engine, e.floatKernels = !e.isDouble) := ⟨rfl, rfl, fun _ => rfl⟩

/-- What is NOT proved: the two engines' sample values agree within the configured precision (a numeric statement about
    floating-point kernels and two FFT back-ends).  The check's falsifier decides it on the real code: same job under
    `SOXR_USE_SIMD* = 0 / 1`, steady-state in-band signals, residual after per-tone gain `<= 2^(1-bits)`. -/
def Goal_samples_agree (out : Engine → (Nat → Int) → Nat → Int) (inBand : (Nat → Int) → Prop) (steady : Nat → Prop) : Prop :=
  -- `out e x k`: sample `k` of engine `e`'s output stream for the input stream `x`, in units of `1/scale` of full scale
  ∀ (bits scale : Nat) (x : Nat → Int), inBand x → ∀ k, steady k →
    (out .cr32 x k - out .cr32s x k).natAbs * 2 ^ bits ≤ 2 * scale ∧
    (out .cr64 x k - out .cr64s x k).natAbs * 2 ^ bits ≤ 2 * scale

end Soxr.Properties.C13
