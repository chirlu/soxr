import SoxrModel.Cr.Linear
import SoxrModel.Cr.Shift
import SoxrModel.Cr.Schedule
/-!
# C12 (engine half): superposition and homogeneity for the engine model itself

`Properties/C12.lean` proves linearity for abstract pipelines of ring-linear kernels.  Here the same two laws are
proved for the **engine model of C05** (`Cr/DataPipe.lean`: the real control flow — FIFOs, preloads, block-clocked
dft stages, `stage_process`, any schedule of calls), whose control is the count model the correspondence ties to
`/repo`: if every kernel is additive (resp. homogeneous) in its window, then in the states reached by ANY runs over
inputs `x`, `y` and `x + y` that have produced equally many frames, the stream for the sum is the sum of the streams,
sample by sample (resp. for `a·x`).  That the compiled floating-point kernels are such maps up to rounding stays a
measured fact (`checks/c12.py`).
-/
namespace Soxr.Properties.C12Engine
open Soxr Soxr.Cr

variable {α : Type}

/-- `fresh_runs_streaming` with the canonical stream named -/
theorem streaming_state (K : Kern α) (z : α) (owed : Nat → Nat) (plan : Plan) (hwf : PlanWF plan) (ops : List (DOp α)) (F D : List α)
    (e : DEng α) (r : DRuns K z owed (DEng.fresh z plan) ops F D e) (hf : e.fl = false) :
    ∃ src, PInv K z plan e.stages F src ∧ D ++ e.out = src :=
  ⟨_, fresh_runs_streaming hwf r hf, rfl⟩

/-- **Superposition, any schedules.**  Three runs of a freshly initialised engine of the same plan, streaming (no
    end-of-input yet) the inputs `x`, `y` and `x + y` with ANY call schedules; if what each has delivered plus what waits in
    its output FIFO is equally long, the third stream is the sample-wise sum of the other two. -/
theorem superposition_runs [Add α] (K : Kern α) (hK : KAdd K) (z : α) (hz : z + z = z) (owed : Nat → Nat) (plan : Plan)
    (hwf : PlanWF plan) (ops₁ ops₂ ops₃ : List (DOp α)) (x y D₁ D₂ D₃ : List α) (e₁ e₂ e₃ : DEng α) (hl : x.length = y.length)
    (r₁ : DRuns K z owed (DEng.fresh z plan) ops₁ x D₁ e₁) (r₂ : DRuns K z owed (DEng.fresh z plan) ops₂ y D₂ e₂)
    (r₃ : DRuns K z owed (DEng.fresh z plan) ops₃ (ladd x y) D₃ e₃)
    (f₁ : e₁.fl = false) (f₂ : e₂.fl = false) (f₃ : e₃.fl = false)
    (l₁ : (D₁ ++ e₁.out).length = (D₃ ++ e₃.out).length) (l₂ : (D₂ ++ e₂.out).length = (D₃ ++ e₃.out).length) :
    D₃ ++ e₃.out = ladd (D₁ ++ e₁.out) (D₂ ++ e₂.out) :=
  engine_superposition K hK z hz plan _ _ _ x y _ _ _ hl (fresh_runs_streaming hwf r₁ f₁) (fresh_runs_streaming hwf r₂ f₂)
    (fresh_runs_streaming hwf r₃ f₃) l₁ l₂

/-- **Homogeneity, any schedules** (the output scales in proportion to a gain applied to the input). -/
theorem homogeneity_runs [Mul α] (K : Kern α) (hK : KSmul K) (z a : α) (hz : a * z = z) (owed : Nat → Nat) (plan : Plan)
    (hwf : PlanWF plan) (ops₁ ops₂ : List (DOp α)) (x D₁ D₂ : List α) (e₁ e₂ : DEng α)
    (r₁ : DRuns K z owed (DEng.fresh z plan) ops₁ x D₁ e₁) (r₂ : DRuns K z owed (DEng.fresh z plan) ops₂ (lsmul a x) D₂ e₂)
    (f₁ : e₁.fl = false) (f₂ : e₂.fl = false) (l : (D₁ ++ e₁.out).length = (D₂ ++ e₂.out).length) :
    D₂ ++ e₂.out = lsmul a (D₁ ++ e₁.out) :=
  engine_homogeneity K hK z a hz plan _ _ x _ _ (fresh_runs_streaming hwf r₁ f₁) (fresh_runs_streaming hwf r₂ f₂) l

/-- every state a run reaches: what it has delivered plus what waits in its output FIFO is a canonical stream of what
    it accepted followed by end-of-input padding -/
theorem run_state (K : Kern α) (z : α) (owed : Nat → Nat) (plan : Plan) (hwf : PlanWF plan) (ops : List (DOp α)) (F D : List α)
    (e : DEng α) (r : DRuns K z owed (DEng.fresh z plan) ops F D e) :
    ∃ k src, CInv K z plan (F ++ List.replicate k z) src ∧ D ++ e.out = src := by
  obtain ⟨pad, src, ⟨⟨k, rfl⟩, _⟩, hp, hsrc⟩ := fresh_runs_einv hwf r
  exact ⟨k, src, hp.toCInv, hsrc⟩

/-- **Shift covariance at the implementation period, any schedules, any kernels.**  `planShift` (the executable the
    driver runs on every exported plan; it reports only what `chain` accepts) says `(d, d_out, hor)` for the plan.  Two
    runs of the freshly initialised engine, with ANY call schedules, ended or not: one over `x`, one over `x` behind
    ANY `d` frames.  Beyond output frame `hor` the second output stream is the first delayed by exactly `d_out` frames
    (the two are prefix-comparable there: they agree as far as both have got).  No linearity of the kernels is used:
    a kernel is a function of stage configuration, phase tags and window, and the same tags meet the same windows. -/
theorem shift_covariance_runs (K : Kern α) (z : α) (owed : Nat → Nat) (plan : Plan) (hwf : PlanWF plan) (bound d dout hor : Nat)
    (hp : planShift bound plan = some (d, dout, hor))
    (ops₁ ops₂ : List (DOp α)) (x pfx D₁ D₂ : List α) (e₁ e₂ : DEng α) (hl : pfx.length = d)
    (r₁ : DRuns K z owed (DEng.fresh z plan) ops₁ x D₁ e₁) (r₂ : DRuns K z owed (DEng.fresh z plan) ops₂ (pfx ++ x) D₂ e₂) :
    Comparable ((D₁ ++ e₁.out).drop hor) ((D₂ ++ e₂.out).drop (hor + dout)) := by
  obtain ⟨k1, s1, c1, q1⟩ := run_state K z owed plan hwf ops₁ x D₁ e₁ r₁
  obtain ⟨k2, s2, c2, q2⟩ := run_state K z owed plan hwf ops₂ (pfx ++ x) D₂ e₂ r₂
  rw [q1, q2]
  refine planShift_sound K z bound plan d dout hor hp _ _ s1 s2 ?_ c1 c2
  have e : (pfx ++ x ++ List.replicate k2 z).drop d = x ++ List.replicate k2 z := by
    rw [List.append_assoc, ← hl, List.drop_left]
  rw [e]
  exact comparable_append_left x (replicate_comparable z k1 k2)

/-- equally long streams beyond the horizon are equal there, sample by sample -/
theorem shift_covariance_runs_eq (K : Kern α) (z : α) (owed : Nat → Nat) (plan : Plan) (hwf : PlanWF plan) (bound d dout hor : Nat)
    (hp : planShift bound plan = some (d, dout, hor))
    (ops₁ ops₂ : List (DOp α)) (x pfx D₁ D₂ : List α) (e₁ e₂ : DEng α) (hl : pfx.length = d)
    (r₁ : DRuns K z owed (DEng.fresh z plan) ops₁ x D₁ e₁) (r₂ : DRuns K z owed (DEng.fresh z plan) ops₂ (pfx ++ x) D₂ e₂)
    (hlen : (D₂ ++ e₂.out).length = (D₁ ++ e₁.out).length + dout) :
    (D₁ ++ e₁.out).drop hor = (D₂ ++ e₂.out).drop (hor + dout) := by
  apply (shift_covariance_runs K z owed plan hwf bound d dout hor hp ops₁ ops₂ x pfx D₁ D₂ e₁ e₂ hl r₁ r₂).eq_of_length
  simp only [List.length_drop]; omega

/-! ## non-vacuity: the window-sum kernel over the integers is additive and homogeneous -/

def sumK : Kern Int := { eval := fun _ _ _ _ w => w.sum }

theorem sum_ladd : ∀ (w1 w2 : List Int), w1.length = w2.length → (ladd w1 w2).sum = w1.sum + w2.sum := by
  intro w1
  induction w1 with
  | nil => intro w2 h; cases w2 <;> simp_all [ladd]
  | cons a t ih =>
    intro w2 h
    cases w2 with
    | nil => simp at h
    | cons b u =>
      simp only [List.length_cons, Nat.add_right_cancel_iff] at h
      have := ih u h
      simp only [ladd, List.zipWith_cons_cons, List.sum_cons] at this ⊢
      omega

example : KAdd sumK := fun _ _ _ _ w1 w2 h => sum_ladd w1 w2 h

example : KSmul sumK := by
  intro _ _ _ _ a w
  show (lsmul a w).sum = a * w.sum
  induction w with
  | nil => simp [lsmul]
  | cons b t ih => simp only [lsmul, List.map_cons, List.sum_cons] at ih ⊢; rw [ih, Int.mul_add]

/-! ## non-vacuity of `planShift`: a half-band decimator feeding a 2/3 poly-phase stage -/

def exPlan : Plan :=
  [({ kind := .clocked, prePost := 7, den := 2, step := 3, poly0 := true, taps := 8 }, { occ := 4, clk := 0 }),
   ({ kind := .half, prePost := 12 }, { occ := 6 })]

example : planShift 1000 exPlan = some (6, 2, 5) := by decide

end Soxr.Properties.C12Engine
