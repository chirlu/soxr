/-
  C12 — Linearity: unity DC gain, exact scale, superposition, shift covariance.

  "A constant-rate resampler is a linear system: a constant input converges to the same constant, the output scales in
  proportion to io_spec.scale, and the response to a sum of signals equals the sum of the responses, all to within the
  configured precision.  For a rational ratio L/M, delaying the input by M frames delays the output by exactly L frames
  (sample values agreeing to within the precision)."

  What is proved here (exact arithmetic, any commutative semiring of samples, all signals, all output indices, any
  number of stages): the MODEL resampler — a pipeline of stages each of which computes every output as a finite linear
  combination of its inputs with coefficients that depend on the output index only — satisfies superposition,
  homogeneity, "the gain enters exactly once" for `_soxr_init`'s hand-over of `multiplier`, the DC-gain law
  (constant in ⇒ constant × row sum out; unity gain ⇔ every row sums to 1), and shift covariance at the plan's
  implementation period — everywhere for ideal stages, beyond the start-up horizon for stages that discard the
  negative-time part of their intermediate streams (which is what the code does).

  What is NOT proved and stays a hypothesis evaluated by MEASUREMENT on the real code (checks/c12.py): that the real
  floating-point kernels are such linear maps up to rounding within 2^(1−bits) (`Goal_impl_near_linear`), that the
  designed rows sum to 1 within the precision, and that covariance at the REDUCED period L/M holds within the
  precision for in-band signals (a spectral fact: C01/C02).  `near_linear_*` show what those measured facts buy.
-/
import SoxrModel.Signal.Plan
import SoxrModel.Signal.Example
import Mathlib.Analysis.Normed.Field.Basic
import Mathlib.Tactic.NormNum

namespace Soxr.C12

open Soxr.Signal Soxr.Signal.Kernel Finset

variable {R : Type*} [CommSemiring R]

/-- The response to a sum of signals is the sum of the responses. -/
theorem superposition (stages : List (Kernel R)) (x y : ℤ → R) (k : ℤ) :
    run stages (fun n => x n + y n) k = run stages x k + run stages y k := by
  rw [run_add]

/-- Scaling the input scales the output by the same factor. -/
theorem homogeneity (stages : List (Kernel R)) (a : R) (x : ℤ → R) (k : ℤ) :
    run stages (fun n => a * x n) k = a * run stages x k := by
  rw [run_mul_left]

/-- Any finite linear combination. -/
theorem superposition_finite [Nontrivial R] (stages : List (Kernel R)) {ι : Type*} (s : Finset ι) (a : ι → R)
    (x : ι → ℤ → R) (k : ℤ) :
    run stages (fun n => ∑ i ∈ s, a i * x i n) k = ∑ i ∈ s, a i * run stages (x i) k := by
  simp only [← resp_pipeline]
  exact (pipeline stages).resp_linear_comb s a x k

example : run [interp2 ℚ] (fun n => (n : ℚ) + 3) 5 = run [interp2 ℚ] (fun n => (n : ℚ)) 5 + run [interp2 ℚ] (fun _ => 3) 5 :=
  superposition _ _ _ _

/-- The realised stage list of a plan: `halves` half-band decimators with static tables, then the designed stages that
exist, each with the gain `_soxr_init` folds into its coefficients (`handOver`). -/
noncomputable def stagesOf (s : Shape) (halves : List (Kernel R)) (pre arb post : Kernel R) (m : R) : List (Kernel R) :=
  let g := handOver s m
  halves ++ (((if s.pre then [(g.1, pre)] else []) ++ (if s.arb then [(g.2.1, arb)] else []) ++
    (if s.post then [(g.2.2.1, post)] else [])).map fun p => smul p.1 p.2)

/-- **gain_once.** Whenever the plan has a designed stage, the requested gain `m` multiplies the output exactly once:
the realised pipeline is `m` times the unit-gain pipeline, for every input and every output index — wherever the
gain-carrying stage sits and however many stages follow or precede it. -/
theorem gain_once (s : Shape) (halves : List (Kernel R)) (pre arb post : Kernel R) (m : R)
    (hd : s.hasDesigned = true) (x : ℤ → R) (k : ℤ) :
    run (stagesOf s halves pre arb post m) x k = m * run (stagesOf s halves pre arb post 1) x k := by
  unfold stagesOf
  rw [run_append, run_append, run_gains, run_gains, handOver_one]
  -- both sides run the same unit-gain kernels; of the gains in front, the first designed stage contributes `m` against 1
  -- and every other one 1 against 1
  rcases handOver_once s m with ⟨hp, e⟩ | ⟨hp, ha, e⟩ | ⟨hp, ha, ho, e⟩ | ⟨hn, _⟩
  · rw [e, hp]
    simp only [if_true, List.map_append, List.map_cons, List.map_nil, List.prod_append, List.prod_cons, List.prod_nil,
      mul_one, one_mul, mul_assoc]
  · rw [e, hp, ha]
    simp only [if_true, Bool.false_eq_true, if_false, List.map_append, List.map_cons, List.map_nil, List.prod_append,
      List.prod_cons, List.prod_nil, mul_one, one_mul, mul_assoc]
  · rw [e, hp, ha, ho]
    simp only [if_true, Bool.false_eq_true, if_false, List.map_append, List.map_cons, List.map_nil, List.prod_append,
      List.prod_cons, List.prod_nil, mul_one, one_mul]
  · exact absurd hd (hn ▸ Bool.false_ne_true)

/-- The gain sits on exactly one stage: the first designed one in pipeline order. -/
theorem gain_on_one_stage (s : Shape) (m : R) :
    (s.pre = true ∧ handOver s m = (m, 1, 1, 1)) ∨
    (s.pre = false ∧ s.arb = true ∧ handOver s m = (1, m, 1, 1)) ∨
    (s.pre = false ∧ s.arb = false ∧ s.post = true ∧ handOver s m = (1, 1, m, 1)) ∨
    (s.hasDesigned = false ∧ handOver s m = (1, 1, 1, m)) :=
  handOver_once s m

/-- With no stage at all and a gain ≠ 1 a (cubic) arbitrary stage is forced, so something always carries the gain —
given that the planner never emits half-band stages alone (checked on every plan the harness exports). -/
theorem gain_always_carried [DecidableEq R] (s : Shape) (m : R) (hd : 0 < s.shr → s.hasDesigned = true) :
    (s.force m).hasDesigned = true ∨ ((s.force m).numStages = 0 ∧ m = 1) :=
  force_carries s m hd

example : (Shape.mk 0 false false false).force (2 : ℚ) = Shape.mk 0 false true false := by decide
example : handOver (Shape.mk 2 true false true) (3 : ℚ) = (3, 1, 1, 1) := by decide
example : handOver (Shape.mk 1 false true true) (3 : ℚ) = (1, 3, 1, 1) := by decide

/-- A constant input `c` gives at output `k` the value `c · Σₙ g[k,n]`. -/
theorem dc_gain (K : Kernel R) (c : R) (k : ℤ) : K.resp (fun _ => c) k = c * K.rowSum k :=
  K.resp_const c k

/-- Unity DC gain ⇔ every row sums to 1 (the row sums are the measured quantity). -/
theorem dc_unity_iff_rows (K : Kernel R) : (∀ (c : R) (k : ℤ), K.resp (fun _ => c) k = c) ↔ ∀ k, K.rowSum k = 1 :=
  K.dc_unity_iff

/-- A pipeline whose stages all have unit row sums reproduces every constant, at every output index. -/
theorem dc_pipeline (stages : List (Kernel R)) (h : ∀ K ∈ stages, ∀ k, K.rowSum k = 1) (c : R) :
    run stages (fun _ => c) = fun _ => c := by
  induction stages with
  | nil => rfl
  | cons K Ks ih =>
    show run Ks (K.resp fun _ => c) = _
    rw [funext (K.dc_unity_iff.2 (h K List.mem_cons_self) c)]
    exact ih fun K' hK' => h K' (List.mem_cons_of_mem _ hK')

example (c : ℚ) (k : ℤ) : (interp2 ℚ).resp (fun _ => c) k = c := interp2_const (by norm_num) c k
example (k : ℤ) : (interp2 ℚ).rowSum k = 1 := interp2_rowSum (by norm_num) k

/-- (L,M)-covariant rows from `k₀` on: delaying the input by `M` delays the output by `L`, EXACTLY, at every output
index beyond the horizon, for every input signal. -/
theorem shift_covariance (K : Kernel R) {L M k₀ : ℤ} (h : K.CovFrom L M k₀) (x : ℤ → R) {k : ℤ} (hk : k₀ ≤ k) :
    K.resp (delay M x) (k + L) = K.resp x k :=
  h.resp_delay x hk

/-- Composition of two covariant stages is covariant with the aligned period, beyond the later stage's horizon,
provided its rows there read the earlier stage's output only beyond that stage's horizon. -/
theorem shift_covariance_two_stages {K₂ K₁ : Kernel R} {L₁ M₁ L₂ M₂ k₁ k₂ : ℤ} (h₂ : K₂.CovFrom L₂ M₂ k₂)
    (h₁ : K₁.CovFrom L₁ M₁ k₁) (hL₁ : 0 ≤ L₁) (hL₂ : 0 ≤ L₂) (a b : ℕ) (hab : M₂ * a = L₁ * b)
    (hreads : ∀ k, k₂ ≤ k → ∀ m ∈ (K₂.row k).support, k₁ ≤ m) (x : ℤ → R) {k : ℤ} (hk : k₂ ≤ k) :
    K₂.resp (K₁.resp (delay (M₁ * b) x)) (k + L₂ * a) = K₂.resp (K₁.resp x) k := by
  rw [← resp_comp, ← resp_comp]
  exact (h₂.comp h₁ hL₁ hL₂ a b hab hreads).resp_delay x hk

/-- A whole plan of (ideal, everywhere covariant) stages is ONE linear periodically time-varying system: delaying the
input by `M_P` delays the output by `L_P`, exactly, where `(L_P, M_P)` is the implementation period of the stage list. -/
theorem shift_covariance_plan [Nontrivial R] (st : List (Kernel R × ℕ × ℕ)) (h : ∀ t ∈ st, t.1.Cov t.2.1 t.2.2)
    (x : ℤ → R) (k : ℤ) :
    run (st.map fun t => t.1) (delay ((implPeriod (st.map fun t => t.2)).2 : ℤ) x)
        (k + (implPeriod (st.map fun t => t.2)).1) = run (st.map fun t => t.1) x k := by
  simp only [← resp_pipeline]
  exact (pipeline_cov st h).resp_delay x k

/-- The implementation period of `÷2` followed by `2/5` (5:1 at HQ) is (2,10), not (1,5). -/
example : implPeriod [(1, 2), (2, 5)] = (2, 10) := by decide
/-- 44.1k → 48k at HQ: `×2` (DFT), then `80/147` (poly-phase): (160, 147). -/
example : implPeriod [(2, 1), (80, 147)] = (160, 147) := by decide
example : (interp2 ℚ).CovFrom 2 1 0 := interp2_cov.covFrom 0

section NearLinear

variable {𝕜 : Type*} [NormedField 𝕜]

/-- The real resampler as a black box `impl` is, on the signal class `S` and beyond the horizon `k₀`, within `ε` of
the linear system `K`. -/
def NearLinear (impl : (ℤ → 𝕜) → ℤ → 𝕜) (K : Kernel 𝕜) (S : Set (ℤ → 𝕜)) (k₀ : ℤ) (ε : ℝ) : Prop :=
  ∀ x ∈ S, ∀ k, k₀ ≤ k → ‖impl x k - K.resp x k‖ ≤ ε

/-- NOT PROVED — it is a statement about compiled floating-point code, outside the model: the real constant-rate
resampler of a configuration is `ε`-near-linear and covariant for `ε` a fraction of `2^(1−bits)`.
checks/c12.py measures its consequences (`near_linear_superposition`, `near_linear_shift`) on the real code. -/
def Goal_impl_near_linear (impl : (ℤ → 𝕜) → ℤ → 𝕜) (S : Set (ℤ → 𝕜)) (L M k₀ : ℤ) (ε : ℝ) : Prop :=
  ∃ K : Kernel 𝕜, K.CovFrom L M k₀ ∧ NearLinear impl K S k₀ ε

/-- Superposition within `3ε`. -/
theorem near_linear_superposition {impl : (ℤ → 𝕜) → ℤ → 𝕜} {K : Kernel 𝕜} {S : Set (ℤ → 𝕜)} {k₀ : ℤ} {ε : ℝ}
    (h : NearLinear impl K S k₀ ε) {x y : ℤ → 𝕜} (hx : x ∈ S) (hy : y ∈ S) (hxy : (fun n => x n + y n) ∈ S) {k : ℤ}
    (hk : k₀ ≤ k) : ‖impl (fun n => x n + y n) k - (impl x k + impl y k)‖ ≤ 3 * ε := by
  have e : impl (fun n => x n + y n) k - (impl x k + impl y k) = (impl (fun n => x n + y n) k
      - K.resp (fun n => x n + y n) k) - (impl x k - K.resp x k) - (impl y k - K.resp y k) := by
    rw [K.resp_add]; ring
  rw [e, show 3 * ε = ε + ε + ε by ring]
  exact norm_sub_le_of_le (norm_sub_le_of_le (h _ hxy k hk) (h _ hx k hk)) (h _ hy k hk)

/-- Scaling within `(1 + |a|)·ε`. -/
theorem near_linear_scale {impl : (ℤ → 𝕜) → ℤ → 𝕜} {K : Kernel 𝕜} {S : Set (ℤ → 𝕜)} {k₀ : ℤ} {ε : ℝ}
    (h : NearLinear impl K S k₀ ε) (a : 𝕜) {x : ℤ → 𝕜} (hx : x ∈ S) (hax : (fun n => a * x n) ∈ S) {k : ℤ}
    (hk : k₀ ≤ k) : ‖impl (fun n => a * x n) k - a * impl x k‖ ≤ (1 + ‖a‖) * ε := by
  have e : impl (fun n => a * x n) k - a * impl x k
      = (impl (fun n => a * x n) k - K.resp (fun n => a * x n) k) - a * (impl x k - K.resp x k) := by
    rw [K.resp_mul_left]; ring
  rw [e, add_mul, one_mul]
  exact norm_sub_le_of_le (h _ hax k hk)
    ((norm_mul _ _).trans_le (mul_le_mul_of_nonneg_left (h _ hx k hk) (norm_nonneg a)))

/-- Shift covariance within `2ε`. -/
theorem near_linear_shift {impl : (ℤ → 𝕜) → ℤ → 𝕜} {K : Kernel 𝕜} {S : Set (ℤ → 𝕜)} {L M k₀ : ℤ} {ε : ℝ}
    (h : NearLinear impl K S k₀ ε) (hc : K.CovFrom L M k₀) (hL : 0 ≤ L) {x : ℤ → 𝕜} (hx : x ∈ S)
    (hdx : delay M x ∈ S) {k : ℤ} (hk : k₀ ≤ k) : ‖impl (delay M x) (k + L) - impl x k‖ ≤ 2 * ε := by
  have e : impl (delay M x) (k + L) - impl x k
      = (impl (delay M x) (k + L) - K.resp (delay M x) (k + L)) - (impl x k - K.resp x k) := by
    rw [hc.resp_delay x hk]; ring
  rw [e, two_mul]
  exact norm_sub_le_of_le (h _ hdx _ (le_add_of_le_of_nonneg hk hL)) (h _ hx k hk)

/-- The hypothesis is satisfiable: an exactly linear implementation is 0-near-linear. -/
example : Goal_impl_near_linear (fun x => (interp2 ℝ).resp x) Set.univ 2 1 0 0 :=
  ⟨interp2 ℝ, interp2_cov.covFrom 0, fun x _ k _ => by simp⟩

end NearLinear

end Soxr.C12
