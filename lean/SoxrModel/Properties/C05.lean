import SoxrModel.Cr.Schedule
import SoxrModel.Cr.ApiData
import SoxrModel.Properties.C03
import SoxrModel.Cr.Cone
/-!
# C05 Schedule invariance: streamed, pulled and one-shot output are bit-identical

Model: the constant-rate engine on SAMPLES (`Cr/Data.lean`, `Cr/DataPipe.lean`): FIFOs are lists of an arbitrary
sample type `α`, every numeric kernel (FIR dot product, DFT block convolution, cubic) is an ARBITRARY function
`K.eval (stage configuration, phase tags, window)` — so equality of outputs below is equality of whatever the real
kernels compute (bit patterns included), provided each C kernel is a deterministic function of its window and phase,
the one fact about kernels this model assumes (the check's falsifier compares FNV hashes of the real output under
different schedules).  Control (how much each stage consumes and produces, when it runs, every FIFO occupancy, clock
and `input_size`) is *by construction* the count model's (`dsp_proj`, `dprocLoop_proj`, `DEng.*_proj` of `Cr/DataPipe.lean`), and the
count model is tied to `/repo` by the per-call correspondence of `checks/c03.py` / `c05.py`.

Quantifiers: every well-formed plan (`PlanWF`, decidable, evaluated by the driver on every plan the real planner
exports), every kernel, every input stream, **every** interleaving of input blocks, output requests of any size
(0 included), end-of-input and calls after it.  `soxr_process`, `soxr_output` with an input function (any supply
pattern) and `soxr_oneshot` all drive the engine through exactly these operations (`Cr/Model.lean`: `Api.input`,
`Api.outputNoCb`, `pullLoop`), so they are instances of `DOp` lists.
-/
namespace Soxr.Properties.C05
open Soxr Soxr.Cr

variable {α : Type}

/-- **Prefix consistency.**  Take ANY two runs of a freshly initialised engine over the same input stream `xs` —
    each accepts a prefix of `xs` (all of it if it has signalled end-of-input) in blocks of any sizes, with output
    requests of any sizes interleaved in any way.  Then what one has delivered is a prefix of what the other has
    delivered (or vice versa): the delivered stream is a function of the input stream and the plan only. -/
theorem prefix_consistency (K : Kern α) (z : α) (owed : Nat → Nat) (plan : Plan) (hwf : PlanWF plan) (xs : List α)
    (ops₁ ops₂ : List (DOp α)) (F₁ F₂ D₁ D₂ : List α) (e₁ e₂ : DEng α)
    (r₁ : DRuns K z owed (DEng.fresh z plan) ops₁ F₁ D₁ e₁) (r₂ : DRuns K z owed (DEng.fresh z plan) ops₂ F₂ D₂ e₂)
    (o₁ : OverStream xs F₁ e₁.fl) (o₂ : OverStream xs F₂ e₂.fl) : D₁ <+: D₂ ∨ D₂ <+: D₁ :=
  runs_comparable K z owed plan hwf xs ops₁ ops₂ F₁ F₂ D₁ D₂ e₁ e₂ r₁ r₂ o₁ o₂

/-- … in particular two runs that have delivered equally many samples have delivered the same samples. -/
theorem same_length_same_samples (K : Kern α) (z : α) (owed : Nat → Nat) (plan : Plan) (hwf : PlanWF plan) (xs : List α)
    (ops₁ ops₂ : List (DOp α)) (F₁ F₂ D₁ D₂ : List α) (e₁ e₂ : DEng α)
    (r₁ : DRuns K z owed (DEng.fresh z plan) ops₁ F₁ D₁ e₁) (r₂ : DRuns K z owed (DEng.fresh z plan) ops₂ F₂ D₂ e₂)
    (o₁ : OverStream xs F₁ e₁.fl) (o₂ : OverStream xs F₂ e₂.fl) (hlen : D₁.length = D₂.length) : D₁ = D₂ :=
  (runs_comparable K z owed plan hwf xs ops₁ ops₂ F₁ F₂ D₁ D₂ e₁ e₂ r₁ r₂ o₁ o₂).eq_of_length hlen

/-- **Schedule invariance.**  Two complete runs over `xs` — any streaming histories `s₁`, `s₂` that accept all of
    `xs` (never early: C03), end-of-input, then any further calls `t₁`, `t₂` until nothing is owed — deliver exactly
    the same `owed |xs|` samples. -/
theorem schedule_invariance (K : Kern α) (z : α) (owed : Nat → Nat) (plan : Plan) (hwf : PlanWF plan) (xs : List α)
    (s₁ s₂ t₁ t₂ : List (DOp α)) (D₁ D₂ F₁' F₂' D₁' D₂' : List α) (e₁ e₂ e₁' e₂' : DEng α)
    (n₁ : NoFlush s₁) (n₂ : NoFlush s₂)
    (r₁ : DRuns K z owed (DEng.fresh z plan) s₁ xs D₁ e₁) (r₂ : DRuns K z owed (DEng.fresh z plan) s₂ xs D₂ e₂)
    (ne₁ : D₁.length ≤ owed xs.length) (ne₂ : D₂.length ≤ owed xs.length)
    (d₁ : DRuns K z owed (e₁.flush owed) t₁ F₁' D₁' e₁') (d₂ : DRuns K z owed (e₂.flush owed) t₂ F₂' D₂' e₂')
    (c₁ : e₁'.sout = 0) (c₂ : e₂'.sout = 0) :
    D₁ ++ D₁' = D₂ ++ D₂' ∧ (D₁ ++ D₁').length = owed xs.length := by
  obtain ⟨k₁, _, l₁⟩ := complete_run n₁ r₁ ne₁ d₁ c₁
  obtain ⟨k₂, _, l₂⟩ := complete_run n₂ r₂ ne₂ d₂ c₂
  have full : ∀ fl, OverStream xs xs fl := fun _ => ⟨List.prefix_refl _, fun _ => rfl⟩
  exact ⟨(runs_comparable K z owed plan hwf xs _ _ _ _ _ _ _ _ k₁ k₂ (full _) (full _)).eq_of_length (l₁.trans l₂.symm), l₁⟩

/-- **Schedule invariance without the never-early hypothesis.**  For a plan with compensated latency whose windows
    reach their kernels' centres and whose post-context is at least half an output period (decidable facts about the
    exported integers: `PlanLatOK`, `PlanEarlyOK`, `hpost`; evaluated by the driver on every plan), `never_early_round`
    (C03) supplies `|D| ≤ ⌊N/rate + ½⌋`; so if the engine's `owed N` is not below that exact rounding, ANY two
    complete runs deliver exactly the same `owed N` samples. -/
theorem schedule_invariance_plan (K : Kern α) (z : α) (owed : Nat → Nat) (lp : List LStage)
    (hwf : ∀ x ∈ lp, StageWF x.cfg x.s0) (he : PlanEarlyOK lp) (hlat : PlanLatOK false lp)
    (hpost : rateOf (lp.map tstage) / 2 ≤ 1 + offsetOf (lp.map tstage) + margOf lp) (hpos : 0 < rateOf (lp.map tstage))
    (xs : List α) (howed : ⌊(xs.length : ℚ) / rateOf (lp.map tstage) + 1 / 2⌋₊ ≤ owed xs.length)
    (s₁ s₂ t₁ t₂ : List (DOp α)) (D₁ D₂ F₁' F₂' D₁' D₂' : List α) (e₁ e₂ e₁' e₂' : DEng α)
    (n₁ : NoFlush s₁) (n₂ : NoFlush s₂)
    (r₁ : DRuns K z owed (DEng.fresh z (lp.map LStage.toPlan)) s₁ xs D₁ e₁)
    (r₂ : DRuns K z owed (DEng.fresh z (lp.map LStage.toPlan)) s₂ xs D₂ e₂)
    (d₁ : DRuns K z owed (e₁.flush owed) t₁ F₁' D₁' e₁') (d₂ : DRuns K z owed (e₂.flush owed) t₂ F₂' D₂' e₂')
    (c₁ : e₁'.sout = 0) (c₂ : e₂'.sout = 0) :
    D₁ ++ D₁' = D₂ ++ D₂' ∧ (D₁ ++ D₁').length = owed xs.length := by
  have f1 := (stream_counters K z owed s₁ _ _ _ _ rfl n₁ r₁).1
  have f2 := (stream_counters K z owed s₂ _ _ _ _ rfl n₂ r₂).1
  have b1 := (Soxr.Properties.C03.never_early_round K z owed lp hwf he hlat hpost hpos s₁ xs D₁ e₁ r₁ f1).2
  have b2 := (Soxr.Properties.C03.never_early_round K z owed lp hwf he hlat hpost hpos s₂ xs D₂ e₂ r₂ f2).2
  exact schedule_invariance K z owed _ (planWF_toPlan hwf) xs s₁ s₂ t₁ t₂ D₁ D₂ F₁' F₂' D₁' D₂' e₁ e₂ e₁' e₂' n₁ n₂ r₁ r₂
    (Nat.le_trans b1 howed) (Nat.le_trans b2 howed) d₁ d₂ c₁ c₂

/-- **Every output sample is the canonical function of the input** (engine law E3): at any point of any run, what has
    been delivered followed by what waits in the output FIFO is the canonical stream of the pipeline for the input
    accepted so far (zero-extended once flushing), each stage's history being its zero preload followed by the
    canonical output of the stage below. -/
theorem delivered_is_canonical (K : Kern α) (z : α) (owed : Nat → Nat) (plan : Plan) (hwf : PlanWF plan)
    (ops : List (DOp α)) (F D : List α) (e : DEng α) (r : DRuns K z owed (DEng.fresh z plan) ops F D e) :
    ∃ pad src, IsPad z e.fl pad ∧ PInv K z plan e.stages (F ++ pad) src ∧ D ++ e.out = src :=
  fresh_runs_einv hwf r

/-- a newly created resampler object (an input function may or may not be registered) -/
def freshApi (z : α) (plan : Plan) (hasFn : Bool) (maxIlen : Nat) : DApi α :=
  { eng := DEng.fresh z plan, hasFn := hasFn, maxIlen := maxIlen }

/-- **Push, pull and one-shot are the same function of the input stream.**  Take ANY two sequences of API calls on
    newly created resamplers of the same plan — `soxr_process` with or without `idone`, with or without an
    end-of-input request, `soxr_output` against an input function that answers with ANY script of full / short / empty
    supplies, end-of-input or failure, in any mix, `soxr_oneshot` being the one-call case — whose accepted input runs
    over the same stream `xs`.  What one has delivered is a prefix of what the other has delivered; with equally many
    frames delivered the samples are identical. -/
theorem pull_push_oneshot (K : Kern α) (z : α) (owed : Nat → Nat) (plan : Plan) (hwf : PlanWF plan) (xs : List α)
    (fn₁ fn₂ : Bool) (mi₁ mi₂ : Nat) (calls₁ calls₂ : List (ACall α)) (F₁ F₂ D₁ D₂ : List α) (a₁ a₂ : DApi α)
    (r₁ : ApiRuns K z owed (freshApi z plan fn₁ mi₁) calls₁ F₁ D₁ a₁) (r₂ : ApiRuns K z owed (freshApi z plan fn₂ mi₂) calls₂ F₂ D₂ a₂)
    (o₁ : OverStream xs F₁ a₁.eng.fl) (o₂ : OverStream xs F₂ a₂.eng.fl) :
    (D₁ <+: D₂ ∨ D₂ <+: D₁) ∧ (D₁.length = D₂.length → D₁ = D₂) := by
  have s0 : ∀ fn mi, Sync (freshApi z plan fn mi : DApi α) := by
    intro fn mi hh; simp [freshApi, DEng.fresh] at hh
  obtain ⟨ops1, e1, _⟩ := api_runs_engine K z owed calls₁ _ _ _ _ r₁ (s0 fn₁ mi₁)
  obtain ⟨ops2, e2, _⟩ := api_runs_engine K z owed calls₂ _ _ _ _ r₂ (s0 fn₂ mi₂)
  have hc := runs_comparable K z owed plan hwf xs ops1 ops2 F₁ F₂ D₁ D₂ _ _ e1 e2 o₁ o₂
  exact ⟨hc, fun hl => hc.eq_of_length hl⟩

/-- **Locality (the stream is a function of the input, and of finitely much of it).**  `coneI` (executable; the driver
    evaluates it on exported plans) maps an interval `[lo, hi]` of output frames to an interval `[a, b]` of input frames.
    Two runs of the freshly initialised engine with ANY call schedules, still streaming, over inputs that agree on
    `[a, b]`: whatever each has delivered (or holds ready) agrees on `[lo, hi]` — for every kernel.  No input frame
    after `b` (causality, with the plan's latency) and none before `a` (finite memory) matters. -/
theorem locality_runs (K : Kern α) (z : α) (owed : Nat → Nat) (plan : Plan) (hwf : PlanWF plan) (fuel lo hi a b : Nat)
    (hc : coneI fuel plan lo hi = some (a, b))
    (ops₁ ops₂ : List (DOp α)) (x x' D₁ D₂ : List α) (e₁ e₂ : DEng α)
    (r₁ : DRuns K z owed (DEng.fresh z plan) ops₁ x D₁ e₁) (r₂ : DRuns K z owed (DEng.fresh z plan) ops₂ x' D₂ e₂)
    (f₁ : e₁.fl = false) (f₂ : e₂.fl = false) (hag : ∀ i, a ≤ i → i ≤ b → x[i]? = x'[i]?) :
    ∀ j, lo ≤ j → j ≤ hi → j < (D₁ ++ e₁.out).length → j < (D₂ ++ e₂.out).length → (D₁ ++ e₁.out)[j]? = (D₂ ++ e₂.out)[j]? := by
  exact coneI_sound K z fuel plan lo hi a b hc x x' _ _ (fresh_runs_streaming hwf r₁ f₁).toCInv
    (fresh_runs_streaming hwf r₂ f₂).toCInv hag

/-- **The tie.**  Forgetting the samples, the data-level engine *is* the count model that the correspondence check
    compares with the real code call by call: same stage scheduling, same counts, same clocks. -/
theorem control_is_the_count_model (K : Kern α) (z : α) :
    (∀ fl fuel (l : List (DStage α)) done, (dsp K z fl fuel l done).map projRes = sp fl fuel (l.map DStage.toStage) done) ∧
    (∀ fuel (e : DEng α) olen, (e.process K z fuel olen).map DEng.toEng = e.toEng.process fuel olen) ∧
    (∀ (e : DEng α) xs, (e.input xs).toEng = e.toEng.input xs.length) ∧
    (∀ owed (e : DEng α), (e.flush owed).toEng = e.toEng.flush owed) ∧
    (∀ (e : DEng α) n0, (e.output n0).1.toEng = (e.toEng.output n0).1 ∧
        ((e.output n0).2.length : Int) = max 0 (e.toEng.output n0).2) :=
  ⟨fun fl fuel l done => dsp_proj K z fl fuel l done, fun fuel e olen => DEng.process_proj K z fuel e olen,
   DEng.input_proj, DEng.flush_proj, DEng.output_proj⟩

/-- … and the API layer on samples is the count-level API model (`Api`, `pullLoop` of `Cr/Model.lean`) that the
    correspondence replays against every real `soxr_process` / `soxr_output` call (request log aside). -/
theorem api_is_the_count_model (K : Kern α) (z : α) (num : Num) :
    (∀ fuel (a : DApi α) len, (a.outputNoCb K z num.owed fuel len).map (fun r => (r.1.toApi, r.2.length)) = a.toApi.outputNoCb num fuel len) ∧
    (∀ (a : DApi α) xs, (a.input xs).toApi = a.toApi.input xs.length) ∧
    (∀ fuel len0 ilen k (a : DApi α) olen out0 script reqs,
      (dpullLoop K z num.owed fuel len0 k a olen out0 script).map (fun r => (r.1.toApi, r.2.1.length, r.2.2.map DSupply.toSupply)) =
      (pullLoop num fuel len0 ilen k a.toApi olen out0.length (script.map DSupply.toSupply) reqs).map (fun r => (r.1, r.2.1, r.2.2.1))) :=
  ⟨fun fuel a len => outputNoCb_proj K z num fuel a len, input_proj,
   fun fuel len0 ilen k a olen out0 script reqs => dpullLoop_proj K z num fuel len0 ilen k a olen out0 script reqs⟩

/-! ## non-vacuity: a concrete plan, kernel and two different schedules -/

/-- a 2:1 half-band stage followed by a 3:2 clocked sampler; the "kernel" adds up its window and tags the phase -/
def exPlan : Plan :=
  [ ({ kind := .clocked, prePost := 3, den := 2, step := 3, taps := 4 }, { occ := 1, clk := 1, isz := 8 }),
    ({ kind := .half, prePost := 4 }, { occ := 2, isz := 8 }) ]
def exK : Kern Int := { eval := fun c ph _ _ w => w.sum * 10 + ph + (if c.kind = .half then 5 else 0) }
def exXs : List Int := [1, 2, 3, 4, 5, 6, 7, 8, 9, 10, 11, 12, 13, 14, 15, 16, 17, 18, 19, 20]
def exOwed : Nat → Nat := fun n => n / 3

example : PlanWF exPlan := by decide

def runOps (ops : List (DOp Int)) : Option (List Int × DEng Int) :=
  ops.foldl (fun acc op => match acc with
    | none => none
    | some (D, e) => match op with
      | .feed xs => some (D, e.input xs)
      | .flush => some (D, e.flush exOwed)
      | .take n => match e.process exK 0 100 n with
        | none => none
        | some e1 => some (D ++ (e1.output n).2, (e1.output n).1)) (some ([], DEng.fresh 0 exPlan))

/-- one-shot: everything in one block, one big request after end-of-input -/
def oneshot : List (DOp Int) := [.feed exXs, .flush, .take 100]
def chunked : List (DOp Int) :=
  [.take 3, .feed (exXs.take 7), .take 0, .take 1, .feed ((exXs.drop 7).take 1), .take 5, .feed (exXs.drop 8), .take 2,
   .flush, .take 1, .take 0, .take 2, .take 100]

example : (runOps oneshot).map (·.1) = (runOps chunked).map (·.1) ∧ ((runOps oneshot).map (·.1.length)) = some (exOwed 20) := by
  -- the kernel runs the two schedules (the elaborator's own evaluation of them is several times slower)
  decide +kernel

/-- the three calling styles on the concrete plan: one-shot, push in odd blocks with `idone`, pull with short supplies -/
def apiRun (a : DApi Int) (calls : List (ACall Int)) : Option (List Int × DApi Int) :=
  calls.foldl (fun acc c => match acc with
    | none => none
    | some (D, a) => match c with
      | .process inp fr cl olen script => match a.process exK 0 exOwed 100 inp fr cl olen script with
        | none => none
        | some (a2, _, out, _) => some (D ++ out, a2)
      | .output len0 script => match a.output exK 0 exOwed 100 len0 script with
        | none => none
        | some (a2, out, _) => some (D ++ out, a2)
      | .signalEnd => some (D, a.signalEnd exOwed)) (some ([], a))

def callsOneshot : List (ACall Int) := [.process (some exXs) true none 100 []]
def callsPush : List (ACall Int) :=
  [.process (some (exXs.take 7)) false (some 7) 2 [], .process (some ((exXs.drop 7).take 5)) false none 0 [],
   .process (some (exXs.drop 12)) false none 3 [], .signalEnd, .process (some []) false none 1 [], .process none false none 100 []]
def callsPull : List (ACall Int) :=
  [.output 2 [.data (exXs.take 3), .data ((exXs.drop 3).take 1)], .output 100 [.data ((exXs.drop 4).take 9), .data (exXs.drop 13), .eof]]

example : (apiRun (freshApi 0 exPlan false 0) callsOneshot).map (·.1) = (apiRun (freshApi 0 exPlan false 0) callsPush).map (·.1) ∧
    (apiRun (freshApi 0 exPlan false 0) callsOneshot).map (·.1) = (apiRun (freshApi 0 exPlan true 64) callsPull).map (·.1) ∧
    (apiRun (freshApi 0 exPlan false 0) callsOneshot).map (·.1.length) = some (exOwed 20) := by
  decide +kernel

/-- non-vacuity of `locality_runs`: on the concrete plan output frame 3 depends on the input frames 7 … 15 only -/
example : coneI 100 exPlan 3 3 = some (7, 15) ∧ coneI 100 exPlan 0 0 = some (0, 5) := by decide

end Soxr.Properties.C05
