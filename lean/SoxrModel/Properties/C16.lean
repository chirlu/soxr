import SoxrModel.Vr.Lemmas
import SoxrModel.Vr.Frames
import SoxrModel.Vr.Fade
import SoxrModel.Vr.Engine
import SoxrModel.Vr.ExactNum
import SoxrModel.Vr.C16Lemmas
import Mathlib.Tactic.Linarith
import Mathlib.Tactic.Ring
/-!
# C16 — the variable-rate engine follows the requested ratio

Theorems about the control skeleton of `vr32.c` (`Vr/Model.lean`, compared field by field with the real engine on
every run) and about the decision logic of `soxr_set_io_ratio`.  They hold for **every** state of the skeleton
(reachable or not), every ratio, every slew length, every sequence of calls and every evaluation `Num ρ` of the three
floating-point expressions — except where a hypothesis is written out.

What is *not* here: the 80 dB residual and "no discontinuity in the output" are statements about sample values
(floating-point kernels); they are measured by the falsifier of `checks/c16.py`.  `Goal_frames_full_engine` at the end
(the whole engine's frame count against the REQUESTED ratio) is refuted there; the true statement, against the stored
increment, is `frames_full_engine`.

History.  The model follows /repo: since the `fix:` commits for F13 (`vr_set_io_ratio(r, 0)` cancels a slew in
progress) and F14 (`lshift` shifts the unsigned representation) the theorems of §3 hold for *every* state — the
hypothesis "no unfinished slew" of the pinned tree is gone; the pre-repair function and the two witnesses of its
failure are kept in §3b as a historical record.  F35 (the two cross-faded streams could get out of step: the C
assertion `odone == odone2` failed) was found by this model and repaired in /repo (`occupancy0` is re-aligned at an
up-switch: `switchOcc`); §7 keeps the negation of the alignment statement for the pre-repair loop with its concrete
witness, shows the same call sequence aligned on the current model (the check replays it on the real code), and
proves the part of the alignment that the skeleton carries.  F36 (a stage restarted by a second or third up-switch of
one call was read beyond the samples it holds: garbage output, then a stage below its preload) was found by C07's
sanitizer sweep, located with this model's stage occupancies and repaired in /repo (`occupancy0` is clamped to what the
restarted stage holds: `switchOcc`); §8 has the theorem for the current code and the pre-repair witness.

Units: `step` counts `2⁻³²` samples of the current stage per (2x-rate) output; `rateIn` (`Vr/Arith.lean`) is the same
quantity in the stage-independent unit `2⁻³³` input frames per output frame.
-/
namespace Soxr.Vr.C16
open Soxr.Vr
variable {ρ : Type}

/-- `j` output frames after request `g` — see `SlewingV`. -/
def Slewing (cfg : Cfg ρ) (g : Req ρ) (s : St ρ) (j : Nat) : Prop := SlewingV cfg g s.v j

/-- no ratio request outstanding: initial ratio set, `slew_len = 0`, `new_io_ratio = 0`, `step_step = 0` -/
def Quiescent (s : St ρ) : Prop := QuiescentV s.v

def NoRatio (ops : List (Op ρ)) : Prop := ∀ o ∈ ops, o.isRatio = false

/-! ## 1. The request: `soxr_set_io_ratio(r, slew_len)`, `slew_len > 0` -/

/-- The increment `vr_set_io_ratio` stores is `(target − step)/slew_len` rounded to nearest: `slew_len` increments
    miss the target by at most `slew_len/2` units of `2⁻³²`; and it points towards the target. -/
theorem slew_increment_rounding (cfg : Cfg ρ) (s : St ρ) (r : ρ) (L : Nat) (hL : 0 < L) :
    let T := cfg.num.stepOf r s.cur.mult
    let inc := (setIoRatio cfg s r L).cur.ss
    2 * ((L : Int) * inc - (T - s.cur.step)) ≤ L ∧ 2 * ((T - s.cur.step) - (L : Int) * inc) ≤ L ∧
    (s.cur.step ≤ T → 0 ≤ inc) ∧ (T ≤ s.cur.step → inc ≤ 0) := by
  intro T inc
  have h : inc = slewInc T s.cur.step L := (setIoRatio_slew_spec cfg s r L (by omega)).2.2.2.2.2.2.2.1
  rw [h]
  exact ⟨(slewInc_bound T s.cur.step L hL).1, (slewInc_bound T s.cur.step L hL).2, slewInc_sign T s.cur.step L hL⟩

/-- A request with a non-zero increment starts a slew: the engine is at frame 0 of `Slewing`. -/
theorem slew_request (cfg : Cfg ρ) (s : St ρ) (r : ρ) (L : Nat) (hL : 0 < L) (hd : s.defR = none)
    (hne : slewInc (cfg.num.stepOf r s.cur.mult) s.cur.step L ≠ 0) :
    Slewing cfg { step0 := s.cur.step, ss0 := slewInc (cfg.num.stepOf r s.cur.mult) s.cur.step L, L := L, r := r,
                  mult := s.cur.mult } (setIoRatio cfg s r L) 0 := by
  obtain ⟨h1, h2, h3, _, _, _, _, h8, _, h10⟩ := setIoRatio_slew_spec cfg s r L (by omega)
  obtain ⟨h11, h12⟩ := h10 hne
  exact ⟨h1.trans hd, h3, Or.inl ⟨hL, h11.trans (by simp), h12, h2.trans (by simp), h8⟩⟩

/-- A request whose increment rounds to zero (target within `slew_len/2` units of `2⁻³²`) is dropped: nothing moves,
    no slew is left running. -/
theorem slew_request_dropped (cfg : Cfg ρ) (s : St ρ) (r : ρ) (L : Nat) (hL : 0 < L) (hd : s.defR = none)
    (h0 : slewInc (cfg.num.stepOf r s.cur.mult) s.cur.step L = 0) :
    Quiescent (setIoRatio cfg s r L) ∧ (setIoRatio cfg s r L).cur.step = s.cur.step ∧
    2 * (cfg.num.stepOf r s.cur.mult - s.cur.step) ≤ L ∧ 2 * (s.cur.step - cfg.num.stepOf r s.cur.mult) ≤ L := by
  obtain ⟨h1, h2, _, _, _, _, _, h8, h9, _⟩ := setIoRatio_slew_spec cfg s r L (by omega)
  have b := slewInc_bound (cfg.num.stepOf r s.cur.mult) s.cur.step L hL
  rw [h0] at b
  exact ⟨⟨h1.trans hd, (h9 h0).1, (h9 h0).2, h8.trans h0⟩, h2, by omega, by omega⟩

/-! ## 2. The slew: `step = step₀ + j·step_step`, then the snap -/

/-- **Slew progression.**  Over any sequence of `soxr_process` calls (any block sizes, flush included) without a new
    ratio request, without a stage switch (`nsw = 0`) and with the two cross-faded streams in step (`nmis = 0`, the C
    assertion `odone == odone2`): after `n` more output frames the engine is `n` frames further along the slew. -/
theorem slew_progression (cfg : Cfg ρ) (g : Req ρ) (s : St ρ) (j : Nat) (ops : List (Op ρ))
    (h : Slewing cfg g s j) (hops : NoRatio ops)
    (hsw : (run cfg { st := s } ops).nsw = 0) (hmis : (run cfg { st := s } ops).nmis = 0) :
    Slewing cfg g (run cfg { st := s } ops).st (j + (run cfg { st := s } ops).out) :=
  SlewingV_run cfg g ops { st := s } j hops h hsw hmis

/-- While the snap has not happened, `step` is exactly linear in the frames delivered — so it moves monotonically,
    by the same signed amount every frame. -/
theorem slew_step_linear (cfg : Cfg ρ) (g : Req ρ) (s : St ρ) (j : Nat) (h : Slewing cfg g s j)
    (hp : s.newR ≠ none) :
    s.cur.step = g.step0 + ((min j g.L : Nat) : Int) * g.ss0 ∧ s.cur.ss = g.ss0 ∧ s.slew = (g.L : Int) - (min j g.L : Nat) := by
  obtain ⟨_, _, hc⟩ := h
  simp only [St.v] at hc
  rcases hc with ⟨hj, h1, _, h3, h4⟩ | ⟨hj, h1, _, h3, h4⟩ | ⟨_, _, h2, _, _⟩
  · rw [Nat.min_eq_left (Nat.le_of_lt hj)]; exact ⟨h3, h4, h1⟩
  · rw [hj, Nat.min_self]; exact ⟨h3, h4, by omega⟩
  · exact absurd h2 hp

/-- **The snap.**  More than `slew_len` frames after the request, `step` is the target exactly, `step_step = 0`,
    and no request is outstanding. -/
theorem snap_exact (cfg : Cfg ρ) (g : Req ρ) (s : St ρ) (j : Nat) (h : Slewing cfg g s j) (hj : g.L < j) :
    s.cur.step = cfg.num.stepOf g.r s.cur.mult ∧ Quiescent s := by
  obtain ⟨hd, hm, hc⟩ := h
  simp only [St.v] at hd hm hc
  rcases hc with ⟨h0, _⟩ | ⟨h0, _⟩ | ⟨_, h1, h2, h3, h4⟩
  · omega
  · omega
  · exact ⟨by rw [h3, hm], ⟨hd, h1, h2, h4⟩⟩

/-- **Overshoot before the snap.**  During the slew `step` stays between its starting value and the target, except
    that it may pass the target by at most `slew_len/2` units of `2⁻³²` (the rounding of the increment). -/
theorem slew_overshoot_bound (cfg : Cfg ρ) (g : Req ρ) (s : St ρ) (j : Nat) (h : Slewing cfg g s j)
    (hp : s.newR ≠ none) (hL : 0 < g.L) (hg : g.ss0 = slewInc (cfg.num.stepOf g.r g.mult) g.step0 g.L) :
    let T := cfg.num.stepOf g.r g.mult
    (g.step0 ≤ T → g.step0 ≤ s.cur.step ∧ 2 * (s.cur.step - T) ≤ g.L) ∧
    (T ≤ g.step0 → s.cur.step ≤ g.step0 ∧ 2 * (T - s.cur.step) ≤ g.L) := by
  intro T
  obtain ⟨h1, _, _⟩ := slew_step_linear cfg g s j h hp
  have b := slewInc_bound T g.step0 g.L hL
  have sg := slewInc_sign T g.step0 g.L hL
  rw [← hg] at b sg
  have hm : ((min j g.L : Nat) : Int) ≤ g.L := by omega
  have hm0 : (0 : Int) ≤ ((min j g.L : Nat) : Int) := by omega
  generalize ((min j g.L : Nat) : Int) = m at *
  constructor
  · intro hT
    have hs := sg.1 hT
    have e1 : 0 ≤ m * g.ss0 := Int.mul_nonneg hm0 hs
    have e2 : m * g.ss0 ≤ (g.L : Int) * g.ss0 := Int.mul_le_mul_of_nonneg_right hm hs
    omega
  · intro hT
    have hs := sg.2 hT
    have e1 : m * g.ss0 ≤ 0 := Int.mul_nonpos_of_nonneg_of_nonpos hm0 hs
    have e2 : (g.L : Int) * g.ss0 ≤ m * g.ss0 := Int.mul_le_mul_of_nonpos_right hm hs
    omega

/-- The sign of `step_step` never changes without a new request — through stage switches, fades, flush, anything:
    the ratio never turns round in mid-slew. -/
theorem slew_sign_invariant (cfg : Cfg ρ) (s : St ρ) (ops : List (Op ρ)) (hops : NoRatio ops) :
    (0 ≤ s.cur.ss → 0 ≤ (run cfg { st := s } ops).st.cur.ss) ∧
    (s.cur.ss ≤ 0 → (run cfg { st := s } ops).st.cur.ss ≤ 0) :=
  run_ss_sign cfg ops { st := s } hops

/-- Whatever happened before (stage switches included): the chunk that finds the slew finished sets `step` to the
    target of the pending request, exactly, in the units of the stage then current. -/
theorem snap_sets_target (cfg : Cfg ρ) (s : St ρ) (rem : Nat) (r : ρ) (h0 : s.slew = 0) (hr : s.newR = some r) :
    (chunkStart cfg s rem).1.cur.step = cfg.num.stepOf r s.cur.mult ∧ (chunkStart cfg s rem).1.cur.ss = 0 ∧
    (chunkStart cfg s rem).1.newR = none ∧ (chunkStart cfg s rem).1.slew = 0 := by
  rw [chunkStart_pending cfg s rem r h0 hr]
  exact ⟨rfl, rfl, rfl, h0⟩

/-- **The snap sets BOTH streams.**  The chunk that finds the slew finished puts the fade-out stream on the target as
    well (in the units of its own stage) and clears its slew increment too — whether or not a cross-fade is in progress
    — so that a fade running at the end of a slew does not keep slewing on one side. -/
theorem snap_sets_both_streams (cfg : Cfg ρ) (s : St ρ) (rem : Nat) (r : ρ) (h0 : s.slew = 0) (hr : s.newR = some r) :
    (chunkStart cfg s rem).1.cur.step = cfg.num.stepOf r s.cur.mult ∧ (chunkStart cfg s rem).1.cur.ss = 0 ∧
    (chunkStart cfg s rem).1.fo.step = cfg.num.stepOf r s.fo.mult ∧ (chunkStart cfg s rem).1.fo.ss = 0 ∧
    (chunkStart cfg s rem).1.cur.clk = s.cur.clk ∧ (chunkStart cfg s rem).1.fo.clk = s.fo.clk ∧
    (chunkStart cfg s rem).1.fade = s.fade := by
  rw [chunkStart_pending cfg s rem r h0 hr]
  exact ⟨rfl, rfl, rfl, rfl, rfl, rfl, rfl⟩

/-- No chunk is longer than `AL(buf) >> 1 = 64` frames, and none outlasts the slew. -/
theorem chunk_length (cfg : Cfg ρ) (s : St ρ) (rem : Nat) :
    (chunkStart cfg s rem).2 ≤ chunkMax ∧ (chunkStart cfg s rem).2 ≤ rem ∧
    (s.slew ≠ 0 → (chunkStart cfg s rem).2 ≤ s.slew) := by
  unfold chunkStart
  dsimp only
  split
  · exact ⟨by omega, by omega, fun _ => by omega⟩
  · split <;> exact ⟨by omega, by omega, fun h => by omega⟩

/-! ## 3. `slew_len = 0`: at once; and staying there -/

/-- **Immediate when zero.**  `soxr_set_io_ratio(r, 0)` sets `step` to the target at once (first call: after choosing
    the stage by the octave of `r`). -/
theorem immediate_when_zero (cfg : Cfg ρ) (s : St ρ) (r : ρ) :
    (setIoRatio cfg s r 0).cur.step = cfg.num.stepOf r (setIoRatio cfg s r 0).cur.mult ∧
    (setIoRatio cfg s r 0).defR = none :=
  ⟨(setIoRatio_zero_spec cfg s r).2.1, (setIoRatio_zero_spec cfg s r).1⟩

/-- **The stage the first request starts on**: `octave < 0 ? −1 : min(octave, num_stages0 − 1)` with `num_stages0` the
    number of half-band octaves the declared maximum needs (0 for a maximum `≤ 1`, where `num_stages = 1`); the stream is
    a down-sampling one exactly on stages `≥ 0`, and its clock starts half a step in. -/
theorem first_ratio_stage (cfg : Cfg ρ) (s : St ρ) (r x : ρ) (hd : s.defR = some x) :
    (setIoRatio cfg s r 0).cur.sn = (if cfg.num.octave r < 0 then -1 else min (cfg.num.octave r) ((s.ns0 : Int) - 1)) ∧
    (setIoRatio cfg s r 0).cur.isD = decide ((setIoRatio cfg s r 0).cur.sn ≥ 0) ∧
    (setIoRatio cfg s r 0).cur.clk = INT s.cur.clk * two32 + FRAC (setIoRatio cfg s r 0).cur.step / 2 ∧
    -1 ≤ (setIoRatio cfg s r 0).cur.sn ∧ ((setIoRatio cfg s r 0).cur.sn : Int) ≤ max ((s.ns0 : Int) - 1) (-1) := by
  obtain ⟨h1, h2, h3⟩ := setIoRatio_first_sn cfg s r x hd
  refine ⟨h1, ?_, ?_, h2, h3⟩ <;> rw [setIoRatio_first cfg s r x hd] <;> rfl

/-- with a declared maximum `≤ 1` (`num_stages0 = 0`) the engine starts on the up-sampling stage −1 whatever the octave
    of the first ratio -/
theorem first_ratio_stage_max_le_one (cfg : Cfg ρ) (s : St ρ) (r x : ρ) (hd : s.defR = some x) (h0 : s.ns0 = 0) :
    (setIoRatio cfg s r 0).cur.sn = -1 ∧ (setIoRatio cfg s r 0).cur.isD = false := by
  obtain ⟨h1, h2, _, h4, h5⟩ := first_ratio_stage cfg s r x hd
  rw [h0] at h5
  have : (setIoRatio cfg s r 0).cur.sn = -1 := by omega
  exact ⟨this, by rw [h2, this]; decide⟩

/-- … and **nothing is left outstanding, whatever was going on before**: a slew in progress or a pending snap is
    cancelled (`slew_len = 0`, `new_io_ratio = 0`, `step_step = 0` for both streams).  No hypothesis on `s`.
    (On the pinned tree this needed "no slew is running and no snap is pending": F13, repaired; §3b.) -/
theorem immediate_quiescent (cfg : Cfg ρ) (s : St ρ) (r : ρ) : Quiescent (setIoRatio cfg s r 0) := by
  obtain ⟨h1, _, _, _, a, b, c, _⟩ := setIoRatio_zero_spec cfg s r
  exact ⟨h1, a, b, c⟩

/-- the fade-out stream's slew increment is cancelled too -/
theorem immediate_cancels_fadeout_slew (cfg : Cfg ρ) (s : St ρ) (r : ρ) : (setIoRatio cfg s r 0).fo.ss = 0 :=
  (setIoRatio_zero_spec cfg s r).2.2.2.2.2.2.2

/-- **Stays at the target.**  With no request outstanding, no sequence of calls (without a new request) changes
    anything: no slew starts by itself, and as long as no stage switch happens `step` does not move at all.
    (At a stage switch it is rescaled: `stage_switch_rescale`.) -/
theorem stays_at_target (cfg : Cfg ρ) (s : St ρ) (ops : List (Op ρ)) (h : Quiescent s) (hops : NoRatio ops) :
    Quiescent (run cfg { st := s } ops).st ∧
    ((run cfg { st := s } ops).nsw = 0 →
      (run cfg { st := s } ops).st.cur.step = s.cur.step ∧ (run cfg { st := s } ops).st.cur.mult = s.cur.mult ∧
      (run cfg { st := s } ops).st.cur.sn = s.cur.sn) :=
  QuiescentV_run cfg ops { st := s } hops h

/-- **At once, and then stays at `r`** — for every state `s` (a slew may be running, a snap pending, a fade in progress,
    the very first request included), every `r`, every later sequence of calls without a new request: the engine is
    quiescent, and as long as no stage switch happens `step` is exactly the target.  No hypothesis on the history. -/
theorem immediate_then_stays (cfg : Cfg ρ) (s : St ρ) (r : ρ) (ops : List (Op ρ)) (hops : NoRatio ops) :
    Quiescent (run cfg { st := setIoRatio cfg s r 0 } ops).st ∧
    ((run cfg { st := setIoRatio cfg s r 0 } ops).nsw = 0 →
      (run cfg { st := setIoRatio cfg s r 0 } ops).st.cur.step = cfg.num.stepOf r (setIoRatio cfg s r 0).cur.mult ∧
      (run cfg { st := setIoRatio cfg s r 0 } ops).st.cur.mult = (setIoRatio cfg s r 0).cur.mult) := by
  obtain ⟨hq, hs⟩ := stays_at_target cfg (setIoRatio cfg s r 0) ops (immediate_quiescent cfg s r) hops
  refine ⟨hq, fun hsw => ?_⟩
  obtain ⟨e1, e2, _⟩ := hs hsw
  exact ⟨by rw [e1]; exact (immediate_when_zero cfg s r).1, e2⟩

/-- **Every request settles** (the clause "moves to `r` over `slew_len` output frames — at once if `slew_len` is 0 — and
    then stays at `r`", for all histories).  From *any* state in which the first ratio has been set — whatever slew,
    snap or fade is in progress — a request `(r, L)` followed by any calls without a new request, without a stage
    switch (`nsw = 0`) and with the cross-faded streams in step (`nmis = 0`) that deliver more than `L` frames leaves
    nothing outstanding, with `step` equal to the target exactly; the one exception is the request whose increment
    rounds to zero (`L > 0`, target within `L/2` units of `2⁻³²`), which is dropped and leaves `step` where it was,
    within `L/2` units of the target. -/
theorem request_settles (cfg : Cfg ρ) (s : St ρ) (r : ρ) (L : Nat) (ops : List (Op ρ)) (hd : s.defR = none)
    (hops : NoRatio ops) (hsw : (run cfg { st := setIoRatio cfg s r L } ops).nsw = 0)
    (hmis : (run cfg { st := setIoRatio cfg s r L } ops).nmis = 0)
    (hout : L < (run cfg { st := setIoRatio cfg s r L } ops).out) :
    let T := cfg.num.stepOf r s.cur.mult
    let R := run cfg { st := setIoRatio cfg s r L } ops
    Quiescent R.st ∧ R.st.cur.mult = s.cur.mult ∧
    ((L = 0 ∨ slewInc T s.cur.step L ≠ 0) → R.st.cur.step = T) ∧
    ((0 < L ∧ slewInc T s.cur.step L = 0) →
      R.st.cur.step = s.cur.step ∧ 2 * (T - R.st.cur.step) ≤ L ∧ 2 * (R.st.cur.step - T) ≤ L) := by
  intro T R
  -- a request that leaves the engine quiescent: `stays_at_target` carries `step` and `step_mult` through the run
  have stay (hq : Quiescent (setIoRatio cfg s r L)) : Quiescent R.st ∧
      R.st.cur.step = (setIoRatio cfg s r L).cur.step ∧ R.st.cur.mult = (setIoRatio cfg s r L).cur.mult := by
    obtain ⟨hq', hs⟩ := stays_at_target cfg _ ops hq hops
    exact ⟨hq', (hs hsw).1, (hs hsw).2.1⟩
  by_cases hL : L = 0
  · subst hL
    obtain ⟨hq, e1, e2⟩ := stay (immediate_quiescent cfg s r)
    have hm := ((setIoRatio_zero_spec cfg s r).2.2.2.1 hd).1
    exact ⟨hq, e2.trans hm, fun _ => by rw [e1, (immediate_when_zero cfg s r).1, hm], fun h => absurd h.1 (by omega)⟩
  · have hLp : 0 < L := by omega
    have hm := (setIoRatio_slew_spec cfg s r L hL).2.2.1
    by_cases h0 : slewInc T s.cur.step L = 0
    · obtain ⟨hq0, hstep, b1, b2⟩ := slew_request_dropped cfg s r L hLp hd h0
      obtain ⟨hq, e1, e2⟩ := stay hq0
      exact ⟨hq, e2.trans hm, fun h => (h.elim (absurd · hL) (absurd h0 ·)), fun _ => by rw [e1, hstep]; exact ⟨rfl, b1, b2⟩⟩
    · have hprog := slew_progression cfg _ _ 0 ops (slew_request cfg s r L hLp hd h0) hops hsw hmis
      rw [Nat.zero_add] at hprog
      obtain ⟨hstep, hq⟩ := snap_exact cfg _ _ _ hprog hout
      exact ⟨hq, hprog.2.1, fun _ => hstep.trans (by rw [show R.st.cur.mult = s.cur.mult from hprog.2.1]), fun h => absurd h.2 h0⟩

/-! ## 3b. Historical record: F13 on the tree before its `fix:` commit

Until the repair the immediate branch of `vr_set_io_ratio` did not touch `slew_len`, `step_step`, `new_io_ratio`.
`Historical.setIoRatioPre` is that function; `runPre` runs a call sequence with it (the rest of the engine is
unchanged — `vr_process` applies the creation-time ratio through the same function, but on a fresh engine the three
fields are zero, so clearing them changes nothing).  The two theorems below were the negation of "then stays at `r`"
on the pinned tree (replayed on the real code as witnessA / witnessB / e20, finding F13); `witnesses_repaired` is the
same two call sequences on the model of the current code, which the check replays on the current code on every run.
(Here and below a concrete run is evaluated by the kernel after `run_eq_fast` / `runPre_eq_fast` / `runH_eq_fast`: the same
model, with a chunk that has all its input taken in one step instead of one iteration per frame.) -/

def b8 : Nat := 0x4020000000000000      -- 8.0
def b6 : Nat := 0x4018000000000000      -- 6.0
def b4 : Nat := 0x4010000000000000      -- 4.0
def b3 : Nat := 0x4008000000000000      -- 3.0
def b2 : Nat := 0x4000000000000000      -- 2.0
def b1 : Nat := 0x3FF0000000000000      -- 1.0
def b025 : Nat := 0x3FD0000000000000    -- 0.25
def b39 : Nat := 0x400F333333333333     -- 3.9 (nearest double)

def wcfg : Cfg Nat := { num := Num.exact }

namespace Historical

/-- `vr_set_io_ratio` as it was before the repair of F13: the immediate branch leaves `slew_len`, `new_io_ratio` and
    the `step_step`s alone. -/
def setIoRatioPre (cfg : Cfg ρ) (s : St ρ) (r : ρ) (slew : Nat) : St ρ :=
  if slew ≠ 0 then setIoRatio cfg s r slew
  else
    let first := s.defR.isSome
    let s1 :=
      if first then
        let oct := cfg.num.octave r
        let sn : Int := if oct < 0 then -1 else min oct ((s.ns0 : Int) - 1)
        enter { s with cur := { s.cur with sn := sn } } 0
      else if s.fade ≠ 0 then { s with fo := setStep cfg s.fo r }
      else s
    let c := setStep cfg s1.cur r
    let c := if first then { c with clk := INT c.clk * two32 + FRAC c.step / 2 } else c
    { s1 with cur := c, defR := none }

def stepOpPre (cfg : Cfg ρ) (r : Run ρ) : Op ρ → Run ρ
  | .ratio x slew => { r with st := setIoRatioPre cfg r.st x slew }
  | o => stepOp cfg r o

def runPre (cfg : Cfg ρ) (r : Run ρ) (ops : List (Op ρ)) : Run ρ := ops.foldl (stepOpPre cfg) r

/-- `runPre` as the kernel evaluates it: full chunks in closed form (`processF`, `Vr/C16Lemmas.lean`) -/
theorem runPre_eq_fast (cfg : Cfg ρ) (r : Run ρ) (ops : List (Op ρ)) :
    runPre cfg r ops =
      ops.foldl (stepOpG (setIoRatioPre cfg) (processF (fun a dif occ => switchOcc a dif occ) cfg)) r := by
  have hs : stepOpPre cfg = stepOpG (setIoRatioPre cfg) (process cfg) := by funext r o; cases o <;> rfl
  rw [← process_eq_processF, ← hs]; rfl

/-- the repair is exactly "clear the four fields first" -/
theorem setIoRatio_eq_pre_after_clear (cfg : Cfg ρ) (s : St ρ) (r : ρ) :
    setIoRatio cfg s r 0 =
      setIoRatioPre cfg { s with slew := 0, newR := none, cur := { s.cur with ss := 0 }, fo := { s.fo with ss := 0 } } r 0 := by
  simp [setIoRatio, setIoRatioPre]

/-- … so when nothing is outstanding (and the fade-out increment is zero) the two functions agree -/
theorem setIoRatio_eq_pre_of_quiescent (cfg : Cfg ρ) (s : St ρ) (r : ρ) (L : Nat)
    (h : s.slew = 0 ∧ s.newR = none ∧ s.cur.ss = 0 ∧ s.fo.ss = 0) : setIoRatio cfg s r L = setIoRatioPre cfg s r L := by
  by_cases hL : L = 0
  · subst hL
    rw [setIoRatio_eq_pre_after_clear]
    obtain ⟨h1, h2, h3, h4⟩ := h
    have : ({ s with slew := 0, newR := none, cur := { s.cur with ss := 0 }, fo := { s.fo with ss := 0 } } : St ρ) = s := by
      cases s with
      | mk ns0 ns fl fade slew xfade inc sw newR defR oocc stages cur fo =>
        cases cur; cases fo
        simp_all
    rw [this]
  · simp [setIoRatioPre, hL]

/-- e20.c scaled down: at ratio 4, slew to 1.0 over 500 frames; 50 frames into it, `soxr_set_io_ratio(3.9, 0)`. -/
def opsA : List (Op Nat) :=
  [.ratio b4 0] ++ List.replicate 10 (.proc 400 50) ++ [.ratio b1 500] ++ [.proc 400 50] ++
    [.ratio b39 0] ++ List.replicate 14 (.proc 400 50)

/-- the slew has just delivered its last frame when the immediate request arrives (snap pending) -/
def opsB : List (Op Nat) :=
  [.ratio b4 0] ++ List.replicate 10 (.proc 400 50) ++ [.ratio b2 100] ++ [.proc 400 50, .proc 400 50] ++
    [.ratio b3 0] ++ [.proc 400 50, .proc 400 50]

def witnessAPre : Run Nat := runPre wcfg { st := init wcfg b8 } opsA
def witnessBPre : Run Nat := runPre wcfg { st := init wcfg b8 } opsB
def witnessA : Run Nat := run wcfg { st := init wcfg b8 } opsA
def witnessB : Run Nat := run wcfg { st := init wcfg b8 } opsB

/-- **F13 (historical; the pre-repair function).**  The last request was `(3.9, 0)`; 700 frames later nothing is
    outstanding, yet `step` is the target of the *abandoned* slew (1.0), not 3.9. -/
theorem pre_fix_stays_at_target_fails_during_slew :
    witnessAPre.st.slew = 0 ∧ witnessAPre.st.newR = none ∧ witnessAPre.nneg = 0 ∧
    witnessAPre.st.cur.step = exactStepOf b1 witnessAPre.st.cur.mult ∧
    witnessAPre.st.cur.step ≠ exactStepOf b39 witnessAPre.st.cur.mult := by
  simp only [witnessAPre, runPre_eq_fast]
  decide +kernel

/-- Same defect, other window: the request arrives after the last frame of a slew but before the next chunk has
    snapped; the next `vr_process` then overwrote 3.0 with the old target 2.0. -/
theorem pre_fix_stays_at_target_fails_snap_pending :
    witnessBPre.st.slew = 0 ∧ witnessBPre.st.newR = none ∧
    witnessBPre.st.cur.step = exactStepOf b2 witnessBPre.st.cur.mult ∧
    witnessBPre.st.cur.step ≠ exactStepOf b3 witnessBPre.st.cur.mult := by
  simp only [witnessBPre, runPre_eq_fast]
  decide +kernel

/-- The same call sequences on the model of the current code end at the last requested ratio (instances of
    `immediate_then_stays`; computed here so that the check can replay exactly these numbers on the real code). -/
theorem witnesses_repaired :
    witnessA.st.cur.step = exactStepOf b39 witnessA.st.cur.mult ∧ witnessA.st.slew = 0 ∧ witnessA.st.newR = none ∧
    witnessB.st.cur.step = exactStepOf b3 witnessB.st.cur.mult ∧ witnessB.st.slew = 0 ∧ witnessB.st.newR = none := by
  simp only [witnessA, witnessB, run_eq_fast]
  decide +kernel

end Historical

/-! ## 4. Stage switch: one power of two, time continuous -/

/-- **Rescaling.**  At a stage switch the old current stream becomes the fade-out stream unchanged; the new current
    stream reads the neighbouring stage with `at`, `step`, `step_step` shifted by one power of two (two for `step`
    and `step_step` between the up-sampling stage −1 and stage 0, whose streams run at different output rates);
    the pending request and the slew counter are untouched; the cross-fade of the streams starts. -/
theorem stage_switch_rescale (s : St ρ) (dif occ0 : Int) :
    (switchStage s dif occ0).fo = s.cur ∧ (switchStage s dif occ0).cur.sn = s.cur.sn + dif ∧
    (switchStage s dif occ0).cur.clk = lshift s.cur.clk (-dif) ∧
    (switchStage s dif occ0).cur.step = lshift s.cur.step (switchShift s dif) ∧
    (switchStage s dif occ0).cur.ss = lshift s.cur.ss (switchShift s dif) ∧
    (switchStage s dif occ0).slew = s.slew ∧ (switchStage s dif occ0).newR = s.newR ∧
    (switchStage s dif occ0).fade = fadeLen := by
  obtain ⟨h1, h2, _, _, _, h6, h7, _, h9, _, _, h12, h13, h14⟩ := switchStage_spec s dif occ0
  exact ⟨h6, h9, h12, h13, h14, h1, h2, h7⟩

/-- **The shifts of the repaired code are the model's (F14).**  `vr_process` rescales with the macro
    `lshift(x,by) = by > 0 ? (int64_t)((uint64_t)x << by) : x >> -by` (`lshiftC`); the model's `lshift` multiplies /
    floor-divides unbounded integers.  They agree for every value — negative ones included: the `step_step` of a downward
    slew at a switch to the finer stage, which the pinned tree shifted left as a signed value (undefined behaviour) —
    whenever the left-shifted value still fits 64 bits.  So the three fields after a stage switch are what the C code
    computes. -/
theorem stage_switch_shifts_as_repaired_code (s : St ρ) (dif occ0 : Int)
    (hfit : ∀ x ∈ [s.cur.clk, s.cur.step, s.cur.ss], ∀ k ∈ [-dif, switchShift s dif],
      k > 0 → -2 ^ 63 ≤ x * 2 ^ k.toNat ∧ x * 2 ^ k.toNat < 2 ^ 63) :
    (switchStage s dif occ0).cur.clk = lshiftC s.cur.clk (-dif) ∧
    (switchStage s dif occ0).cur.step = lshiftC s.cur.step (switchShift s dif) ∧
    (switchStage s dif occ0).cur.ss = lshiftC s.cur.ss (switchShift s dif) := by
  obtain ⟨_, _, h3, h4, h5, _⟩ := stage_switch_rescale s dif occ0
  rw [h3, h4, h5]
  refine ⟨(lshiftC_eq_lshift _ _ ?_).symm, (lshiftC_eq_lshift _ _ ?_).symm, (lshiftC_eq_lshift _ _ ?_).symm⟩
  · exact hfit _ (by simp) _ (by simp)
  · exact hfit _ (by simp) _ (by simp)
  · exact hfit _ (by simp) _ (by simp)

/-- a negative `step_step` shifted left by one, as at every downward octave crossing: `-3221225 → -6442450` -/
example : lshiftC (-3221225) 1 = lshift (-3221225) 1 ∧ lshift (-3221225) 1 = -6442450 ∧
    (-2 ^ 63 ≤ (-3221225 : Int) * 2 ^ 1 ∧ (-3221225 : Int) * 2 ^ 1 < 2 ^ 63) := by decide

/-- **Time continuity, switching down** (to the stage with twice the rate; only taken from a down-sampling stream):
    read position, ratio and slew rate in input time are *exactly* unchanged. -/
theorem stage_switch_down_continuous (s : St ρ) (occ0 : Int) (hsn : 0 ≤ s.cur.sn) (hd : s.cur.isD = true) :
    posIn (switchStage s (-1) occ0).cur = posIn s.cur ∧ rateIn (switchStage s (-1) occ0).cur = rateIn s.cur ∧
    slewIn (switchStage s (-1) occ0).cur = slewIn s.cur := by
  obtain ⟨_, _, _, _, _, _, _, _, h9, h10, _, h12, h13, h14⟩ := switchStage_spec s (-1) occ0
  have hp := posScale_succ (s.cur.sn + -1) (by omega)
  rw [show s.cur.sn + -1 + 1 = s.cur.sn by omega] at hp
  unfold posIn rateIn slewIn rateScale
  rw [h9, h10, h12, h13, h14, hd, hp, Int.neg_neg, lshift_one]
  unfold switchShift
  rw [hd]
  generalize posScale (s.cur.sn + -1) = P
  by_cases h0 : 0 ≤ s.cur.sn + -1
  · rw [decide_eq_true h0]
    simp only [b2i, if_true, Int.neg_neg]
    rw [show (1 : Int) + (1 - 1) = 1 by decide, lshift_one, lshift_one]
    exact ⟨by ring, by ring, by ring⟩
  · -- to the up-sampling stage (one step per frame): `step` and `step_step` are shifted by two
    rw [decide_eq_false h0]
    simp only [b2i, if_true, Bool.false_eq_true, if_false, Int.neg_neg]
    rw [show (1 : Int) + (1 - 0) = 2 by decide, lshift_two, lshift_two]
    exact ⟨by ring, by ring, by ring⟩

/-- **Time continuity, switching up** (to the stage with half the rate): the three are rounded *down* to the coarser
    representation — the read position moves back by less than one unit of the new clock (`2⁻³²` sample of the new
    stage), the ratio and the slew rate fall by less than one unit of the new `step`. -/
theorem stage_switch_up_continuous (s : St ρ) (occ0 : Int) (hsn : -1 ≤ s.cur.sn) (hd : s.cur.isD = decide (0 ≤ s.cur.sn)) :
    let c' := (switchStage s 1 occ0).cur
    (0 ≤ posIn s.cur - posIn c' ∧ posIn s.cur - posIn c' < posScale c'.sn) ∧
    (0 ≤ rateIn s.cur - rateIn c' ∧ rateIn s.cur - rateIn c' < rateScale c') ∧
    (0 ≤ slewIn s.cur - slewIn c' ∧ slewIn s.cur - slewIn c' < rateScale c') := by
  obtain ⟨_, _, _, _, _, _, _, _, h9, h10, _, h12, h13, h14⟩ := switchStage_spec s 1 occ0
  have hp := posScale_succ s.cur.sn hsn
  have hpos := posScale_pos s.cur.sn
  have e : decide (s.cur.sn + 1 ≥ 0) = true := by simp; omega
  dsimp only
  unfold posIn rateIn slewIn rateScale
  rw [h9, h10, h12, h13, h14, e, hp, lshift_neg_one]
  unfold switchShift
  rw [e, hd]
  have a := half_floor_scaled s.cur.clk (posScale s.cur.sn) hpos
  by_cases h0 : 0 ≤ s.cur.sn
  · -- between down-sampling stages all three are halved
    have b := half_floor_scaled s.cur.step (posScale s.cur.sn * 2) (by omega)
    have c := half_floor_scaled s.cur.ss (posScale s.cur.sn * 2) (by omega)
    rw [decide_eq_true h0]
    simp only [b2i, if_true]
    rw [show -(1 : Int) + (1 - 1) = -1 by decide, lshift_neg_one, lshift_neg_one]
    rw [Int.mul_assoc 2 _ 2]
    exact ⟨a, b, c⟩
  · -- from the up-sampling stage (one step per frame) `step` and `step_step` are quartered
    have hP : posScale s.cur.sn = 1 := by rw [show s.cur.sn = -1 by omega]; rfl
    rw [decide_eq_false h0]
    simp only [b2i, if_true, Bool.false_eq_true, if_false]
    rw [show -(1 : Int) + (0 - 1) = -2 by decide, lshift_neg_two, lshift_neg_two, hP]
    rw [hP] at a
    exact ⟨⟨by omega, by omega⟩, ⟨by omega, by omega⟩, ⟨by omega, by omega⟩⟩

/-! ## 5. Frame count at a constant ratio, on the clock -/

/-- **N / ratio within two frames (up-sampling stream).**  A stream at a constant `step = S` (`step_step = 0`) that
    starts inside its first step (`0 ≤ at < S`) and is asked for more than it can give delivers `k` frames from `len = N`
    samples with `|k − N·2³²/S| < 1`; and if `S` is `r·2³²` rounded for `r = p/q` samples per frame and `k` is below
    the resolution of the 32-bit fraction (`(k+1)/r ≤ 2³²`), then `|k − N/r| < 2`. -/
theorem frames_for_constant_ratio (s : Stream) (n : Nat) (p q : Int) (hss : s.ss = 0) (hS : 0 < s.step)
    (hA0 : 0 ≤ s.clk) (hA : s.clk < s.step) (hN : 0 ≤ s.len) (hk : (firU s n).2 < n) (hp : 0 < p) (hq : 0 < q)
    (hr1 : s.step * q - p * 4294967296 ≤ q) (hr2 : p * 4294967296 - s.step * q ≤ q)
    (hres : (((firU s n).2 : Int) + 1) * q ≤ p * 4294967296) :
    ((firU s n).2 : Int) * p - s.len * q < 2 * p ∧ s.len * q - ((firU s n).2 : Int) * p < 2 * p := by
  obtain ⟨_, h2, h3⟩ := firU_const n s hss
  have hstop := h2 hk
  generalize (firU s n).2 = k at *
  apply count_within_two (k : Int) s.len s.step s.clk p q hS hA0 hA (by omega) hN hp hq _ hstop hr1 hr2 hres
  intro hk0
  have := h3 (k - 1) (by omega)
  rw [show (((k - 1 : Nat)) : Int) = (k : Int) - 1 by omega] at this
  exact this

/-- The same for a down-sampling stream (`poly_fir_d`): `k` output frames are `k` pairs of 2x-rate samples, the clock
    advances `2·step` per frame. -/
theorem frames_for_constant_ratio_d (s : Stream) (n : Nat) (p q : Int) (hss : s.ss = 0) (hS : 0 < s.step)
    (hA0 : 0 ≤ s.clk) (hA : s.clk < s.step) (hN : 0 ≤ s.len) (hk : (firDPairs s n).2 < n) (hp : 0 < p) (hq : 0 < q)
    (hr1 : 2 * s.step * q - p * 4294967296 ≤ q) (hr2 : p * 4294967296 - 2 * s.step * q ≤ q)
    (hres : (((firDPairs s n).2 : Int) + 1) * q ≤ p * 4294967296) :
    ((firDPairs s n).2 : Int) * p - s.len * q < 2 * p ∧ s.len * q - ((firDPairs s n).2 : Int) * p < 2 * p := by
  obtain ⟨_, h2, h3⟩ := firDPairs_const n s hss (by omega)
  have hstop := h2 hk
  generalize (firDPairs s n).2 = k at *
  apply count_within_two (k : Int) s.len (2 * s.step) (s.clk + s.step) p q (by omega) (by omega) (by omega) (by omega)
    hN hp hq _ _ hr1 hr2 hres
  · intro hk0
    have := h3 (k - 1) (by omega)
    rw [show (((k - 1 : Nat)) : Int) = (k : Int) - 1 by omega] at this
    omega
  · omega

/-- **`vr_process` never delivers more than it was asked for** (`odone0 ≤ olen0`, the space reserved in the output
    FIFO) — from any state, through snaps, stage switches and fades; and `vr_output` hands out at most `n` frames. -/
theorem process_delivers_at_most_requested (cfg : Cfg ρ) (s : St ρ) (olen0 n : Nat) :
    (process cfg s olen0).od ≤ olen0 ∧ (output s n).2 ≤ n := by
  refine ⟨?_, ?_⟩
  · exact process_induct cfg s olen0 (fun _ od _ _ => od ≤ olen0) (Nat.zero_le _) (by
      intro l hl hlt
      have hc := chunk_spec cfg olen0 l
      dsimp only at hc
      obtain ⟨_, _, c3, _, _, _, _, _, _, _, _, _, c14⟩ := hc
      have hb := (chunk_length cfg l.st (olen0 - l.od0)).2.1
      omega)
  · unfold output
    dsimp only
    omega

/-! ## 5b. Frame count at a constant ratio, the whole engine

`Vr/Engine.lean`: `vr_input`, the half-band chain of `do_input_stage` with its preloads, `occupancy0`, the chunked `while`
loop, the hand-back of consumed input to every FIFO, `vr_flush` — for an engine that has just been given its first
ratio and whose increment lies in the octave of the stage it starts on (so that no stage switch is taken). -/

/-- the first request is the first operation of the run -/
theorem run_first_ratio (cfg : Cfg ρ) (s : St ρ) (r : ρ) (ops : List (Op ρ)) :
    run cfg { st := s } ([.ratio r 0] ++ ops) = run cfg { st := setIoRatio cfg s r 0 } ops := by
  simp [run, stepOp]

/-- **N / ratio frames from the WHOLE ENGINE.**  `vr_create(max)`, a first `vr_set_io_ratio(r, 0)`, then ANY sequence of
    `soxr_process` calls (any input block sizes, any output requests, totalling `N` input frames), then ANY flush calls
    of which the last delivers fewer frames than it is asked for (the engine is drained).  If the increment the first
    request stores lies in the octave of the stage it starts on (`InRange`: no stage switch will ever be asked for),
    the total number `K` of frames delivered satisfies

        (K − 1) · ρ  <  N  <  (K + 2) · ρ        i.e.   N/ρ − 2  <  K  <  N/ρ + 1

    where `ρ = rateIn / 2³³` is the ratio the engine actually runs at (`rateIn`: the stored increment in the
    stage-independent unit of `2⁻³³` input frames per output frame).  No stage switch is taken, no cross-fade mismatch
    occurs.  Every stage: up-sampling (−1), stage 0, and every half-band stage `k ≥ 1`, where the chain delivers
    `⌊N / 2^k⌋` samples of stage `k` after the flush — the floor is the second frame of the lower bound. -/
theorem frames_full_engine (cfg : Cfg ρ) (mx r : ρ) (blocks : List (Nat × Nat)) (drain : List Nat) (o : Nat)
    (hrange : InRange (setIoRatio cfg (init cfg mx) r 0).cur)
    (hdr : (run cfg { st := init cfg mx } ([.ratio r 0] ++ (procOps blocks ++ flushOps drain ++ [.flush o]))).out <
      (run cfg { st := init cfg mx } ([.ratio r 0] ++ (procOps blocks ++ flushOps drain))).out + o) :
    let R := run cfg { st := init cfg mx } ([.ratio r 0] ++ (procOps blocks ++ flushOps drain ++ [.flush o]))
    let rate := rateIn (setIoRatio cfg (init cfg mx) r 0).cur
    (0 < R.out → ((R.out : Int) - 1) * rate < (totalIn blocks : Int) * 8589934592) ∧
    (totalIn blocks : Int) * 8589934592 < ((R.out : Int) + 2) * rate ∧ R.nsw = 0 ∧ R.nmis = 0 := by
  rw [run_first_ratio] at hdr ⊢
  rw [run_first_ratio] at hdr
  obtain ⟨_, hisd, _, hlo, _⟩ := first_ratio_stage cfg (init cfg mx) r mx rfl
  unfold InRange at hrange
  unfold rateIn rateScale posScale
  by_cases hneg : (setIoRatio cfg (init cfg mx) r 0).cur.sn = -1
  · rw [hneg] at hisd ⊢
    rw [hisd, if_neg (by decide)] at hrange ⊢
    obtain ⟨a, _, b⟩ := half_frac _ hrange.1
    obtain ⟨e1, e2, e3, e4⟩ := frames_engine_U cfg _ _ _ blocks drain o (engU_init cfg mx r hneg hrange) hdr
    obtain ⟨c, d⟩ := count_upsampling _ _ _ _ a b (fun h => e1 (Int.natCast_pos.mp h)) e2
    rw [show (2 : Int) ^ (-1 + 1 : Int).toNat * 1 = 1 from rfl, Int.mul_one]
    exact ⟨fun h => c (Int.natCast_pos.mpr h), d, e3, e4⟩
  · obtain ⟨k, hk⟩ : ∃ k : Nat, (setIoRatio cfg (init cfg mx) r 0).cur.sn = (k : Int) :=
      ⟨_, (Int.toNat_of_nonneg (by omega)).symm⟩
    rw [hk] at hisd ⊢
    rw [hisd, if_pos (by simp)] at hrange ⊢
    obtain ⟨a, b, _⟩ := half_frac _ (by omega : 0 < (setIoRatio cfg (init cfg mx) r 0).cur.step)
    obtain ⟨e1, e2, e3, e4⟩ := frames_engine_D cfg k _ _ _ blocks drain o (eng_init cfg mx r k hk hrange) hdr
    obtain ⟨c, d⟩ := count_halfband _ (totalIn blocks) _ _ (2 ^ k) (Int.pow_pos (by decide)) hrange.1 a b
      (fun h => e1 (Int.natCast_pos.mp h)) e2
    rw [show ((k : Int) + 1).toNat = k + 1 by omega, Int.pow_succ, Int.mul_assoc]
    exact ⟨fun h => c (Int.natCast_pos.mpr h), d, e3, e4⟩

/-- … against a ratio `p/q` (input frames per output frame) that the stored increment represents exactly — every dyadic
    ratio, e.g. — **within two frames of `N / ratio`**: `N/ratio − 2 < K < N/ratio + 1`. -/
theorem frames_full_engine_exact_ratio (cfg : Cfg ρ) (mx r : ρ) (blocks : List (Nat × Nat)) (drain : List Nat) (o : Nat) (p q : Int)
    (hq : 0 < q) (hpq : rateIn (setIoRatio cfg (init cfg mx) r 0).cur * q = p * 8589934592)
    (hrange : InRange (setIoRatio cfg (init cfg mx) r 0).cur)
    (hdr : (run cfg { st := init cfg mx } ([.ratio r 0] ++ (procOps blocks ++ flushOps drain ++ [.flush o]))).out <
      (run cfg { st := init cfg mx } ([.ratio r 0] ++ (procOps blocks ++ flushOps drain))).out + o) :
    let R := run cfg { st := init cfg mx } ([.ratio r 0] ++ (procOps blocks ++ flushOps drain ++ [.flush o]))
    (0 < R.out → ((R.out : Int) - 1) * p < (totalIn blocks : Int) * q) ∧ (totalIn blocks : Int) * q < ((R.out : Int) + 2) * p := by
  obtain ⟨h1, h2, _, _⟩ := frames_full_engine cfg mx r blocks drain o hrange hdr
  obtain ⟨a, b⟩ := count_vs_ratio _ _ _ p q 0 (Int.natCast_nonneg _) hq (by omega) (by omega)
    (fun h => h1 (Int.natCast_pos.mp h)) h2
  exact ⟨fun h => by have := a (Int.natCast_pos.mpr h); omega, by omega⟩

/-- … and against a ratio `p/q` that the increment only approximates (`|rateIn·q − p·2³³| ≤ e`, the rounding of
    `(int64)(io_ratio * step_mult + .5)` scaled to input time): at most one frame more on either side as long as the
    accumulated rounding stays below a frame, `(K + 2)·e ≤ p·2³³`. -/
theorem frames_full_engine_rounded_ratio (cfg : Cfg ρ) (mx r : ρ) (blocks : List (Nat × Nat)) (drain : List Nat) (o : Nat) (p q e : Int)
    (hq : 0 < q) (_hp : 0 < p) (he1 : rateIn (setIoRatio cfg (init cfg mx) r 0).cur * q ≤ p * 8589934592 + e)
    (he2 : p * 8589934592 ≤ rateIn (setIoRatio cfg (init cfg mx) r 0).cur * q + e) (he0 : 0 ≤ e)
    (hrange : InRange (setIoRatio cfg (init cfg mx) r 0).cur)
    (hdr : (run cfg { st := init cfg mx } ([.ratio r 0] ++ (procOps blocks ++ flushOps drain ++ [.flush o]))).out <
      (run cfg { st := init cfg mx } ([.ratio r 0] ++ (procOps blocks ++ flushOps drain))).out + o)
    (hres : ((run cfg { st := init cfg mx } ([.ratio r 0] ++ (procOps blocks ++ flushOps drain ++ [.flush o]))).out + 2 : Int) * e ≤
      p * 8589934592) :
    let R := run cfg { st := init cfg mx } ([.ratio r 0] ++ (procOps blocks ++ flushOps drain ++ [.flush o]))
    (1 < R.out → ((R.out : Int) - 2) * p < (totalIn blocks : Int) * q) ∧ (totalIn blocks : Int) * q < ((R.out : Int) + 3) * p := by
  obtain ⟨h1, h2, _, _⟩ := frames_full_engine cfg mx r blocks drain o hrange hdr
  obtain ⟨a, b⟩ := count_vs_ratio _ _ _ p q e (Int.natCast_nonneg _) hq he1 he2 (fun h => h1 (Int.natCast_pos.mp h)) h2
  have he3 : 0 ≤ 3 * e := Int.mul_nonneg (by decide) he0
  exact ⟨fun h => by have := a (by omega); linarith, by linarith⟩

/-- **… with no hypothesis on the floating-point evaluation left, for the exact one** (`Num.exact`: exact dyadic arithmetic
    on the bit patterns, which the driver compares with IEEE arithmetic at every ratio): for EVERY declared maximum
    `max < 2³¹` and EVERY normal double `2⁻⁶ ≤ r ≤ max` (doubles as bit patterns; positive doubles are ordered as their
    bit patterns) the stage chosen by the octave suits the increment (`inRange_exact`), so: fresh engine, first ratio
    `r`, any blocking, any flush sequence ending drained ⇒ `N/ρ − 2 < K < N/ρ + 1`, no stage switch, no fade mismatch. -/
theorem frames_full_engine_exact_num (mx r : Nat) (blocks : List (Nat × Nat)) (drain : List Nat) (o : Nat)
    (hmx : mx < 2 ^ 63) (hle : r ≤ mx) (hnorm : 1 ≤ (r / 2 ^ 52) % 2048) (hlo : -6 ≤ exactOctave r) (hhi : exactOctave mx ≤ 30)
    (hdr : (run wcfg { st := init wcfg mx } ([.ratio r 0] ++ (procOps blocks ++ flushOps drain ++ [.flush o]))).out <
      (run wcfg { st := init wcfg mx } ([.ratio r 0] ++ (procOps blocks ++ flushOps drain))).out + o) :
    let R := run wcfg { st := init wcfg mx } ([.ratio r 0] ++ (procOps blocks ++ flushOps drain ++ [.flush o]))
    let rate := rateIn (setIoRatio wcfg (init wcfg mx) r 0).cur
    (0 < R.out → ((R.out : Int) - 1) * rate < (totalIn blocks : Int) * 8589934592) ∧
    (totalIn blocks : Int) * 8589934592 < ((R.out : Int) + 2) * rate ∧ R.nsw = 0 ∧ R.nmis = 0 :=
  frames_full_engine wcfg mx r blocks drain o (inRange_exact mx r hmx hle hnorm hlo hhi) hdr

/-- the hypotheses of `frames_full_engine_exact_num` for maximum 8.0 and ratios 6.0, 0.25 and 3.9 (bit patterns) -/
example : b8 < 2 ^ 63 ∧ b6 ≤ b8 ∧ b025 ≤ b8 ∧ b39 ≤ b8 ∧ 1 ≤ (b6 / 2 ^ 52) % 2048 ∧ 1 ≤ (b025 / 2 ^ 52) % 2048 ∧
    -6 ≤ exactOctave b025 ∧ exactOctave b025 = -2 ∧ exactOctave b39 = 1 ∧ exactOctave b8 ≤ 30 := by decide

set_option maxRecDepth 1000000 in
/-- hypotheses and conclusion on a concrete run: maximum 8, ratio 6 (stage 2, increment `6·2²⁹` inside its octave),
    1000 input frames in blocks of 400/600 with output requests of 30 and 500 (nothing comes out yet: stage 2 has not
    been fed 480 samples), flushes of 100, 40 and 50 of which the last returns 26: 166 frames, `1000/6 = 166.7`,
    `p/q = 6/1` exact, `(166 − 1)·6 < 1000 < (166 + 2)·6` -/
example :
    InRange (setIoRatio wcfg (init wcfg b8) b6 0).cur ∧
    rateIn (setIoRatio wcfg (init wcfg b8) b6 0).cur * 1 = 6 * 8589934592 ∧
    (run wcfg { st := init wcfg b8 } ([.ratio b6 0] ++ (procOps [(400, 30), (600, 500)] ++ flushOps [100, 40] ++ [.flush 50]))).out = 166 ∧
    (run wcfg { st := init wcfg b8 } ([.ratio b6 0] ++ (procOps [(400, 30), (600, 500)] ++ flushOps [100, 40]))).out = 140 ∧
    totalIn [(400, 30), (600, 500)] = 1000 := by
  simp only [run_eq_fast]
  decide +kernel

/-! ## 6. `soxr_set_io_ratio`: who accepts a new ratio -/

/-- **Constant-rate engines refuse.**  An initialised resampler without sticky error whose engine has no
    `set_io_ratio` entry, asked for a ratio that differs from its own by `1e-15` or more: the error string is
    returned, nothing in the struct changes, no engine function is called. -/
theorem cr_refuses_ratio_change (n : ApiNum ρ) (a : ApiSt ρ) (r : ρ) (he : a.sticky = false) (hc : a.nch ≠ 0)
    (hr : n.le0 r = false) (hi : a.inited = true) (hv : a.isVR = false) (hne : n.close a.ioRatio r = false) :
    (apiSetIoRatio n (some a) r).res = .notSupported ∧
    (apiSetIoRatio n (some a) r).res.msg = "varying O/I ratio is not supported with this quality level" ∧
    (apiSetIoRatio n (some a) r).st = some a ∧ (apiSetIoRatio n (some a) r).engineCalls = 0 ∧
    (apiSetIoRatio n (some a) r).initialised = false := by
  simp [apiSetIoRatio, he, hc, hr, hi, hv, hne, SetRes.msg]

/-- the same ratio (within `1e-15`) is accepted by a constant-rate engine, and nothing happens -/
theorem cr_accepts_same_ratio (n : ApiNum ρ) (a : ApiSt ρ) (r : ρ) (he : a.sticky = false) (hc : a.nch ≠ 0)
    (hr : n.le0 r = false) (hi : a.inited = true) (hv : a.isVR = false) (heq : n.close a.ioRatio r = true) :
    (apiSetIoRatio n (some a) r).res = .ok ∧ (apiSetIoRatio n (some a) r).st = some a ∧
    (apiSetIoRatio n (some a) r).engineCalls = 0 := by
  simp [apiSetIoRatio, he, hc, hr, hi, hv, heq]

/-- **The variable-rate engine accepts**: no error, `vr_set_io_ratio` is called once per channel, the struct (its
    `io_ratio` — the declared maximum — included) is unchanged. -/
theorem vr_accepts (n : ApiNum ρ) (a : ApiSt ρ) (r : ρ) (he : a.sticky = false) (hc : a.nch ≠ 0)
    (hr : n.le0 r = false) (hi : a.inited = true) (hv : a.isVR = true) :
    (apiSetIoRatio n (some a) r).res = .ok ∧ (apiSetIoRatio n (some a) r).st = some a ∧
    (apiSetIoRatio n (some a) r).engineCalls = a.nch := by
  simp [apiSetIoRatio, he, hc, hr, hi, hv]

/-- Whatever the engine: a non-positive ratio, a sticky error, a resampler without channels or a null pointer is an
    error and changes nothing. -/
theorem set_io_ratio_error_changes_nothing (n : ApiNum ρ) (p : Option (ApiSt ρ)) (r : ρ)
    (h : (apiSetIoRatio n p r).res ≠ .ok) :
    (apiSetIoRatio n p r).st = p ∧ (apiSetIoRatio n p r).engineCalls = 0 := by
  cases p with
  | none => exact ⟨rfl, rfl⟩
  | some a =>
    -- the four error branches return the struct untouched and call no engine; `h` excludes the three `ok` branches
    let P : SetOut ρ → Prop := fun x => x.res ≠ .ok → x.st = some a ∧ x.engineCalls = 0
    have err : ∀ e, P { res := e, st := some a } := fun _ _ => ⟨rfl, rfl⟩
    have ok : ∀ x : SetOut ρ, x.res = .ok → P x := fun _ e h => absurd e h
    exact iteInduction (motive := P) (fun _ => err _) (fun _ => iteInduction (fun _ => err _) fun _ =>
      iteInduction (fun _ => err _) fun _ => iteInduction (fun _ => ok _ rfl) fun _ =>
      iteInduction (fun _ => ok _ rfl) fun _ => iteInduction (fun _ => ok _ rfl) fun _ => err _) h

/-! ## Non-vacuity: the hypotheses are met by concrete, non-trivial states of a real run -/

/-- a state in mid-slew: ratio 4, then 50 frames into a slew to 1.0 over 500 frames -/
def midSlew : St Nat :=
  (run wcfg { st := init wcfg b8 }
    ([.ratio b4 0] ++ List.replicate 10 (.proc 400 50) ++ [.ratio b1 500] ++ [.proc 400 50])).st

/-- at ratio 4 with nothing outstanding -/
def steady : St Nat :=
  (run wcfg { st := init wcfg b8 } ([.ratio b4 0] ++ List.replicate 10 (.proc 400 50))).st

set_option maxRecDepth 100000 in
/-- `slew_request`'s hypotheses hold at `steady` (non-zero increment), and `Slewing` is then satisfied 50 frames on
    — with a negative increment, `slew_len = 450`. -/
example :
    steady.defR = none ∧ slewInc (wcfg.num.stepOf b1 steady.cur.mult) steady.cur.step 500 = -3221225 ∧
    midSlew.slew = 450 ∧ midSlew.newR = some b1 ∧ midSlew.cur.ss = -3221225 ∧
    midSlew.cur.step = steady.cur.step + 50 * -3221225 := by
  simp only [steady, midSlew, run_eq_fast]
  decide +kernel

set_option maxRecDepth 100000 in
/-- `Quiescent steady`, with a non-trivial `step` (ratio 4 in stage 2: `4·2²⁹`) -/
example : steady.defR = none ∧ steady.slew = 0 ∧ steady.newR = none ∧ steady.cur.ss = 0 ∧
    steady.cur.step = 2147483648 ∧ steady.cur.sn = 2 := by
  simp only [steady, run_eq_fast]
  decide +kernel

/-- a stage switch happens in the witness runs (so the `nsw = 0` hypotheses are real restrictions) … -/
example : Historical.witnessA.nsw ≠ 0 := by
  simp only [Historical.witnessA, run_eq_fast]
  decide +kernel

set_option maxRecDepth 100000 in
/-- `immediate_quiescent` / `immediate_then_stays` / `request_settles` at a state that is *not* quiescent: in mid-slew
    (`slew_len = 450`, increment −3221225, target 1.0 pending) an immediate request for 6.0 leaves nothing outstanding,
    and 200 frames later (no stage switch) `step` is 6.0 in the units of stage 2 -/
example : midSlew.slew = 450 ∧ midSlew.newR = some b1 ∧ midSlew.defR = none ∧
    (setIoRatio wcfg midSlew b6 0).slew = 0 ∧ (setIoRatio wcfg midSlew b6 0).cur.ss = 0 ∧
    (run wcfg { st := setIoRatio wcfg midSlew b6 0 } (List.replicate 4 (.proc 400 50))).nsw = 0 ∧
    (run wcfg { st := setIoRatio wcfg midSlew b6 0 } (List.replicate 4 (.proc 400 50))).nmis = 0 ∧
    (run wcfg { st := setIoRatio wcfg midSlew b6 0 } (List.replicate 4 (.proc 400 50))).out = 200 ∧
    (run wcfg { st := setIoRatio wcfg midSlew b6 0 } (List.replicate 4 (.proc 400 50))).st.cur.step =
      exactStepOf b6 midSlew.cur.mult := by
  simp only [midSlew, run_eq_fast]
  decide +kernel

set_option maxRecDepth 100000 in
/-- … and there are non-trivial runs without one: 450 frames at ratio 4 -/
example : (run wcfg { st := steady } (List.replicate 9 (.proc 400 50))).nsw = 0 ∧
    (run wcfg { st := steady } (List.replicate 9 (.proc 400 50))).out = 450 := by
  simp only [steady, run_eq_fast]
  decide +kernel

/-- the hypotheses of `stage_switch_down_continuous` / `_up_continuous`: a stage-1 down-sampling stream -/
example : ∃ s : St Nat, 0 ≤ s.cur.sn ∧ s.cur.isD = true ∧ -1 ≤ s.cur.sn ∧ s.cur.isD = decide (0 ≤ s.cur.sn) ∧
    posIn s.cur ≠ 0 :=
  ⟨{ cur := { clk := 12345678901, step := 3000000000, ss := -7, sn := 1, isD := true } }, by decide⟩

/-- the hypotheses of `frames_for_constant_ratio`: ratio 1.5 samples per frame (`p/q = 3/2`, `S = 1.5·2³²` exactly),
    1000 samples, more frames asked for than the clock can give (667 delivered) -/
example : ∃ (s : Stream) (n : Nat), s.ss = 0 ∧ 0 < s.step ∧ 0 ≤ s.clk ∧ s.clk < s.step ∧ 0 ≤ s.len ∧
    (firU s n).2 < n ∧ s.step * 2 - 3 * 4294967296 ≤ 2 ∧ 3 * 4294967296 - s.step * 2 ≤ 2 ∧
    (((firU s n).2 : Int) + 1) * 2 ≤ 3 * 4294967296 ∧ (firU s n).2 = 667 :=
  ⟨{ clk := 3221225472, step := 6442450944, len := 1000 }, 5000, by decide +kernel⟩

/-- the API hypotheses: a two-channel constant-rate resampler at ratio "5", asked for "7" -/
example : ∃ (n : ApiNum Nat) (a : ApiSt Nat) (r : Nat), a.sticky = false ∧ a.nch ≠ 0 ∧ n.le0 r = false ∧
    a.inited = true ∧ a.isVR = false ∧ n.close a.ioRatio r = false :=
  ⟨{ le0 := fun x => x == 0, close := fun a b => a == b },
   { sticky := false, nch := 2, inited := true, isVR := false, ioRatio := 5 }, 7, by decide⟩

/-! ## The model's constants are the code's (`Vr/Generated.lean` is printed from vr32.c on every run) -/

example : [stagePreload (-1), stagePreload 0, stagePreload 1, stagePreload 2] = Gen.preloads := by decide
example : [stageMult (-1), stageMult 0, stageMult 1, stageMult 2] = Gen.stepMults := by decide
/-- the stage the first request starts on, for 18 (declared maximum, ratio) pairs RUN on the real `vr_create` /
    `vr_set_io_ratio` by the generator (maxima ≤ 1, where `num_stages0 = 0 ≠ num_stages − 1`, included): the model's choice -/
example : Gen.initialStages.all (fun c => (setIoRatio wcfg (init wcfg c.1) c.2.1 0).cur.sn == c.2.2) = true := by decide
/-- which engines run the phase-matching all-pass on the up-sampling path (`num_stages0 ≠ 0`: declared maximum `> 1`),
    PROBED on the real `vr_process` by the generator for 11 declared maxima (≤ 1, in (1, 2], exactly 2, above) -/
example : Gen.halfPhaseProbe.all (fun c => (init wcfg c.1).halfPhase == c.2) = true := by decide
example : Gen.halfPhaseProbe.length = 11 ∧ (Gen.halfPhaseProbe.filter (fun c => c.2)).length = 8 := by decide
example : Gen.initialStages.length = 18 ∧ (Gen.initialStages.filter (fun c => c.2.2 == -1)).length ≥ 4 := by decide
example : (two32 : Int) = (Gen.mult32 : Int) := by decide
example : Gen.fadeLen = 2 * xfadeLen ∧ Gen.fadeLen % 2 = 0 := by decide

/-- `Num.exact` is `⌊r·step_mult + ½⌋`: e.g. 3.9 in stage 1 -/
example : exactStepOf b39 1073741824 = 4187593114 ∧ exactOctave b39 = 1 ∧ exactNumStages b8 = 3 := by decide

/-! ## 7. Fade alignment: the C assertion `odone == odone2`

During the cross-fade of a stage switch both streams must deliver the same number of samples per chunk
(`assert(odone == odone2)`, compiled out with NDEBUG); the model counts the chunks in which they do not (`nmis`).

History (F35, repaired).  `len` of both streams derives from `occupancy0`, computed at the start of `vr_process` from the
coarsest stage in use *then*; before the repair, when one call took an up-switch to a new coarsest stage, completed its
512-frame fade and then took a down-switch, the new (finer) current stream got `len = occupancy0 >> sn` while the
(coarser) fade-out stream kept the floored `occupancy0 >> (sn+1)`; the finer stream, run first, then delivered pairs the
coarser one had no input for, and the two streams were one sample apart for the rest of the fade (fade-out clock
negative).  The repair rounds `occupancy0` down to whole samples of the new coarsest stage at every up-switch
(`switchOcc`).  `Historical.chunkH rulePre35 … runPre35` is the loop as it was; `Historical.pre_fix_fade_alignment_fails` is the
negation of "`nmis = 0` for every run" on it, with the concrete witness that the check replayed on the real code. -/

/-- max ratio 8; start at 0.25 (up-sampling stage), jump to 6 at once (the engine climbs one octave stage per 512-frame
    fade), 100 frames later slew to 1.0 over 800 frames, then one call of 1400 frames. -/
def opsF35 : List (Op Nat) :=
  [.ratio b025 0, .proc 800 100, .ratio b6 0, .proc 800 100, .ratio b1 800, .proc 2500 1400]

namespace Historical

/-- one iteration of the `while` loop with an earlier rule for `occupancy0` at a stage switch (`rule a dif occ`:
    the value `enter_new_stage` was called with; `a` the state before the switch) -/
def chunkH (rule : St ρ → Int → Int → Int) (cfg : Cfg ρ) (olen0 : Nat) (l : LoopSt ρ) : LoopSt ρ × Bool :=
  let a := chunkStart cfg l.st (olen0 - l.od0)
  let dif := stageDif a.1
  let sw := doesSwitch a.1
  let s := if sw then switchStage a.1 dif (rule a.1 dif l.occ) else a.1
  let k := kernels s a.2 (chunkMn l dif) (chunkMx l dif (decide (a.1.cur.sn + dif < a.1.ns)))
  ({ chunkFinish l sw (sw && negLeftShift a.1 dif) k with occ := if sw then rule a.1 dif l.occ else l.occ },
   decide ((k.od : Int) = k.olen))

def loopH (rule : St ρ → Int → Int → Int) (cfg : Cfg ρ) (olen0 : Nat) : Nat → LoopSt ρ → LoopSt ρ
  | 0, l => l
  | f + 1, l =>
    if l.od0 < olen0 then
      let r := chunkH rule cfg olen0 l
      if r.2 then loopH rule cfg olen0 f r.1 else r.1
    else l

def processH (rule : St ρ → Int → Int → Int) (cfg : Cfg ρ) (s : St ρ) (olen0 : Nat) : PRes ρ :=
  let p := preLoop cfg s olen0
  let l := loopH rule cfg olen0 (olen0 + 1) p.1
  let s := post l.st l.mn l.mx
  { st := { s with oocc := s.oocc - ((olen0 : Int) - l.od0) }, od := l.od0, nsw := l.nsw, nmis := l.nmis, nneg := l.nneg,
    nshl := l.nshl }

def stepOpH (rule : St ρ → Int → Int → Int) (cfg : Cfg ρ) (r : Run ρ) : Op ρ → Run ρ
  | .ratio x slew => { r with st := setIoRatio cfg r.st x slew }
  | .proc ilen olen =>
    let p := processH rule cfg (input r.st ilen) olen
    { st := (output p.st olen).1, out := r.out + p.od, nsw := r.nsw + p.nsw, nmis := r.nmis + p.nmis,
      nneg := r.nneg + p.nneg, nshl := r.nshl + p.nshl }
  | .flush olen =>
    let p := processH rule cfg (flush r.st) olen
    { st := (output p.st olen).1, out := r.out + p.od, nsw := r.nsw + p.nsw, nmis := r.nmis + p.nmis,
      nneg := r.nneg + p.nneg, nshl := r.nshl + p.nshl }

def runH (rule : St ρ → Int → Int → Int) (cfg : Cfg ρ) (r : Run ρ) (ops : List (Op ρ)) : Run ρ :=
  ops.foldl (stepOpH rule cfg) r

/-- before the repair of F35: `occupancy0` was a constant of the call -/
def rulePre35 : St ρ → Int → Int → Int := fun _ _ occ => occ
/-- between the repairs of F35 and F36: re-aligned at an up-switch, but not clamped to what the restarted stage holds -/
def rulePre36 : St ρ → Int → Int → Int := fun a dif occ =>
  if dif > 0 ∧ a.cur.sn + dif > 0 then occ / 2 ^ (a.cur.sn + dif).toNat * 2 ^ (a.cur.sn + dif).toNat else occ

def runPre35 (cfg : Cfg ρ) (r : Run ρ) (ops : List (Op ρ)) : Run ρ := runH rulePre35 cfg r ops
def runPre36 (cfg : Cfg ρ) (r : Run ρ) (ops : List (Op ρ)) : Run ρ := runH rulePre36 cfg r ops

/-- `runH rule` as the kernel evaluates it (`chunkH rule` is `chunkG kernels rule`, and `loopH` the loop over it, by `rfl`) -/
theorem runH_eq_fast (rule : St ρ → Int → Int → Int) (cfg : Cfg ρ) (r : Run ρ) (ops : List (Op ρ)) :
    runH rule cfg r ops = ops.foldl (stepOpG (setIoRatio cfg) (processF rule cfg)) r := by
  have hp : processH rule cfg = processF rule cfg :=
    processG_eq_processF rule cfg (chunkH rule cfg) (loopH rule cfg) (fun _ _ => rfl) (fun _ _ => rfl) (fun _ _ _ => rfl)
  have hs : stepOpH rule cfg = stepOpG (setIoRatio cfg) (processH rule cfg) := by funext r o; cases o <;> rfl
  rw [← hp, ← hs]; rfl

/-- the current loop is the historical one with the current rule -/
theorem chunk_eq_chunkH (cfg : Cfg ρ) (olen0 : Nat) (l : LoopSt ρ) :
    chunk cfg olen0 l = chunkH (fun a dif occ => switchOcc a dif occ) cfg olen0 l := rfl

def witnessF35Pre : Run Nat := runPre35 wcfg { st := init wcfg b8 } opsF35

/-- **F35 (historical; the loop before the repair).**  In the last call (three stage switches: up, up, down) one chunk
    has `odone ≠ odone2`; afterwards the fade-out stream's clock is negative.  Every call before it is aligned. -/
theorem pre_fix_fade_alignment_fails :
    witnessF35Pre.nmis = 1 ∧ witnessF35Pre.nsw = 3 ∧ witnessF35Pre.st.fo.clk < 0 ∧ witnessF35Pre.st.fade ≠ 0 ∧
    (runPre35 wcfg { st := init wcfg b8 } opsF35.dropLast).nmis = 0 ∧
    (runPre35 wcfg { st := init wcfg b8 } opsF35.dropLast).nneg = 0 := by
  simp only [witnessF35Pre, runPre35, runH_eq_fast]
  decide +kernel

/-- on the pre-repair loop the universally quantified alignment statement was false -/
theorem pre_fix_not_fade_alignment_for_all_runs :
    ¬ ∀ (mx : Nat) (ops : List (Op Nat)), (runPre35 wcfg { st := init wcfg mx } ops).nmis = 0 := by
  intro h
  have h1 := h b8 opsF35
  have h2 : witnessF35Pre.nmis = 1 := pre_fix_fade_alignment_fails.1
  unfold witnessF35Pre at h2
  omega

end Historical

def witnessF35 : Run Nat := run wcfg { st := init wcfg b8 } opsF35

/-- **The F35 call sequence on the current code**: the same three stage switches, no misaligned chunk, no negative
    clock, and after the call the two streams of the fade in progress are exact doubles (clock, `step`, `len`).
    (The check replays exactly this on the real code: the asserts-on build must run through.) -/
theorem witnessF35_aligned :
    witnessF35.nmis = 0 ∧ witnessF35.nsw = 3 ∧ witnessF35.nneg = 0 ∧ witnessF35.st.fade ≠ 0 ∧
    witnessF35.st.cur.clk = 2 * witnessF35.st.fo.clk ∧ witnessF35.st.cur.step = 2 * witnessF35.st.fo.step ∧
    witnessF35.st.cur.len = 2 * witnessF35.st.fo.len := by
  simp only [witnessF35, run_eq_fast]
  decide +kernel

/-- **Fade alignment, the part that holds** (down-switch fades).  A switch to the next finer stage from a
    down-sampling stage `sn ≥ 1` whose `len` came from an `occupancy0` that is a whole number of its samples makes the
    new current stream the old one exactly doubled (clock, `step`, `step_step`, `len`); in a chunk of such a fade both
    streams deliver the same number of samples (`odone == odone2`: no mismatch counted) and remain exactly doubled — so
    by induction the assertion holds in every chunk of the fade until something re-rounds one stream (the snap, a new
    request).  The hypothesis `2^sn ∣ occupancy0` is what failed before the repair of F35 after an up-switch earlier
    in the same call; now it is an invariant of the loop (`occ_aligned_invariant` below).  What is missing for
    `nmis = 0` on all runs: (1) up-switch fades and fades with the up-sampling stage −1, where the rescaling floors and
    the streams are equal only to within one unit of `2⁻³²`; (2) the snap and requests during a fade, which round each
    stream's `step` separately. -/
theorem fade_alignment_down_partial (s : St ρ) (occ0 olen mn mx : Int) (hsn : 1 ≤ s.cur.sn) (hd : s.cur.isD = true)
    (hlen : s.cur.len = shiftr occ0 s.cur.sn) (hdiv : occ0 % 2 ^ s.cur.sn.toNat = 0) :
    Doubled (switchStage s (-1) occ0).cur (switchStage s (-1) occ0).fo ∧
    (kernels (switchStage s (-1) occ0) olen mn mx).mis = false ∧
    Doubled (kernels (switchStage s (-1) occ0) olen mn mx).st.cur (kernels (switchStage s (-1) occ0) olen mn mx).st.fo := by
  obtain ⟨h1, h2, h3, h4⟩ := switch_down_doubled s occ0 hsn hd hlen hdiv
  obtain ⟨k1, k2⟩ := kernels_doubled (switchStage s (-1) occ0) olen mn mx h4 h2 h3 h1
  exact ⟨h1, k1, k2⟩

/-- **`occupancy0` is aligned throughout every `vr_process` call** (the repair of F35 as an invariant): from *any*
    state, `vr_process` enters its loop with `occupancy0` a whole number of samples of the current stage and the current
    stream's `len` equal to it in those samples, and every chunk — snap, up-switch (re-aligned by `switchOcc`),
    down-switch, fade, plain interpolation — keeps that. -/
theorem occ_aligned_invariant (cfg : Cfg ρ) (s : St ρ) (olen0 : Nat) :
    OccInv (preLoop cfg s olen0).1 ∧
    (∀ l : LoopSt ρ, OccInv l → OccInv (chunk cfg olen0 l).1) ∧
    (∀ (f : Nat) (l : LoopSt ρ), OccInv l → OccInv (loop cfg olen0 f l)) :=
  ⟨preLoop_OccInv cfg s olen0, fun l h => chunk_OccInv cfg olen0 l h, fun f l h => loop_OccInv cfg olen0 f l h⟩

/-- **Every down-switch between down-sampling stages starts an aligned fade** — in any chunk of any call (the loop
    invariant supplies the `occupancy0` hypothesis of `fade_alignment_down_partial`, which is what failed before the
    repair of F35): no mismatch is counted in that chunk and the two streams are exact doubles after it. -/
theorem down_switch_fade_aligned_in_loop (cfg : Cfg ρ) (olen0 : Nat) (l : LoopSt ρ) (h : OccInv l)
    (hsw : doesSwitch (chunkStart cfg l.st (olen0 - l.od0)).1 = true)
    (hdif : stageDif (chunkStart cfg l.st (olen0 - l.od0)).1 = -1) (hsn : 1 ≤ l.st.cur.sn) :
    (chunk cfg olen0 l).1.nmis = l.nmis ∧ Doubled (chunk cfg olen0 l).1.st.cur (chunk cfg olen0 l).1.st.fo :=
  chunk_down_switch_aligned cfg olen0 l h hsw hdif hsn

/-- `OccInv` is satisfiable by the loop state of a real run: the first `vr_process` of a fresh 8x engine at ratio 6
    (stage 2, 8000 frames of input: `occupancy0` a non-zero multiple of 4) -/
example : OccInv (preLoop wcfg (input (setIoRatio wcfg (init wcfg b8) b6 0) 8000) 100).1 ∧
    (preLoop wcfg (input (setIoRatio wcfg (init wcfg b8) b6 0) 8000) 100).1.st.cur.sn = 2 ∧
    (preLoop wcfg (input (setIoRatio wcfg (init wcfg b8) b6 0) 8000) 100).1.occ ≠ 0 :=
  ⟨preLoop_OccInv _ _ _, by decide +kernel, by decide +kernel⟩

/-- the inductive step on its own: any chunk of a fade between two exactly doubled down-sampling streams -/
theorem fade_alignment_chunk_partial (s : St ρ) (olen mn mx : Int) (hfade : s.fade ≠ 0) (hc : s.cur.isD = true)
    (hf : s.fo.isD = true) (h : Doubled s.cur s.fo) :
    (kernels s olen mn mx).mis = false ∧ Doubled (kernels s olen mn mx).st.cur (kernels s olen mn mx).st.fo :=
  kernels_doubled s olen mn mx hfade hc hf h

/-- hypotheses of `fade_alignment_down_partial`: a stage-2 stream with `occupancy0 = 1248` input frames, a whole number
    of stage-2 samples (`len` 312; the new stage-1 stream gets 624); `1246` — the value in the F35 witness — is not -/
example : ∃ s : St Nat, 1 ≤ s.cur.sn ∧ s.cur.isD = true ∧ s.cur.len = shiftr 1248 s.cur.sn ∧
    (1248 : Int) % 2 ^ s.cur.sn.toNat = 0 ∧ (switchStage s (-1) 1248).cur.len = 624 ∧ (1246 : Int) % 2 ^ s.cur.sn.toNat ≠ 0 :=
  ⟨{ cur := { clk := 12345678901, step := 1000000000, ss := -7, sn := 2, isD := true, len := 312 },
     stages := #[{}, {}, {}, {}] }, by decide⟩

/-- **The fade from stage 0 down to the up-sampling stage is aligned** — every such switch, in any chunk of any call, for
    any slew: the new current stream (`poly_fir_fade_u` on stage −1) is the fade-out stream (`poly_fir_fade_d` on stage 0)
    exactly (clock ×2, increment and slew increment ×4, `len` ×2), the fade-out stream runs first, and each pair it
    delivers had its first sample inside the input, which is the condition of the current stream's iteration.  No
    mismatch is counted in the chunk of the switch, the pair stays exact, and every later chunk of a fade between such a
    pair is aligned too. -/
theorem fade_alignment_down_to_upsampling (cfg : Cfg ρ) (olen0 : Nat) (l : LoopSt ρ) (h : OccInv l)
    (hsw : doesSwitch (chunkStart cfg l.st (olen0 - l.od0)).1 = true)
    (hdif : stageDif (chunkStart cfg l.st (olen0 - l.od0)).1 = -1) (hsn : l.st.cur.sn = 0) :
    ((chunk cfg olen0 l).1.nmis = l.nmis ∧ Quad (chunk cfg olen0 l).1.st.cur (chunk cfg olen0 l).1.st.fo) ∧
    (∀ (s : St ρ) (olen mn mx : Int), s.fade ≠ 0 → s.cur.isD = false → s.fo.isD = true → Quad s.cur s.fo →
      (kernels s olen mn mx).mis = false ∧ Quad (kernels s olen mn mx).st.cur (kernels s olen mn mx).st.fo) :=
  ⟨chunk_switch_to_upsampling_aligned cfg olen0 l h hsw hdif hsn, fun s olen mn mx a b _ d => kernels_quad s olen mn mx a b d⟩

/-- `Quad` on a concrete pair: stage-0 stream at `at = 1.5`, `step = 0.6`, slewing, `len = 312`; the stage −1 stream reads
    the same positions in half samples -/
example : Quad { clk := 12884901888, step := 10307921512, ss := -28, len := 624, sn := -1, isD := false }
    { clk := 6442450944, step := 2576980378, ss := -7, len := 312, sn := 0, isD := true } := by
  unfold Quad; decide

/-- **The fade from the up-sampling stage up to stage 0 is aligned at a constant ratio.**  The new current stream (stage 0,
    `poly_fir_fade_d`, run first) is the old one floored (`at >> 1`, `step >> 2`): the fade-out stream (`poly_fir_fade_u`) is
    ahead by at most one unit, gaining at most 3 per pair; but it needs only ONE sample per frame, at the pair's first
    sample, while the current stream has placed the pair's second sample — `step ≥ 2³¹` units later — inside the input
    too.  So the fade-out stream always has its sample: no mismatch in the chunk of the switch, and none in any later
    chunk of the fade as long as `step_step = 0` and the accumulated drift `d` (at most `1 + 3·512`) stays below `2·step`
    (second part; `d` grows by 3 per frame delivered).  With a slew running the increments are floored separately every
    frame; not covered. -/
theorem fade_alignment_up_from_upsampling (s : St ρ) (occ0 olen mn mx : Int) (hsn : s.cur.sn = -1) (hd : s.cur.isD = false)
    (hss : s.cur.ss = 0) (hstep : 8589934592 ≤ s.cur.step) (hlen : s.cur.len = shiftr occ0 s.cur.sn) (holen : olen ≤ chunkMax) :
    (NearU (switchStage s 1 (switchOcc s 1 occ0)).cur (switchStage s 1 (switchOcc s 1 occ0)).fo 1 ∧
     (kernels (switchStage s 1 (switchOcc s 1 occ0)) olen mn mx).mis = false ∧
     NearU (kernels (switchStage s 1 (switchOcc s 1 occ0)) olen mn mx).st.cur (kernels (switchStage s 1 (switchOcc s 1 occ0)) olen mn mx).st.fo
       (1 + 3 * ((kernels (switchStage s 1 (switchOcc s 1 occ0)) olen mn mx).od : Int))) ∧
    (∀ (t : St ρ) (d : Int), t.fade ≠ 0 → t.cur.isD = true → t.fo.isD = false → NearU t.cur t.fo d →
      d + 3 * max 0 (min olen (t.fade / 2)) ≤ 2 * t.cur.step →
      (kernels t olen mn mx).mis = false ∧
      NearU (kernels t olen mn mx).st.cur (kernels t olen mn mx).st.fo (d + 3 * ((kernels t olen mn mx).od : Int))) := by
  obtain ⟨h1, h2, h3, h4, h5⟩ := switch_from_upsampling_near s occ0 hsn hd hss hstep hlen
  have hc : (chunkMax : Int) = 64 := by decide
  obtain ⟨k1, k2⟩ := kernels_near (switchStage s 1 (switchOcc s 1 occ0)) olen mn mx 1 h4 h2 h3 h1 (by omega)
  exact ⟨⟨h1, k1, k2⟩, fun t d a b c e f => kernels_near t olen mn mx d a b c e f⟩

/-- `NearU` at the moment of such a switch: an up-sampling stream at ratio 1.05 (`step = 2.1·2³²`, odd) and its floored
    stage-0 successor -/
example : NearU { clk := 3000000000, step := 2254857830, ss := 0, len := 500, sn := 0, isD := true }
    { clk := 6000000001, step := 9019431321, ss := 0, len := 1000, sn := -1, isD := false } 1 := by
  unfold NearU; decide

/-! ### 7b. Fade alignment is still false for all runs: the up-switch fade (F41)

At an up-switch the new (coarser) current stream is the old one *floored*: `at >> 1`, `step >> 1`.  The fade-out stream
is therefore ahead of it by `d₀ + (2j+1)·e` units of `2⁻³²` at the second sample of pair `j` (`d₀, e ∈ {0, 1}` the bits
shifted out).  `poly_fir_fade_d` runs the current stream first and asks the fade-out stream for the same count; when the
second sample of the last pair the current stream delivers lies within that many units below the end of the input, the
fade-out stream has crossed it: `odone2 < odone`.  The coincidence needs the fraction of a clock to hit a window a few
units wide, so random trajectories do not find it; the witness below was *solved for* (the increment of the second
ratio is chosen so that `frac(at + 7·step) = 2³² − 1` in the new stage, the input so that this is the last pair). -/

def b15 : Nat := 0x3FF8000000000000     -- 1.5
def bF41 : Nat := 0x40016DB6DB700000    -- 2.1785714286379516 = (2³² + 383479223) / 2³¹

/-- max ratio 4: ratio 1.5 (stage 0), 1000 frames requested from 3000 of input, then the input run dry (840 frames);
    ratio `(2³² + 383479223)/2³¹` at once (an odd increment just above the octave of stage 0: the next chunk switches
    up to stage 1), 8 more input frames, 600 frames requested -/
def opsF41 : List (Op Nat) := [.ratio b15 0, .proc 3000 1000, .proc 0 5000, .ratio bF41 0, .proc 8 600]

/-- **Negation of fade alignment on the current code (F41), concrete.**  In the last call — one stage switch, upwards —
    the current stream delivers 4 pairs, the fade-out stream 3; afterwards the fade-out clock is negative.  Every call
    before it is aligned.  (Replayed on the real code by the check: the asserts-on build aborts on `odone == odone2` in
    exactly that call, the NDEBUG build equals the model field by field through it.) -/
theorem fade_alignment_fails_up_switch :
    (run wcfg { st := init wcfg b4 } opsF41).nmis = 1 ∧ (run wcfg { st := init wcfg b4 } opsF41).nsw = 1 ∧
    (run wcfg { st := init wcfg b4 } opsF41).st.inc = true ∧ (run wcfg { st := init wcfg b4 } opsF41).st.fo.clk < 0 ∧
    (run wcfg { st := init wcfg b4 } opsF41).st.cur.sn = 1 ∧ (run wcfg { st := init wcfg b4 } opsF41).st.fo.sn = 0 ∧
    (run wcfg { st := init wcfg b4 } opsF41.dropLast).nmis = 0 ∧ (run wcfg { st := init wcfg b4 } opsF41.dropLast).nsw = 0 := by
  simp only [run_eq_fast]
  decide +kernel

/-- **"`odone == odone2` in every run from a fresh engine" is false**:
    before the repair of F35 grossly (`Historical.pre_fix_not_fade_alignment_for_all_runs`), and on the current code
    by the knife-edge witness above.  What does hold is proved: down-switch fades between down-sampling stages
    (`down_switch_fade_aligned_in_loop`, `fade_alignment_chunk_partial`: exact doubling), and fades between stage 0 and the
    up-sampling stage in the downward direction (`fade_alignment_down_to_upsampling`: exact too), and in the upward
    direction at a constant ratio (`fade_alignment_up_from_upsampling`: the up-sampling stream has half a frame of margin).
    Up-switch fades between down-sampling stages (the witness above) and the snap at the end of a slew during a fade round
    the two streams separately (`snap_sets_both_streams`: each `step = (int64)(r·step_mult + .5)` in its own units): there
    alignment holds unless a clock is within the accumulated rounding of an input sample boundary at the moment the input
    runs out — the same knife-edge, same signature (`nmis > 0`), same finding. -/
theorem not_fade_alignment_for_all_runs :
    ¬ ∀ (mx : Nat) (ops : List (Op Nat)), (run wcfg { st := init wcfg mx } ops).nmis = 0 := by
  intro h
  have h1 := h b4 opsF41
  have h2 := fade_alignment_fails_up_switch.1
  omega

/-! ## 8. A restarted stage is not read beyond what it holds (F36, repaired)

`enter_new_stage` gives the new current stream `len = occupancy0 >> stage_num`.  A half-band stage entered by an up-switch
is restarted (cleared, preloaded, filled once from its neighbour), so it holds `preload + what do_input_stage computed`;
before the repair `occupancy0` — computed at the start of the call from another stage — could exceed that from the second
up-switch of one call on (−40 samples of slack at the second, −85 at the third): the interpolator read stale memory
beyond the stage's data (garbage in the last ~100 output frames of the call) and the post-loop `fifo_read` left the
stage with fewer samples than its preload, so that the next call computed `already_done < 0` (UBSan: the report C07
found).  The repair clamps `occupancy0` at every up-switch to what the restarted stage holds (`switchOcc`). -/

/-- **After an up-switch the new stream's `len` is inside the restarted stage.**  For every state and every
    `occupancy0`: `len ≤ max(0, fifo_occupancy − 2·HALF_FIR_LEN_2 − POLY_FIR_LEN_D/2)` of the stage switched to — the
    interpolator's highest read index `2·HALF_FIR_LEN_2 + (len − 1) + POLY_FIR_LEN_D/2` is below the FIFO's occupancy — and
    `occupancy0` never grows at a switch. -/
theorem up_switch_reads_within_stage (s : St ρ) (occ0 : Int) (hsn : 0 ≤ s.cur.sn) :
    (switchStage s 1 (switchOcc s 1 occ0)).cur.len ≤
      max 0 (((switchPrep s 1).stg (s.cur.sn + 1)).occ - 2 * (H2 : Int) - ((PD / 2 : Nat) : Int)) ∧
    (∀ dif, switchOcc s dif occ0 ≤ occ0) :=
  ⟨switch_up_len_within_stage s occ0 hsn, fun dif => switchOcc_le s dif occ0⟩

def b16 : Nat := 0x4030000000000000     -- 16.0
def b067 : Nat := 0x3FE57B2D4DFF339C    -- 0.6712862513901316
def b877 : Nat := 0x40218B8EA66B5309    -- 8.772572708703153

/-- the call sequence C07 found (seed 3): 0.67 → 8.77 over one frame, then a call that takes three up-switches -/
def opsF36 : List (Op Nat) := [.ratio b067 0, .ratio b877 1, .proc 1023 117, .proc 31850 10259]

/-- **F36 (historical; the loop between the repairs of F35 and F36).**  After the long call stage 3 is left with 166
    samples, fewer than its preload of 180 (`already_done = −14` in the next call: the UBSan report), three stage switches
    having been taken in that call. -/
theorem Historical.pre_fix_stage_left_below_preload :
    ((Historical.runPre36 wcfg { st := init wcfg b16 } opsF36).st.stg 3).occ = 166 ∧ stagePreload 3 = 180 ∧
    (Historical.runPre36 wcfg { st := init wcfg b16 } opsF36).nsw = 4 := by
  simp only [Historical.runPre36, Historical.runH_eq_fast]
  decide +kernel

/-- the same call sequence on the current code: every stage keeps at least its preload (replayed on the real code by the
    check, under UBSan and with a sine whose fit residual must stay below −80 dB to the end of the call) -/
theorem witnessF36_within :
    stagePreload 3 ≤ ((run wcfg { st := init wcfg b16 } opsF36).st.stg 3).occ ∧
    stagePreload 2 ≤ ((run wcfg { st := init wcfg b16 } opsF36).st.stg 2).occ ∧
    stagePreload 1 ≤ ((run wcfg { st := init wcfg b16 } opsF36).st.stg 1).occ ∧
    (run wcfg { st := init wcfg b16 } opsF36).nsw = 4 ∧ (run wcfg { st := init wcfg b16 } opsF36).nmis = 0 := by
  simp only [run_eq_fast]
  decide +kernel

/-! ## The whole engine's frame count against the requested ratio: false as stated -/

/-- The whole skeleton, not only the clock: a fresh engine at a constant ratio `r ≤ max`, fed `N` frames in any
    blocks and then flushed until empty, delivers `N/r` frames within two.

    DECIDED: as it stands (against the REQUESTED ratio, for every `N < 2³¹`) this statement is FALSE —
    `goal_frames_full_engine_is_false` below: the engine follows the stored increment `ρ`, and at `r ≈ 1/64`, `N = 2³⁰` the
    rounding of the increment alone is worth hundreds of frames.  The true statement is the one against `ρ`:

    PROVED (§5b, `Vr/Engine.lean`): `frames_full_engine` — for every `Num`, every declared maximum, every first ratio whose
    increment lies in the octave of the stage it starts on (`InRange`), every blocking of input and output requests and
    every flush sequence that ends drained: `N/ρ − 2 < K < N/ρ + 1` with `ρ` the ratio the engine actually runs at
    (the stored increment in input time), on every stage (up-sampling, stage 0, half-band stages `k ≥ 1` through the
    chain occupancies `fed` / `fedF` and the flush preloads), no stage switch, no fade mismatch;
    `frames_full_engine_exact_ratio` — hence within two frames of `N·q/p` for every ratio `p/q` the increment represents
    exactly; `frames_full_engine_rounded_ratio` — within three when it is only approximated and the accumulated rounding
    stays below one frame.

    What separates this from the statement below: (a) `InRange` is a hypothesis about the floating-point evaluation (`Num`)
    — discharged for the exact evaluation by `inRange_exact` (`Vr/ExactNum.lean`; `frames_full_engine_exact_num` has no such
    hypothesis), so what is left of (a) is the agreement of IEEE arithmetic with `Num.exact`, which the driver checks at
    every ratio it meets;
    (b) for an inexact ratio the bound proved is three frames below, two above (clock phase < 1, floor of `N / 2^k` < 1,
    accumulated rounding of the increment < 1); the "within two" of the statement below would need the rounding term
    quantified from `N < 2³¹` (it is at most `(K+2)·2⁻³³·rateScale`), not attempted; (c) only runs that start with the
    first ratio on a fresh engine (after a ratio change the chain occupancies of the stages above the current one are
    not in the closed form `fed`). -/
def Goal_frames_full_engine : Prop :=
  ∀ (mx r : Nat) (blocks : List (Nat × Nat)) (drain : List Nat),
    let cfg := wcfg
    let feed : List (Op Nat) := blocks.map fun b => .proc b.1 b.2
    let fl : List (Op Nat) := drain.map fun o => .flush o
    let R := run cfg { st := init cfg mx } ([.ratio r 0] ++ feed ++ fl)
    let N := (blocks.map (·.1)).sum
    -- drained: a last flush call of positive size returned nothing
    (∃ o, drain.getLast? = some o ∧ 0 < o ∧
        (run cfg { st := init cfg mx } ([.ratio r 0] ++ feed ++ fl.dropLast)).out = R.out) →
    -- `r` a normal double in `[2⁻⁶, mx]`, `N < 2³¹`
    exactOctave r ≥ -6 → exactStepOf r 1 ≤ exactStepOf mx 1 → N < 2 ^ 31 →
    ∃ (p q : Int), 0 < q ∧ exactStepOf r (2 ^ 52) * q = p * 2 ^ 52 ∧
      (R.out : Int) * p - N * q ≤ 2 * p ∧ N * q - (R.out : Int) * p ≤ 2 * p

/-! ### … and the statement above is FALSE as it stands: the engine follows the stored increment, not the request

`Goal_frames_full_engine` compares the frame count with `N / r` for the REQUESTED ratio `r` and allows any `N < 2³¹`.  The
engine runs at `ρ = step / step_mult`, `step = (int64)(r · step_mult + .5)`; on the up-sampling stage `step_mult = 2³³`, so
`ρ` differs from `r` by up to `2⁻³⁴`, relatively up to `2⁻²⁸` at `r = 2⁻⁶`.  Over `N = 2³⁰` input frames at `r ≈ 1/64`
(`2³⁶` output frames) that is up to 256 frames.  The count is within two of `N / ρ` (`frames_full_engine`); it is NOT
within two of `N / r`. -/

/-- `(2⁴⁶ + 2¹⁸ − 1) / 2⁵²` = 0.01562500005820744…: a double just above 1/64 whose increment `r·2³³ = 2²⁷ + 0.49999…` rounds
    down to `2²⁷`, i.e. to the ratio 1/64 exactly -/
def bRound : Nat := 0x3F90000000FFFFC0

/-- the run: declared maximum 1.0, the ratio above, `2³⁰` input frames written in one call that asks for no output, then a
    flush call asking for `2³⁷` frames and one asking for 1 -/
theorem goal_frames_full_engine_is_false : ¬ Goal_frames_full_engine := by
  intro h
  have hg := h b1 bRound [(2 ^ 30, 0)] ([] ++ [2 ^ 37, 1])
  dsimp only at hg
  rw [(ops_split_last bRound _ _ _ _).1, (ops_split_last bRound _ _ _ _).2, run_first_ratio, run_first_ratio] at hg
  have hs : (setIoRatio wcfg (init wcfg b1) bRound 0).cur.sn = -1 ∧
      (setIoRatio wcfg (init wcfg b1) bRound 0).cur.step = 134217728 := by decide
  have h0 := engU_init wcfg b1 bRound hs.1 (by rw [hs.2]; decide)
  rw [hs.2, show FRAC (134217728 : Int) / 2 = 67108864 by decide] at h0
  obtain ⟨hdr, hlast⟩ := engU_drains wcfg _ _ _ [(2 ^ 30, 0)] [] (2 ^ 37) 1 h0 (by decide) (by decide) (by decide)
  obtain ⟨_, e2, _, _⟩ := frames_engine_U wcfg _ _ _ _ [] _ h0 hdr
  obtain ⟨p, q, hq, hpq, hb1, _⟩ := hg ⟨1, rfl, by decide, hlast.symm⟩ (by decide) (by decide) (by decide)
  rw [hlast, show (List.map (fun (x : Nat × Nat) => (x.1 : Int)) [(2 ^ 30, 0)]).sum = 1073741824 by decide] at hb1
  rw [show exactStepOf bRound (2 ^ 52) = 70368744439807 by decide] at hpq
  rw [show (totalIn [(2 ^ 30, 0)] : Int) = 1073741824 by decide, two32] at e2
  generalize ((run wcfg { st := setIoRatio wcfg (init wcfg b1) bRound 0 }
    (procOps [(2 ^ 30, 0)] ++ flushOps [] ++ [.flush (2 ^ 37)])).out : Int) = K at e2 hb1
  -- `K ≥ 2³⁶ − 1` from the clock, while `(K − 2)·p ≤ N·q` with `p/q = (2⁴⁶ + 2¹⁸ − 1)/2⁵²` forces `K < 2³⁶ − 200`
  have h1 := Int.mul_pos (show 0 < 70368744439807 * (K - 2) - 1073741824 * 2 ^ 52 by omega) hq
  have h2 : (K - 2) * (70368744439807 * q) = (K - 2) * (p * 2 ^ 52) := by rw [hpq]
  linarith
end Soxr.Vr.C16
