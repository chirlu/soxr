import SoxrModel.Properties.C12Engine
import SoxrModel.Cr.Cone
import Mathlib.Algebra.Ring.Defs
import Mathlib.Algebra.BigOperators.Group.List.Basic
import Mathlib.Tactic.Ring
/-!
# C12 (engine half, continued): every table-driven FIR kernel is additive and homogeneous

`superposition_runs` / `homogeneity_runs` take "the kernels are additive / homogeneous in the window" as hypotheses
(`KAdd`, `KSmul`).  What the C kernels compute in exact arithmetic is a dot product of the window with a coefficient
row chosen by the stage configuration and the phase tags (poly-fir: the row of the phase, interpolated in the
fractional phase; half-fir: the fixed half-band row; cubic: four Lagrange weights; the dft stage: row `j` of the
circular convolution with the designed filter).  `dotKern T` is that shape for an ARBITRARY table `T` over an arbitrary
commutative semiring; it satisfies both hypotheses, so the three engine theorems hold for every such engine:
`fir_engine_superposition`, `fir_engine_homogeneity` (and `shift_covariance_runs` needs no hypothesis on the kernels at
all).  That the compiled floating-point kernels are such dot products up to rounding stays the measured part.
-/
namespace Soxr.Properties.C12Engine
open Soxr Soxr.Cr

variable {R : Type} [CommSemiring R]

/-- `Σ cᵢ·wᵢ` over the common length of the two lists -/
def dot (cs w : List R) : R := (List.zipWith (· * ·) cs w).sum

/-- the kernel of a coefficient table: configuration and phase tags choose the row -/
def dotKern (T : StageCfg → Nat → Nat → Nat → List R) : Kern R := { eval := fun c p1 p2 p3 w => dot (T c p1 p2 p3) w }

theorem dot_ladd (cs : List R) : ∀ (w1 w2 : List R), w1.length = w2.length → dot cs (ladd w1 w2) = dot cs w1 + dot cs w2 := by
  induction cs with
  | nil => intro w1 w2 _; simp [dot]
  | cons c cs ih =>
    intro w1 w2 h
    cases w1 with
    | nil => cases w2 with
      | nil => simp [dot, ladd]
      | cons b u => simp at h
    | cons a t =>
      cases w2 with
      | nil => simp at h
      | cons b u =>
        simp only [List.length_cons, Nat.add_right_cancel_iff] at h
        have := ih t u h
        simp only [dot, ladd, List.zipWith_cons_cons, List.sum_cons] at this ⊢
        rw [this]; ring

/-- a gain folded into the table (what `_soxr_init` does with `io_spec.scale`: one stage's coefficients are multiplied) is
    a gain on that kernel's output -/
theorem dot_scaled_table (a : R) (cs : List R) : ∀ (w : List R), dot (cs.map (a * ·)) w = a * dot cs w := by
  induction cs with
  | nil => intro w; simp [dot]
  | cons c cs ih =>
    intro w
    cases w with
    | nil => simp [dot]
    | cons b t =>
      have := ih t
      simp only [dot, List.map_cons, List.zipWith_cons_cons, List.sum_cons] at this ⊢
      rw [this]; ring

/-- scaling the window is scaling the row: the dot product is symmetric -/
theorem dot_lsmul (a : R) (cs : List R) : ∀ (w : List R), dot cs (lsmul a w) = a * dot cs w := by
  intro w
  have comm : ∀ x y : List R, dot x y = dot y x := fun x y => by
    unfold dot; rw [List.zipWith_comm]; simp only [mul_comm]
  rw [comm, lsmul, dot_scaled_table, comm]

theorem dotKern_add (T : StageCfg → Nat → Nat → Nat → List R) : KAdd (dotKern T) :=
  fun c p1 p2 p3 w1 w2 h => dot_ladd (T c p1 p2 p3) w1 w2 h

theorem dotKern_smul (T : StageCfg → Nat → Nat → Nat → List R) : KSmul (dotKern T) :=
  fun c p1 p2 p3 a w => dot_lsmul a (T c p1 p2 p3) w

/-- **Superposition for every table-driven FIR engine**, any plan, any three schedules. -/
theorem fir_engine_superposition (T : StageCfg → Nat → Nat → Nat → List R) (owed : Nat → Nat) (plan : Plan) (hwf : PlanWF plan)
    (ops₁ ops₂ ops₃ : List (DOp R)) (x y D₁ D₂ D₃ : List R) (e₁ e₂ e₃ : DEng R) (hl : x.length = y.length)
    (r₁ : DRuns (dotKern T) 0 owed (DEng.fresh 0 plan) ops₁ x D₁ e₁) (r₂ : DRuns (dotKern T) 0 owed (DEng.fresh 0 plan) ops₂ y D₂ e₂)
    (r₃ : DRuns (dotKern T) 0 owed (DEng.fresh 0 plan) ops₃ (ladd x y) D₃ e₃)
    (f₁ : e₁.fl = false) (f₂ : e₂.fl = false) (f₃ : e₃.fl = false)
    (l₁ : (D₁ ++ e₁.out).length = (D₃ ++ e₃.out).length) (l₂ : (D₂ ++ e₂.out).length = (D₃ ++ e₃.out).length) :
    D₃ ++ e₃.out = ladd (D₁ ++ e₁.out) (D₂ ++ e₂.out) :=
  superposition_runs (dotKern T) (dotKern_add T) 0 (by simp) owed plan hwf ops₁ ops₂ ops₃ x y D₁ D₂ D₃ e₁ e₂ e₃ hl r₁ r₂ r₃ f₁ f₂ f₃ l₁ l₂

/-- **Homogeneity for every table-driven FIR engine** (a gain applied to the input is a gain on the output). -/
theorem fir_engine_homogeneity (T : StageCfg → Nat → Nat → Nat → List R) (a : R) (owed : Nat → Nat) (plan : Plan) (hwf : PlanWF plan)
    (ops₁ ops₂ : List (DOp R)) (x D₁ D₂ : List R) (e₁ e₂ : DEng R)
    (r₁ : DRuns (dotKern T) 0 owed (DEng.fresh 0 plan) ops₁ x D₁ e₁) (r₂ : DRuns (dotKern T) 0 owed (DEng.fresh 0 plan) ops₂ (lsmul a x) D₂ e₂)
    (f₁ : e₁.fl = false) (f₂ : e₂.fl = false) (l : (D₁ ++ e₁.out).length = (D₂ ++ e₂.out).length) :
    D₂ ++ e₂.out = lsmul a (D₁ ++ e₁.out) :=
  homogeneity_runs (dotKern T) (dotKern_smul T) 0 a (by simp) owed plan hwf ops₁ ops₂ x D₁ D₂ e₁ e₂ r₁ r₂ f₁ f₂ l

theorem dot_const (v : R) : ∀ (cs : List R) (n : Nat), cs.length ≤ n → dot cs (List.replicate n v) = v * cs.sum := by
  intro cs
  induction cs with
  | nil => intro n _; simp [dot]
  | cons c cs ih =>
    intro n h
    obtain ⟨k, rfl⟩ : ∃ k, n = k + 1 := ⟨n - 1, by simp at h; omega⟩
    have := ih k (by simpa using h)
    simp only [dot, List.replicate_succ, List.zipWith_cons_cons, List.sum_cons] at this ⊢
    rw [this]; ring

/-- every coefficient row of the stage fits its window and sums to one (unity DC gain of the stage) -/
def RowsUnit (T : StageCfg → Nat → Nat → Nat → List R) (c : StageCfg) (s0 : StageSt) : Prop :=
  ∀ u p1 p2 p3, (T c p1 p2 p3).length ≤ ulen c s0 u ∧ (T c p1 p2 p3).sum = 1

theorem ufix_of_rows (T : StageCfg → Nat → Nat → Nat → List R) (c : StageCfg) (s0 : StageSt) (h : RowsUnit T c s0) (v : R) :
    UFix (unitSem (dotKern T) c s0) v := by
  intro u y hy
  rw [unitSem_out, unitSem_len, List.mem_map] at hy
  obtain ⟨t, _, rfl⟩ := hy
  obtain ⟨a, b⟩ := h u t.1 t.2.1 t.2.2
  show dot _ _ = v
  rw [dot_const v _ _ a, b, mul_one]

theorem planFix_of_rows (T : StageCfg → Nat → Nat → Nat → List R) (v : R) : ∀ (plan : Plan),
    (∀ p ∈ plan, RowsUnit T p.1 p.2) → PlanFix (dotKern T) v plan := by
  intro plan
  induction plan with
  | nil => intro _; trivial
  | cons p ps ih =>
    intro h
    obtain ⟨c, s0⟩ := p
    exact ⟨ufix_of_rows T c s0 (h (c, s0) List.mem_cons_self) v, ih (fun q hq => h q (List.mem_cons_of_mem _ hq))⟩

/-- **Unity DC gain of the engine.**  Every stage's rows sum to one; the input is the constant `v` on the cone of the
    output interval `[lo, hi]`, which lies beyond start-up (`coneS` — executable — is defined only when no window of the
    cone reaches into a zero preload): then a streaming run with ANY call schedule has delivered `v` on `[lo, hi]`. -/
theorem dc_gain_runs (T : StageCfg → Nat → Nat → Nat → List R) (v : R) (owed : Nat → Nat) (plan : Plan) (hwf : PlanWF plan)
    (hrows : ∀ p ∈ plan, RowsUnit T p.1 p.2) (fuel lo hi a b : Nat) (hc : coneS fuel plan lo hi = some (a, b))
    (ops : List (DOp R)) (x D : List R) (e : DEng R) (r : DRuns (dotKern T) 0 owed (DEng.fresh 0 plan) ops x D e) (f : e.fl = false)
    (hx : ∀ i, a ≤ i → i ≤ b → x[i]? = some v) :
    ∀ j, lo ≤ j → j ≤ hi → j < (D ++ e.out).length → (D ++ e.out)[j]? = some v :=
  coneS_const (dotKern T) 0 v fuel plan lo hi a b hc (planFix_of_rows T v plan hrows) x _ (fresh_runs_streaming hwf r f).toCInv hx

/-- non-vacuity of `dc_gain_runs`: on the example plan the strict cone of output frame 20 is the input interval
    [47, 71] (frame 3 is still inside start-up: `none`) -/
example : coneS 1000 exPlan 20 20 = some (47, 71) ∧ coneS 1000 exPlan 3 3 = none := by decide

/-- non-vacuity: the two-tap averaging table over ℤ -/
example : dot ([1, 1] : List Int) (ladd [3, 4] [10, 20]) = dot [1, 1] [3, 4] + dot [1, 1] [10, 20] := dot_ladd _ _ _ rfl

end Soxr.Properties.C12Engine
