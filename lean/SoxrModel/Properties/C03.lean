import SoxrModel.Cr.Drain
import SoxrModel.Cr.EarlyRat
import Mathlib.Algebra.Order.Floor.Semiring
/-!
# C03 Output length: N frames in give exactly `owed N` out, then none

Model: the count model of the constant-rate engine (`Cr/Model.lean`), tied to `/repo` by the per-call correspondence
of `checks/c03.py` (every `idone/odone`, occupancy, clock word, `remM`, `input_size`).  `owed` is the engine's
`(int64)((double)N / io_ratio + .5)`, a parameter here (the check compares it with exact `round(N·orate/irate)`).

Quantifiers: every well-formed plan (`PipeWF`, the decidable predicate the driver evaluates on every exported plan),
every N, **every** streaming history (any interleaving of inputs and output requests of any sizes, 0 included) and
every sequence of request sizes after end-of-input.
-/
namespace Soxr.Properties.C03
open Soxr Soxr.Cr

/-- A fresh engine: nothing accepted or delivered, not flushing. -/
structure Fresh (e : Eng) : Prop where
  sin : e.sin = 0
  sout : e.sout = 0
  str : Streaming e

/-- **Drain is exact.**  Once end-of-input has been signalled on a resampler that has not delivered more than it
    owes, *any* sequence of output requests delivers `min(owed, request)` call after call; in total
    `min(owed, Σ requests)`; these counts are the only possible ones (determinism). -/
theorem drain_exact (num : Num) (a : Api) (reqs : List Nat) (hfl : a.flushing = true) (hd : Draining a.eng) :
    (∃ a', Calls num a reqs (drainSpec a.eng.owedLeft reqs) a') ∧
    (∀ ods a', Calls num a reqs ods a' → ods = drainSpec a.eng.owedLeft reqs ∧ ods.sum = min a.eng.owedLeft reqs.sum) := by
  obtain ⟨a', hc, _⟩ := calls_draining num reqs a hfl hd
  refine ⟨⟨a', hc⟩, ?_⟩
  intro ods a'' h
  obtain ⟨e1, _⟩ := calls_det num reqs a _ _ _ _ h hc
  exact ⟨e1, by rw [e1, drainSpec_sum]⟩

/-- **…then none.**  After the owed frames have been delivered every further request, of any size, delivers 0. -/
theorem then_none (num : Num) (a : Api) (reqs : List Nat) (hfl : a.flushing = true) (hd : Draining a.eng)
    (hdone : a.eng.owedLeft = 0) : ∀ ods a', Calls num a reqs ods a' → ∀ x ∈ ods, x = 0 := by
  intro ods a' h
  obtain ⟨e1, _⟩ := (drain_exact num a reqs hfl hd).2 ods a' h
  rw [e1, hdone]
  exact drainSpec_zero reqs

/-- While streaming, `samples_in` counts what was accepted and `samples_out` what was delivered, for every history. -/
theorem streaming_counts (e e' : Eng) (ops : List StreamOp) (F D : Nat) (hf : Fresh e) (h : Streams e ops F D e') :
    e'.sin = F ∧ e'.sout = D ∧ Streaming e' := by
  obtain ⟨h1, h2, h3⟩ := streams_counters ops e F D e' hf.str h
  exact ⟨by rw [h2, hf.sin]; omega, by rw [h3, hf.sout]; omega, h1⟩

/-- **Total is exact.**  A fresh resampler is streamed through *any* history that accepts `N` frames and delivers `D`;
    then end-of-input is signalled and requests `reqs` follow.  Provided the engine was never early (`D ≤ owed N`, see
    `never_early` below) the stream delivers `D + min(owed N − D, Σ reqs)`: exactly `owed N` as soon as enough
    has been requested, whatever the call sizes were. -/
theorem total_exact (num : Num) (a : Api) (e' : Eng) (ops : List StreamOp) (N D : Nat) (reqs : List Nat)
    (hf : Fresh a.eng) (hs : Streams a.eng ops N D e') (hearly : D ≤ num.owed N) :
    let a1 : Api := { a with eng := e'.flush num.owed, flushing := true }
    ∀ ods a2, Calls num a1 reqs ods a2 → D + ods.sum = min (num.owed N) (D + reqs.sum) := by
  intro a1 ods a2 hc
  obtain ⟨rfl, -⟩ := drain_after_stream num a.eng e' ops N D hf.sin hf.sout hf.str hs hearly a1 rfl rfl reqs ods a2 hc
  rw [drainSpec_sum]; omega

/-- **Every history can be run** (each call terminates), so the statements above are not vacuous. -/
theorem histories_run (e : Eng) (ops : List StreamOp) (hf : Fresh e) : ∃ F D e', Streams e ops F D e' :=
  streams_total ops e hf.str

/-! ## never early

The remaining clause — before end-of-input never more than `⌈N·orate/irate⌉` frames for the `N` accepted so far — is
proved on the engine model with SAMPLES (`Cr/DataPipe.lean`; any sample type, so in particular the unit type: counts),
for every run, from the time map of the plan (`Cr/Time.lean`, C04): the last sample an output reads lies at or beyond
the instant the output represents (`EarlyOK`, decidable, evaluated by the driver on every exported plan), so
`delivered` outputs need `rate·(delivered − 1) + offset + 1 + margin` inputs. -/

theorem offset_nonneg (lp : List LStage) (hlat : PlanLatOK false lp) : 0 ≤ offsetOf (lp.map tstage) :=
  offsetOf_nonneg lp hlat

theorem margOf_nonneg (lp : List LStage) (he : PlanEarlyOK lp) : 0 ≤ margOf lp := by
  induction lp with
  | nil => exact le_rfl
  | cons x rest ih =>
    exact add_nonneg (mul_nonneg (margin_nonneg x (he x List.mem_cons_self)) (rate_nonneg_map rest))
      (ih fun y hy => he y (List.mem_cons_of_mem _ hy))

theorem offset_marg_nonneg (lp : List LStage) (he : PlanEarlyGen lp) : 0 ≤ offsetOf (lp.map tstage) + margOf lp :=
  Soxr.Cr.offset_marg_nonneg lp he

/-- **Never early, any phase response.**  In the state reached by ANY streaming run — any interleaving of input blocks and
    output requests of any sizes — the `D` frames delivered for the `N` accepted satisfy `(D − 1)·rate < N`, i.e.
    `D ≤ ⌈N/rate⌉`, `rate` being the plan's exact rate product (`= irate/orate` for a rational plan; within the rounded-clock
    allowance otherwise, C04).  The filters need not be centred: it suffices that, stage by stage, the last sample an output
    reads lies at or beyond the instant of that output (`0 ≤ b + margin`) and the dft shape clauses hold (`PlanEarlyGen`,
    decidable, evaluated by the driver on every exported plan — also those with a non-linear `phase_response`, whose `b` is
    positive for minimum and negative for maximum phase). -/
theorem never_early_any_phase {α : Type} (K : Kern α) (z : α) (owed : Nat → Nat) (lp : List LStage)
    (hwf : ∀ x ∈ lp, StageWF x.cfg x.s0) (he : PlanEarlyGen lp)
    (ops : List (DOp α)) (F D : List α) (e : DEng α)
    (r : DRuns K z owed (DEng.fresh z (lp.map LStage.toPlan)) ops F D e) (hfl : e.fl = false) :
    (1 ≤ D.length → ((D.length : ℚ) - 1) * rateOf (lp.map tstage) < F.length) ∧
    (0 < rateOf (lp.map tstage) → D.length ≤ ⌈(F.length : ℚ) / rateOf (lp.map tstage)⌉₊) :=
  have lt := fun h1 => early_lt (Soxr.Cr.offset_marg_nonneg lp he) (never_early_run_gen K z owed lp hwf he ops F D e r hfl h1)
  ⟨lt, fun hpos => early_ceil hpos lt⟩

/-- **Never early (plan rate).**  The bound for a plan with compensated latency whose windows reach their kernels' centres
    (`PlanLatOK false`, `PlanEarlyOK`: the decidable clauses of a linear-phase plan). -/
theorem never_early {α : Type} (K : Kern α) (z : α) (owed : Nat → Nat) (lp : List LStage)
    (hwf : ∀ x ∈ lp, StageWF x.cfg x.s0) (he : PlanEarlyOK lp) (hlat : PlanLatOK false lp)
    (ops : List (DOp α)) (F D : List α) (e : DEng α)
    (r : DRuns K z owed (DEng.fresh z (lp.map LStage.toPlan)) ops F D e) (hfl : e.fl = false) :
    (1 ≤ D.length → ((D.length : ℚ) - 1) * rateOf (lp.map tstage) < F.length) ∧
    (0 < rateOf (lp.map tstage) → D.length ≤ ⌈(F.length : ℚ) / rateOf (lp.map tstage)⌉₊) :=
  never_early_any_phase K z owed lp hwf (earlyGen_of_ok lp he hlat) ops F D e r hfl

/-- **Never early even with respect to the final total, any phase response.**  When the pipeline's post-context is at least
    half an output period (`rate/2 ≤ 1 + offset + margin`, a decidable fact about the plan, evaluated by the driver and met by
    every plan of the real planner sampled, minimum- and maximum-phase ones included), what has been delivered never exceeds
    `N/rate + ½`, hence never `⌊N/rate + ½⌋ = round(N/rate)` — which is the hypothesis `D ≤ owed N` of `total_exact` whenever the
    engine's floating-point `owed` is not below that exact rounding. -/
theorem never_early_round_any_phase {α : Type} (K : Kern α) (z : α) (owed : Nat → Nat) (lp : List LStage)
    (hwf : ∀ x ∈ lp, StageWF x.cfg x.s0) (he : PlanEarlyGen lp)
    (hpost : rateOf (lp.map tstage) / 2 ≤ 1 + offsetOf (lp.map tstage) + margOf lp) (hpos : 0 < rateOf (lp.map tstage))
    (ops : List (DOp α)) (F D : List α) (e : DEng α)
    (r : DRuns K z owed (DEng.fresh z (lp.map LStage.toPlan)) ops F D e) (hfl : e.fl = false) :
    D.length ≤ ⌊(F.length : ℚ) / rateOf (lp.map tstage) + 1 / 2⌋₊ :=
  Nat.le_floor (early_round hpos hpost (never_early_run_gen K z owed lp hwf he ops F D e r hfl))

/-- … for centred filters, with the bound over the rationals as well -/
theorem never_early_round {α : Type} (K : Kern α) (z : α) (owed : Nat → Nat) (lp : List LStage)
    (hwf : ∀ x ∈ lp, StageWF x.cfg x.s0) (he : PlanEarlyOK lp) (hlat : PlanLatOK false lp)
    (hpost : rateOf (lp.map tstage) / 2 ≤ 1 + offsetOf (lp.map tstage) + margOf lp) (hpos : 0 < rateOf (lp.map tstage))
    (ops : List (DOp α)) (F D : List α) (e : DEng α)
    (r : DRuns K z owed (DEng.fresh z (lp.map LStage.toPlan)) ops F D e) (hfl : e.fl = false) :
    (D.length : ℚ) ≤ (F.length : ℚ) / rateOf (lp.map tstage) + 1 / 2 ∧
    D.length ≤ ⌊(F.length : ℚ) / rateOf (lp.map tstage) + 1 / 2⌋₊ :=
  have hq := early_round hpos hpost (never_early_run_gen K z owed lp hwf (earlyGen_of_ok lp he hlat) ops F D e r hfl)
  ⟨hq, Nat.le_floor hq⟩

/-- the engine `_soxr_init` leaves behind for a plan, in the count model -/
def freshEng (lp : List LStage) : Eng := (DEng.fresh () (lp.map LStage.toPlan)).toEng

theorem freshEng_fresh (lp : List LStage) (hwf : ∀ x ∈ lp, StageWF x.cfg x.s0) (hne : lp ≠ []) : Fresh (freshEng lp) :=
  ⟨rfl, rfl, fresh_streaming () lp hwf hne⟩

/-- **Nothing early, for every history of the count model, any phase response.**  The count model is what the per-call
    correspondence ties to the code; every one of its streaming histories is the shadow of a history on samples (`streams_lift`),
    so the bounds above speak about it: for a plan meeting the decidable hypotheses (the post-context clause included) the `D`
    frames delivered for the `N` accepted never exceed `⌊N/rate + ½⌋`. -/
theorem never_early_round_counts_gen (lp : List LStage) (hwf : ∀ x ∈ lp, StageWF x.cfg x.s0) (he : PlanEarlyGen lp)
    (hpost : rateOf (lp.map tstage) / 2 ≤ 1 + offsetOf (lp.map tstage) + margOf lp) (hpos : 0 < rateOf (lp.map tstage)) (hne : lp ≠ [])
    (ops : List StreamOp) (N D : Nat) (e' : Eng) (hs : Streams (freshEng lp) ops N D e') :
    D ≤ ⌊(N : ℚ) / rateOf (lp.map tstage) + 1 / 2⌋₊ :=
  Nat.le_floor (early_round hpos hpost (never_early_counts_gen lp hwf he hne ops N D e' hs))

theorem never_early_round_counts (lp : List LStage) (hwf : ∀ x ∈ lp, StageWF x.cfg x.s0) (he : PlanEarlyOK lp) (hlat : PlanLatOK false lp)
    (hpost : rateOf (lp.map tstage) / 2 ≤ 1 + offsetOf (lp.map tstage) + margOf lp) (hpos : 0 < rateOf (lp.map tstage)) (hne : lp ≠ [])
    (ops : List StreamOp) (N D : Nat) (e' : Eng) (hs : Streams (freshEng lp) ops N D e') :
    D ≤ ⌊(N : ℚ) / rateOf (lp.map tstage) + 1 / 2⌋₊ :=
  never_early_round_counts_gen lp hwf (earlyGen_of_ok lp he hlat) hpost hpos hne ops N D e' hs

/-- the ceil bound, likewise for every history of the count model -/
theorem never_early_counts (lp : List LStage) (hwf : ∀ x ∈ lp, StageWF x.cfg x.s0) (he : PlanEarlyOK lp) (hlat : PlanLatOK false lp)
    (hne : lp ≠ []) (ops : List StreamOp) (N D : Nat) (e' : Eng) (hs : Streams (freshEng lp) ops N D e') :
    1 ≤ D → ((D : ℚ) - 1) * rateOf (lp.map tstage) < N :=
  have he' := earlyGen_of_ok lp he hlat
  fun h1 => early_lt (Soxr.Cr.offset_marg_nonneg lp he') (never_early_counts_gen lp hwf he' hne ops N D e' hs h1)

/-- **Total is exact for every history, any phase response — no never-early hypothesis.**  A plan that meets the decidable
    hypotheses the driver evaluates on every exported plan (`StageWF`, `PlanEarlyGen`, the post-context clause); the engine's
    `owed` not below the exact rounding `⌊N/rate + ½⌋`.  The freshly initialised resampler is streamed through ANY history that
    accepts `N` frames and delivers `D`, end-of-input is signalled, any requests follow: the stream delivers
    `D + min(owed N − D, Σ requests)` — exactly `owed N` once enough has been requested. -/
theorem total_exact_any_phase (num : Num) (lp : List LStage) (hwf : ∀ x ∈ lp, StageWF x.cfg x.s0) (he : PlanEarlyGen lp)
    (hpost : rateOf (lp.map tstage) / 2 ≤ 1 + offsetOf (lp.map tstage) + margOf lp)
    (hpos : 0 < rateOf (lp.map tstage)) (hne : lp ≠ [])
    (howed : ∀ n : Nat, ⌊(n : ℚ) / rateOf (lp.map tstage) + 1 / 2⌋₊ ≤ num.owed n)
    (a : Api) (ha : a.eng = freshEng lp) (e' : Eng) (ops : List StreamOp) (N D : Nat) (reqs : List Nat)
    (hs : Streams a.eng ops N D e') :
    let a1 : Api := { a with eng := e'.flush num.owed, flushing := true }
    ∀ ods a2, Calls num a1 reqs ods a2 → D + ods.sum = min (num.owed N) (D + reqs.sum) :=
  total_exact num a e' ops N D reqs (ha ▸ freshEng_fresh lp hwf hne) hs
    (le_trans (never_early_round_counts_gen lp hwf he hpost hpos hne ops N D e' (ha ▸ hs)) (howed N))

/-- … for centred filters -/
theorem total_exact_every_history (num : Num) (lp : List LStage) (hwf : ∀ x ∈ lp, StageWF x.cfg x.s0) (he : PlanEarlyOK lp)
    (hlat : PlanLatOK false lp) (hpost : rateOf (lp.map tstage) / 2 ≤ 1 + offsetOf (lp.map tstage) + margOf lp)
    (hpos : 0 < rateOf (lp.map tstage)) (hne : lp ≠ [])
    (howed : ∀ n : Nat, ⌊(n : ℚ) / rateOf (lp.map tstage) + 1 / 2⌋₊ ≤ num.owed n)
    (a : Api) (ha : a.eng = freshEng lp) (e' : Eng) (ops : List StreamOp) (N D : Nat) (reqs : List Nat)
    (hs : Streams a.eng ops N D e') :
    let a1 : Api := { a with eng := e'.flush num.owed, flushing := true }
    ∀ ods a2, Calls num a1 reqs ods a2 → D + ods.sum = min (num.owed N) (D + reqs.sum) :=
  total_exact_any_phase num lp hwf (earlyGen_of_ok lp he hlat) hpost hpos hne howed a ha e' ops N D reqs hs

/-! ## non-vacuity: a concrete plan exported by the real planner (44100 → 48000, HQ) meets the hypotheses -/

def exStages : List Stage :=
  [ { cfg := { kind := .clocked, prePost := 15, den := 80, step := 147, poly0 := true, taps := 16 }, st := { occ := 8, clk := 40, isz := 8192 } },
    { cfg := { kind := .dft, L := 2, dftLen := 2048, numTaps := 409, M := 1 }, st := { occ := 102, clk := 0, isz := 1024 } } ]

def exEng : Eng := { stages := exStages }

example : Fresh exEng := ⟨rfl, rfl, ⟨rfl, by decide, by decide⟩⟩
example : PipeWF exStages := by decide

/-- the same plan with the integers the time map reads: the hypotheses of `never_early` hold (of `never_early_round`: all
    but `hpost`, `hpos`) -/
def exL : List LStage :=
  [ { cfg := { kind := .clocked, prePost := 15, den := 80, step := 147, poly0 := true, taps := 16 },
      s0 := { occ := 8, clk := 40, isz := 8192 }, lat := { nc := 15 } },
    { cfg := { kind := .dft, L := 2, dftLen := 2048, numTaps := 409, M := 1 },
      s0 := { occ := 102, clk := 0, isz := 1024 }, lat := { postPeak := 204 } } ]

example : (∀ x ∈ exL, StageWF x.cfg x.s0) ∧ PlanEarlyOK exL ∧ PlanLatOK false exL := by decide

end Soxr.Properties.C03
