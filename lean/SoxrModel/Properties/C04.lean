import SoxrModel.Cr.TimeLemmas
/-!
# C04 Time alignment: zero net delay and no rate drift over streams of any length

Model (`Cr/Time.lean`, exact rationals): every stage is a uniform resampler — output frame `j` represents the instant
`a·j + b` of the stage's input stream, `a` being its rate and `b` the sum of the initial clock, the position of the
kernel's centre in the window it reads and minus the zero preload; `tstage` reads `(a, b)` off the integers of the real
plan (exported by the harness with every plan: `step`, `den`, `at₀`, `pre`, `preload`, `num_taps`, `post_peak`, `L`, `M`,
`num_coefs`), `timeOf` composes the stages.  `LatOK` is the planner's latency compensation as decidable facts about
those integers; the driver evaluates `PlanLatOK`, `offsetOf`, `rateOf` — these very definitions — on every exported
plan (`cr.time`) and the check compares `rateOf` with the exact `irate/orate`.

What the theorems give for EVERY output index / stream length:
* `aligned_forever`: an exactly compensated plan whose rate product is `r` represents output frame `k` at input instant
  `k·r` exactly — frame 0 at instant 0 (zero net delay), no accumulated error ever (rational ratios);
* `drift_bound`: if the rate product is within `ε` of `r` (rounded step of the standard clock: `ε ≤ 2⁻³³·…`,
  `std_step_rounding`), frame `K` is within `K·ε` plus the (≤ 2⁻³³ per clocked stage) initial bias of `K·r`;
* `absolute_clock`: in every state of every run (any call sizes, any length) every clocked stage satisfies
  `consumed·den + at = at₀ + produced·step`: the read position of output `k` is `⌊(at₀ + k·step)/den⌋` with phase the
  remainder, computed from the absolute index — rounding never accumulates;
* `hiprec_carry_is_wide_add`: the two-word clock update of `SOXR_HI_PREC_CLOCK` is 128-bit addition;
* `clock_loop_closed_form`: the closed form the model executes is the C `for` loop.

Not provable here (measured by `checks/c04.py` on the real code: ramp read-back, impulse centroid, sine phase after up
to 10⁸ frames): that each kernel's response really is centred where `tstage` says (symmetric coefficient tables,
filter design), floating-point rounding of the samples.
-/
namespace Soxr.Properties.C04
open Soxr Soxr.Cr

/-- **Zero net delay, no drift — exact for the whole stream.**  For an exactly compensated plan (`PlanLatOK true`)
    whose stage rates multiply to `r` (= `irate/orate` for a rational plan), position `t` of the output stream
    represents input instant `r·t`; in particular output frame `k` is the input at time `k·irate/orate` and the first
    output frame lines up with the first input frame — for every `k`, however long the stream. -/
theorem aligned_forever (l : List LStage) (r : ℚ) (hlat : PlanLatOK true l) (hrate : rateOf (l.map tstage) = r) :
    (∀ t : ℚ, timeOf (l.map tstage) t = r * t) ∧ (∀ k : ℕ, timeOf (l.map tstage) k = k * r) ∧
    timeOf (l.map tstage) 0 = 0 := by
  have h : ∀ t : ℚ, timeOf (l.map tstage) t = r * t := by
    intro t; rw [timeOf_affine, offsetOf_exact l hlat, hrate]; ring
  exact ⟨h, fun k => by rw [h]; ring, by rw [h]; ring⟩

/-- sum over the stages of the rate of everything below them: what a per-stage bias of one input period of that
    stage amounts to in periods of the pipeline's input -/
def rateSum : List TStage → ℚ
  | [] => 0
  | _ :: below => rateOf below + rateSum below

theorem tstage_a_nonneg (x : LStage) : 0 ≤ (tstage x).a := Soxr.Cr.tstage_a_nonneg x

theorem offset_bound : ∀ (l : List LStage), PlanLatOK false l →
    0 ≤ offsetOf (l.map tstage) ∧ offsetOf (l.map tstage) ≤ rateSum (l.map tstage) / 2 ^ 33 := by
  refine fun l h => ⟨offsetOf_nonneg l h, ?_⟩
  induction l with
  | nil => exact (zero_div _).ge
  | cons x rest ih =>
    simp only [List.map_cons, offsetOf, rateSum]
    -- the stage's own bias, at most 2⁻³³ of its input periods, counts `rate below` periods of the pipeline's input
    rw [add_div, div_eq_mul_one_div (rateOf _), mul_comm (rateOf _)]
    exact add_le_add (mul_le_mul_of_nonneg_right (tstage_b_bound x (h x List.mem_cons_self)).2 (rate_nonneg_map rest))
      (ih fun y hy => h y (List.mem_cons_of_mem _ hy))

/-- **Bounded drift for a rounded clock.**  If the plan's rate product is within `ε` of the requested ratio `r`
    (standard 32.32 clock: the rounded step is within 2⁻³³ of the exact one, `std_step_rounding`), then after `K`
    output frames the represented instant differs from `K·r` by at most `K·ε` plus the initial bias, which is at most
    2⁻³³ input periods of each clocked stage (0 for the standard clock). -/
theorem drift_bound (l : List LStage) (r ε : ℚ) (hlat : PlanLatOK false l) (hrate : |rateOf (l.map tstage) - r| ≤ ε) (K : ℕ) :
    |timeOf (l.map tstage) K - K * r| ≤ K * ε + rateSum (l.map tstage) / 2 ^ 33 := by
  obtain ⟨o1, o2⟩ := offset_bound l hlat
  rw [timeOf_affine]
  have e : rateOf (l.map tstage) * K + offsetOf (l.map tstage) - K * r =
      K * (rateOf (l.map tstage) - r) + offsetOf (l.map tstage) := by ring
  rw [e]
  have hK : (0 : ℚ) ≤ K := by positivity
  calc |(K : ℚ) * (rateOf (l.map tstage) - r) + offsetOf (l.map tstage)|
      ≤ |(K : ℚ) * (rateOf (l.map tstage) - r)| + |offsetOf (l.map tstage)| := abs_add_le _ _
    _ = K * |rateOf (l.map tstage) - r| + offsetOf (l.map tstage) := by rw [abs_mul, abs_of_nonneg hK, abs_of_nonneg o1]
    _ ≤ K * ε + rateSum (l.map tstage) / 2 ^ 33 := add_le_add (mul_le_mul_of_nonneg_left hrate hK) o2

/-- the rounded step of the standard clock: `step.whole = (int64)(x·2³² + .5)` is within 2⁻³³ of `x` -/
theorem std_clock_step_error (x : ℚ) : |((⌊x * 2 ^ 32 + 1 / 2⌋ : ℤ) : ℚ) / 2 ^ 32 - x| ≤ 1 / 2 ^ 33 :=
  std_step_rounding x

/-- **The hi-prec clock's carry chain is 128-bit addition** (`highPrecCore` of `poly-fir.h`): adding the low words
    modulo 2⁶⁴, detecting the carry by `at.ls < step.ls` afterwards and adding it to the high words gives
    `(at + step) mod 2¹²⁸` for all word values. -/
theorem hiprec_carry_is_wide_add (ams als sms sls : Nat) (h1 : als < 2 ^ 64) (h2 : sls < 2 ^ 64) :
    (hpAdd ams als sms sls).1 * 2 ^ 64 + (hpAdd ams als sms sls).2 =
      ((ams * 2 ^ 64 + als) + (sms * 2 ^ 64 + sls)) % 2 ^ 128 :=
  hpAdd_wide ams als sms sls h1 h2

/-- **The closed form is the C loop**: `for (i = 0; pos < limit; ++i, pos += step)` ends with
    `i = ⌈(limit − pos)/step⌉` (0 if `pos ≥ limit`) and `pos` advanced by `i·step`, for all values. -/
theorem clock_loop_closed_form (step limit pos : Nat) (hs : 0 < step) :
    cLoop step limit limit pos 0 = (loopCount pos step limit, pos + loopCount pos step limit * step) := by
  simpa only [Nat.zero_add] using cLoop_closed step limit hs limit pos 0 (Nat.sub_le _ _)

/-- **The clock never drifts, whatever the schedule and however long the stream.**  In the state reached by ANY run
    (any interleaving of input blocks, output requests, end-of-input) of a freshly initialised engine, every stage
    still has its planned configuration and its control integers are those of its absolute unit index: a clocked stage
    that has consumed `cons` frames and produced `m` outputs has `cons·den + at = at₀ + m·step` — so output `k` is read
    at `⌊(at₀ + k·step)/den⌋` with phase `(at₀ + k·step) mod den` exactly, no rounding is ever accumulated. -/
theorem absolute_clock {α : Type} (K : Kern α) (z : α) (owed : Nat → Nat) (plan : Plan) (hwf : PlanWF plan)
    (ops : List (DOp α)) (F D : List α) (e : DEng α) (r : DRuns K z owed (DEng.fresh z plan) ops F D e) :
    List.Forall₂ (fun (p : StageCfg × StageSt) (x : DStage α) => x.cfg = p.1 ∧ ∃ cons m, ctlRel p.1 p.2 x.st cons m)
      plan e.stages := by
  have := druns_inv K z owed plan ops _ _ _ _ _ _ (fresh_einv K z plan hwf) r
  obtain ⟨_, _, _, hp, _⟩ := this
  exact hp.stages_clock

/-- what `ctlRel` says for a clocked stage -/
example (c : StageCfg) (s0 s : StageSt) (cons m : Nat) (hk : c.kind = .clocked) (h : ctlRel c s0 s cons m) :
    cons * c.den + s.clk = s0.clk + m * c.step := by
  unfold ctlRel at h; simpa [hk] using h

/-! ## non-vacuity: plans exported by the real planner -/

/-- 44100 → 48000, HQ (output side first): poly-phase 80/147 with 15 coefficients, after a ×2 dft stage of 409 taps -/
def ex4448 : List LStage :=
  [ { cfg := { kind := .clocked, prePost := 15, den := 80, step := 147, poly0 := true, taps := 16 },
      s0 := { occ := 8, clk := 40, isz := 8192 }, lat := { nc := 15 } },
    { cfg := { kind := .dft, L := 2, dftLen := 2048, numTaps := 409, M := 1 },
      s0 := { occ := 102, clk := 0, isz := 1024 }, lat := { postPeak := 204 } } ]

example : PlanLatOK true ex4448 := by decide
example : rateOf (ex4448.map tstage) = 147 / 160 := by
  simp [ex4448, tstage, rateOf, dftM]; norm_num
example : ∀ k : ℕ, timeOf (ex4448.map tstage) k = k * (44100 / 48000) :=
  (aligned_forever ex4448 (44100 / 48000) (by decide) (by simp [ex4448, tstage, rateOf, dftM]; norm_num)).2.1

/-- 3 → 1.0001, VHQ with `SOXR_HI_PREC_CLOCK`: the clock starts 2⁻³³ above the exact value (only `PlanLatOK false`) -/
def exHi : List LStage :=
  [ { cfg := { kind := .clocked, prePost := 15, den := 2 ^ 96, step := 237660721470645944238521450496, taps := 16 },
      s0 := { occ := 7, clk := 2 ^ 63, isz := 8192 }, lat := { nc := 16 } },
    { cfg := { kind := .dft, L := 1, dftLen := 4096, numTaps := 825, M := 1 },
      s0 := { occ := 412, clk := 0, isz := 4096 }, lat := { postPeak := 412 } } ]

example : PlanLatOK false exHi ∧ ¬ PlanLatOK true exHi := by decide

end Soxr.Properties.C04
