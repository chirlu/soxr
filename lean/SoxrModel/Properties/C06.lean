import SoxrModel.Chan.Sim3
import SoxrModel.Chan.Toy
/-!
# C06 — channel isolation: every channel of a multi-channel resampler equals a mono run (sequential half)

Model: `SoxrModel/Chan/Model.lean` (the API layer of soxr.c over ABSTRACT per-channel engines, any channel count, both
layouts on each side, both code paths of `soxr_process`, the pull loop), `Chan/Index.lean` (the (de)interleave index maps).
The OpenMP half (atomic / non-atomic `clips +=`, finding F8) is `Properties/C06Threads.lean` (area `conc`).

* index algebra, all `ch`, `n`: `index_bijection`, `frame_major_walk`, `deinterleave_interleave_id`,
  `interleave_deinterleave_id`, `pull_advance_views`, `pull_advance_flat`;
* `multi_equals_mono_partial`: for EVERY sequence of API calls, every channel count, every layout combination, every engine
  whose counts do not depend on the data (`Shape`), channel `c` of everything the caller of the multi-channel resampler
  observes (idone, odone, error, flushing, delay, the samples written for channel `c`) is what the caller of a 1-channel
  resampler fed channel `c` alone observes — PROVIDED the conversion does not use the dither seed (`PureConv`: every
  output type but int16 with dither on).  `mono_reads_channel`: what that 1-channel resampler reads is exactly channel
  `c`'s data in either input layout.
* `multi_equals_mono_view` / `channel_data_isolation`: with ANY conversion whose seed advance is data-independent (dither
  included) channel `c` is the 1-channel run seen through `chanView`, hence never depends on other channels' DATA;
* the excluded case is really false (finding F17): `dither_breaks_multi_equals_mono` — int16 output with dither, two
  channels: channel 1 continues the dither stream where channel 0 stopped;
* `clips_eq_sum_shares` (any conversion) and `clips_sum_of_mono_runs` (seed-free conversions): the clip counter is the sum of
  the per-channel clip counts;
* `split_path_eq_generic`: the both-split loop of `soxr_process` computes what the generic path computes — also with a
  latched error (sticky on both paths since /repo commit 27b24c1; the hypothesis "no latched error" is gone).
-/
namespace Soxr.C06
open Soxr.Chan

variable {σ α β κ : Type} {E : Engine σ α}

/-- `(frame, channel) ↦ frame·ch + channel` is a bijection between `[0,n) × [0,ch)` and `[0, n·ch)` -/
theorem index_bijection (ch n : Nat) :
    (∀ f c, f < n → c < ch → idx ch f c < n * ch) ∧
    (∀ f c f' c', c < ch → c' < ch → idx ch f c = idx ch f' c' → f = f' ∧ c = c') ∧
    (∀ k, k < n * ch → k / ch < n ∧ k % ch < ch ∧ idx ch (k / ch) (k % ch) = k) :=
  ⟨fun _ _ hf hc => idx_lt hf hc, fun _ _ _ _ hc hc' h => idx_inj hc hc' h, fun _ hk => idx_surj hk⟩

/-- the frame-major loops of data-io.c (`*src++` / `*dest++`): `n·ch` assignments, the `k`-th one handles
    (frame `k / ch`, channel `k % ch`), i.e. the running pointer is at `idx ch frame channel` -/
theorem frame_major_walk (ch n : Nat) :
    (walk ch n).length = n * ch ∧ ∀ k, k < n * ch → (walk ch n)[k]? = some (k / ch, k % ch) := by
  rw [walk_eq]
  exact ⟨by simp, fun k hk => by simp [hk]⟩

theorem deinterleave_interleave_id (d : β) (ch n : Nat) (chans : List (List β)) (c : Nat) (hc : c < ch)
    (hlen : (chans.getD c []).length = n) :
    deinterleave d ch n (interleave d ch n chans) c = chans.getD c [] := by
  rw [deinterleave_interleave d ch n chans c hc, takePad_eq_self d hlen]

theorem interleave_deinterleave_id (d : β) (ch n : Nat) (buf : List β) (h : buf.length = n * ch) :
    interleave d ch n ((List.range ch).map (deinterleave d ch n buf)) = buf :=
  interleave_deinterleave d ch n buf h

/-- pull loop, interleaved output: a chunk written at flat offset `n1·ch` extends every channel's view -/
theorem pull_advance_views (d : β) (ch n1 n2 : Nat) (b1 b2 : List β) (c : Nat) (hc : c < ch) (h : b1.length = n1 * ch) :
    deinterleave d ch (n1 + n2) (b1 ++ b2) c = deinterleave d ch n1 b1 c ++ deinterleave d ch n2 b2 c :=
  deinterleave_append d ch n1 n2 b1 b2 c hc h

/-- … and the flat buffer written chunk after chunk is the interleaving of the channel-wise concatenations -/
theorem pull_advance_flat (d : β) (ch n1 n2 : Nat) (a b : List (List β)) (ha : ∀ c, c < ch → (a.getD c []).length = n1) :
    interleave d ch n1 a ++ interleave d ch n2 b
      = interleave d ch (n1 + n2) ((List.range ch).map (fun c => a.getD c [] ++ b.getD c [])) :=
  interleave_append d ch n1 n2 a b ha

example : deinterleave (0 : Int) 3 2 (interleave 0 3 2 [[1, 2], [3, 4], [5, 6]]) 1 = [3, 4] := by decide
example : interleave (0 : Int) 3 2 [[1, 2], [3, 4], [5, 6]] = [1, 3, 5, 2, 4, 6] := by decide
example : (walk 3 2)[4]? = some (1, 1) := by decide

/-- what the 1-channel resampler reads when it is "fed channel `c` alone" is channel `c`'s data, in both input layouts -/
theorem mono_reads_channel (cfg : Cfg α β) (len : Nat) (X : List (List β)) (c : Nat) (hc : c < cfg.ch)
    (hlen : (X.getD c []).length = len) :
    decodeIn (monoCfg cfg) len (projIn cfg c len (encodeIn cfg len X)) 0 = X.getD c [] := by
  show decodeIn (monoCfgC cfg cfg.cout) len _ 0 = _
  rw [decode_proj cfg cfg.cout c len len _ (Nat.le_refl _), decode_encode cfg len X c hc, takePad_eq_self _ hlen]

/-- MAIN (sequential, seed-free conversion).  For every engine with a count abstraction, every configuration (any `ch`,
    4 layout combinations), every channel `c < ch`, every initial seed and EVERY sequence of API calls: the observations of
    the 1-channel run on channel `c`'s data are the channel-`c` projection of the observations of the multi-channel run. -/
theorem multi_equals_mono_partial (Sh : Shape E κ) (cfg : Cfg α β) (P : PureConv cfg.cout) (c : Nat) (hc : c < cfg.ch)
    (seed : Nat) (ops : List (Op β)) :
    (run E (monoCfg cfg) (initSt E 1 seed) (ops.map (projOp cfg c))).2
      = (run E cfg (initSt E cfg.ch seed) ops).2.map (projObs c) :=
  (run_sim Sh cfg (chanConv_of_pure P cfg.ch c hc) ops (rel_init Sh cfg.ch c seed hc)).2

/-- the general form (dither included): if the conversion's seed advance depends on the seed and the number of samples only
    (`adv`; true of rint-clip.h: two LCG draws per block of 16 and two for the tail), channel `c` of the multi-channel run is
    the run of a 1-channel resampler whose conversion is channel `c`'s VIEW of the shared dither stream (`chanView`: skip
    `c` channels' worth of draws, convert, skip the rest) — same seed, same everything else -/
theorem multi_equals_mono_view (Sh : Shape E κ) (cfg : Cfg α β) (adv : Nat → Nat → Nat)
    (hadv : ∀ seed ys, (cfg.cout seed ys).2.2 = adv seed ys.length) (c : Nat) (hc : c < cfg.ch)
    (seed : Nat) (ops : List (Op β)) :
    (run E (monoCfgC cfg (chanView cfg.cout adv cfg.ch c)) (initSt E 1 seed) (ops.map (projOp cfg c))).2
      = (run E cfg (initSt E cfg.ch seed) ops).2.map (projObs c) :=
  (run_sim Sh cfg (chanConv_of_seedLen cfg.cout adv hadv cfg.ch c hc) ops (rel_init Sh cfg.ch c seed hc)).2

/-- CHANNEL DATA ISOLATION, dither included: two call sequences that agree on everything channel `c` is handed (same calls,
    same sizes, same samples for channel `c`, same answers of the input function for channel `c`) give the caller the same
    observations for channel `c` — whatever the OTHER channels carry.  No hypothesis on the conversion beyond the
    data-independence of its seed advance. -/
theorem channel_data_isolation (Sh : Shape E κ) (cfg : Cfg α β) (adv : Nat → Nat → Nat)
    (hadv : ∀ seed ys, (cfg.cout seed ys).2.2 = adv seed ys.length) (c : Nat) (hc : c < cfg.ch)
    (seed : Nat) (ops ops' : List (Op β)) (hops : ops.map (projOp cfg c) = ops'.map (projOp cfg c)) :
    (run E cfg (initSt E cfg.ch seed) ops).2.map (projObs c) = (run E cfg (initSt E cfg.ch seed) ops').2.map (projObs c) := by
  rw [← multi_equals_mono_view Sh cfg adv hadv c hc seed ops, ← multi_equals_mono_view Sh cfg adv hadv c hc seed ops', hops]

/-- the clip counter is the sum of the per-channel shares for ANY conversion (dither included), any call sequence -/
theorem clips_eq_sum_shares (cfg : Cfg α β) (seed : Nat) (ops : List (Op β)) :
    (run E cfg (initSt E cfg.ch seed) ops).1.clips = (run E cfg (initSt E cfg.ch seed) ops).1.clipsBy.sum :=
  (ClipInv.run (E := E) cfg ops (clipInv_init (E := E) cfg.ch seed)).1

/-- clips of the multi-channel run = Σ over the channels of the clips of the mono runs -/
theorem clips_sum_of_mono_runs (Sh : Shape E κ) (cfg : Cfg α β) (P : PureConv cfg.cout) (seed : Nat) (ops : List (Op β)) :
    (run E cfg (initSt E cfg.ch seed) ops).1.clips
      = ((List.range cfg.ch).map
          (fun c => (run E (monoCfg cfg) (initSt E 1 seed) (ops.map (projOp cfg c))).1.clips)).sum := by
  have hinv := ClipInv.run (E := E) cfg ops (clipInv_init (E := E) cfg.ch seed)
  rw [hinv.1, ← takePad_eq_self 0 hinv.2.1]
  congr 1
  apply List.map_congr_left
  intro c hc
  have hc := List.mem_range.mp hc
  exact ((run_sim Sh cfg (chanConv_of_pure P cfg.ch c hc) ops (rel_init Sh cfg.ch c seed hc)).1.clips).symm

/-- the generic branch of `soxr_process` (`soxr_input`, then `soxr_output`), whatever the layout flags say -/
def processGeneric (E : Engine σ α) (cfg : Cfg α β) (s : St σ) (inb : Option (InBuf β)) (ilen0 : Nat)
    (fr wi op : Bool) (olen : Nat) (rs : List (Nat → FnReply β)) : ProcRes σ β :=
  let ilen := procIlen cfg inb ilen0 wi olen
  let s0 := procFlush cfg s inb ilen0 fr wi olen
  let r1 := if ilen ≠ 0 then input E cfg s0 inb ilen else (s0, 0)
  let r2 := output E cfg r1.1 op olen rs
  { st := r2.1, idone := r1.2, odone := r2.2.1, out := r2.2.2 }

theorem split_path_eq_generic (cfg : Cfg α β) (s : St σ) (inb : Option (InBuf β)) (ilen0 : Nat) (fr wi : Bool) (olen : Nat)
    (rs : List (Nat → FnReply β))
    (hs : cfg.isplit = true ∧ cfg.osplit = true)
    (hlen : s.eng.length = cfg.ch)
    (hfn : s.fn = none)                -- the both-split loop never calls the input function
    (hnil : ∀ e, E.input e [] = e)     -- soxr_input_1ch with ilen = 0 reserves nothing
    :
    process E cfg s inb ilen0 fr wi true olen rs = processGeneric E cfg s inb ilen0 fr wi true olen rs := by
  have hn : ¬ (true = false ∧ inb.isNone) := by simp
  cases hE : s.error.isSome
  · -- the loop is "feed every channel, then one output round" (`process_split_eq`); so is the generic path when every engine
    -- ignores an empty block and there is no input function
    rw [process_split_eq hs hn hE]
    unfold processGeneric
    simp only
    rw [input_feedOpt cfg (procFlush cfg s inb ilen0 fr wi olen) inb _ hE hnil (fun h => by simp [procIlen, h])]
    simp only
    rw [output_no_fn cfg _ olen rs (by exact hE) (by exact hfn) (by simp [feedOpt, procFlush, hlen])]
    rfl
  · -- a latched error is sticky on both paths (since /repo commit 27b24c1): nothing but the flush bookkeeping happens
    have he0 : (procFlush cfg s inb ilen0 fr wi olen).error.isSome = true := hE
    rw [process_err hn hE]
    simp only [processGeneric, input_err cfg _ _ _ he0, ite_self, output, he0, if_true]

/-! ## the excluded case is false on the pinned code: dither (finding F17) -/

/-- int16 output with dither on, two channels carrying the SAME sample: channel 1 of the 2-channel run gets 0, the
    1-channel run (same seed) gets −1, because channel 1 continues the dither stream where channel 0 stopped.
    (Replayed on the real code by `checks/c06.py`: `harness/chan/iso.c` with both channels fed the same signal.) -/
theorem dither_breaks_multi_equals_mono :
    ¬ ∀ (cfg : Cfg Int Int) (c : Nat) (seed : Nat) (ops : List (Op Int)), c < cfg.ch →
        (run (Toy.engine 1 1 1) (monoCfg cfg) (initSt (Toy.engine 1 1 1) 1 seed) (ops.map (projOp cfg c))).2
          = (run (Toy.engine 1 1 1) cfg (initSt (Toy.engine 1 1 1) cfg.ch seed) ops).2.map (projObs c) := by
  intro h
  have := h (Toy.cfg 2 false false 3 true 1 1 false) 1 1
    [Op.process (some (InBuf.inter [0, 0])) 1 false false true 1 []] (by decide)
  have h2 := congrArg (fun l => l.map (fun o => o.out)) this
  revert h2
  decide

/-! ## non-vacuity: the hypotheses are satisfiable by the engine and conversions the executable tie runs -/

example : Shape (Toy.engine 2 3 4) Toy.TK := Toy.shape 2 3 4
example : PureConv (Toy.cfg 3 true false 2 true 1 1 false).cout := Toy.pureToy 2 true (by decide)
/-- the dithering int16 conversion of the toy tie advances the seed by a function of (seed, number of samples) only -/
example : ∃ adv : Nat → Nat → Nat, ∀ seed (ys : List Int), (Toy.toyCout 3 true seed ys).2.2 = adv seed ys.length :=
  ⟨fun seed n => (Toy.ditherAll (n / 16 + 1) (List.replicate n 0) seed).2.2, Toy.dither_seed_len⟩

/-- a 3-channel, split-in / interleaved-out run whose channel 2 is what the mono run delivers (saturating int16, scale 4:
    2 of the 3 samples of channel 2 clip) -/
example :
    ((run (Toy.engine 1 1 4) (Toy.cfg 3 true false 3 false 1 1 false) (initSt (Toy.engine 1 1 4) 3 7)
        [Op.process (some (InBuf.split [[1, 2, 3], [10, 20, 30], [9000, -9000, 5]])) 3 false false true 3 []]).2.map
      (fun o => (o.odone, o.out.getD 2 []))) = [(3, [32767, -32768, 20])] := by decide

end Soxr.C06
