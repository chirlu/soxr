import SoxrModel.Conc.Clips
/-!
# C06, threads clause — "…whether channels are processed sequentially or by OpenMP threads; the clip counter equals the sum of
# the per-channel clip counts."

Model: `Soxr.Conc.Clips` (each channel's `p->clips += n_i` is an action of some thread; any number of channels/threads;
arbitrary interleaving).

* The code as it is (`size_t clips = interleave(…); #pragma omp atomic  p->clips += clips;`, fix of F8): the addition is ONE
  atomic step, the total is exact under every interleaving (`atomic_total_exact`), across any number of successive parallel
  regions (`atomic_rounds_exact`), and equals what the sequential loop computes (`sequential_total`).  The real-code
  falsifier (`checks/conclib.clips_threads`) reports ANY lost count as a violation.
* Historical, why the atomic is needed: with the former plain `p->clips +=` (a load followed by a store) the clause was false
  under threads: a two-channel lost update is reachable (`nonatomic_lost_update_reachable`, `not_nonatomic_exact`; defect
  F8, fixed); what held was one-sided, the counter never exceeded the exact sum (`nonatomic_never_overcounts`).
-/
namespace Soxr.C06Threads
open Soxr.Conc.Clips

/-- atomic RMW: when every channel has added its count the counter is exactly the old value plus the sum, whatever the order
    in which the threads got to run -/
theorem atomic_total_exact {t0 : Nat} {cs : List Nat} {s : ASt}
    (h : AReach { total := t0, todo := cs } s) (hdone : s.todo = []) : s.total = t0 + cs.sum := by
  have := atomic_inv h
  simp only [hdone, List.sum_nil] at this
  omega

/-- atomic RMW, at every intermediate moment: counter + what is still to be added = exact sum -/
theorem atomic_total_invariant {t0 : Nat} {cs : List Nat} {s : ASt}
    (h : AReach { total := t0, todo := cs } s) : s.total + s.todo.sum = t0 + cs.sum :=
  atomic_inv h

/-- successive parallel regions (successive `soxr_process` calls): `Runs t0 css t1` = each region of `css` is run to completion
    under some interleaving, starting from counter `t0` and ending with `t1` -/
inductive Runs : Nat → List (List Nat) → Nat → Prop
  | nil (t : Nat) : Runs t [] t
  | cons {t0 t1 : Nat} {cs : List Nat} {css : List (List Nat)} {s : ASt} :
      AReach { total := t0, todo := cs } s → s.todo = [] → Runs s.total css t1 → Runs t0 (cs :: css) t1

theorem atomic_rounds_exact {t0 t1 : Nat} {css : List (List Nat)} (h : Runs t0 css t1) :
    t1 = t0 + (css.map List.sum).sum := by
  induction h with
  | nil t => simp
  | cons hr hd _ ih =>
    have := atomic_total_exact hr hd
    simp only [List.map_cons, List.sum_cons]
    omega

/-- the sequential loop (`for (u = 0; u < num_channels; ++u)`, `arun`: the channels in list order) yields the same total -/
theorem sequential_total (t0 : Nat) (cs : List Nat) : (arun cs { total := t0, todo := cs }).total = t0 + cs.sum := by
  suffices h : ∀ (cs : List Nat) (s : ASt), (arun cs s).total = s.total + cs.sum from h cs _
  intro cs
  induction cs with
  | nil => intro s; simp [arun]
  | cons c cs ih => intro s; simp only [arun, ih, List.sum_cons]; omega

/-- HISTORICAL (code before the fix of F8) — negation for the non-atomic `p->clips +=`: two channels that each clipped once, both load 0, both store 1 -/
theorem nonatomic_lost_update_reachable :
    ∃ s, NReach (ninit 0 [1, 1]) s ∧ s.todo = [] ∧ s.loaded = [] ∧ s.total = 1 := by
  refine ⟨{ total := 1, todo := [], loaded := [] }, ?_, rfl, rfl, rfl⟩
  have s1 : NStep (ninit 0 [1, 1]) { total := 0, todo := [1], loaded := [(0, 1)] } := NStep.load (ninit 0 [1, 1]) 1 (by decide)
  have s2 : NStep { total := 0, todo := [1], loaded := [(0, 1)] } { total := 0, todo := [], loaded := [(0, 1), (0, 1)] } :=
    NStep.load { total := 0, todo := [1], loaded := [(0, 1)] } 1 (by decide)
  have s3 : NStep { total := 0, todo := [], loaded := [(0, 1), (0, 1)] } { total := 1, todo := [], loaded := [(0, 1)] } :=
    NStep.store { total := 0, todo := [], loaded := [(0, 1), (0, 1)] } 0 1 (by decide)
  have s4 : NStep { total := 1, todo := [], loaded := [(0, 1)] } { total := 1, todo := [], loaded := [] } :=
    NStep.store { total := 1, todo := [], loaded := [(0, 1)] } 0 1 (by decide)
  exact .step (.step (.step (.step .init s1) s2) s3) s4

theorem not_nonatomic_exact :
    ¬ ∀ (t0 : Nat) (cs : List Nat) (s : NSt), NReach (ninit t0 cs) s → s.todo = [] → s.loaded = [] → s.total = t0 + cs.sum := by
  intro h
  obtain ⟨s, hr, h1, h2, h3⟩ := nonatomic_lost_update_reachable
  have := h 0 [1, 1] s hr h1 h2
  simp at this
  omega

/-- non-atomic RMW: updates may be lost but the counter never exceeds the exact sum, under every interleaving -/
theorem nonatomic_never_overcounts {t0 : Nat} {cs : List Nat} {s : NSt} (h : NReach (ninit t0 cs) s) :
    s.total ≤ t0 + cs.sum := by
  obtain ⟨D, h1, -, h3⟩ := nonatomic_inv h
  omega

/-- an atomic run of three channels to completion in a non-sequential order -/
example : ∃ s, AReach { total := 5, todo := [3, 0, 4] } s ∧ s.todo = [] ∧ s.total = 12 := by
  refine ⟨{ total := 12, todo := [] }, ?_, rfl, rfl⟩
  have s1 : AStep { total := 5, todo := [3, 0, 4] } { total := 9, todo := [3, 0] } := AStep.add _ 4 (by decide)
  have s2 : AStep { total := 9, todo := [3, 0] } { total := 12, todo := [0] } := AStep.add _ 3 (by decide)
  have s3 : AStep { total := 12, todo := [0] } { total := 12, todo := [] } := AStep.add _ 0 (by decide)
  exact .step (.step (.step .init s1) s2) s3

example : Runs 0 [[1, 2], [3]] 6 := by
  have a1 : AStep { total := 0, todo := [1, 2] } { total := 2, todo := [1] } := AStep.add _ 2 (by decide)
  have a2 : AStep { total := 2, todo := [1] } { total := 3, todo := [] } := AStep.add _ 1 (by decide)
  have b1 : AStep { total := 3, todo := [3] } { total := 6, todo := [] } := AStep.add _ 3 (by decide)
  exact .cons (s := { total := 3, todo := [] }) (.step (.step .init a1) a2) rfl
    (.cons (s := { total := 6, todo := [] }) (.step .init b1) rfl (.nil 6))

end Soxr.C06Threads
