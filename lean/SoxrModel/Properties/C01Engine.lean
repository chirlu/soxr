import SoxrModel.Properties.C12Engine
import SoxrModel.Properties.C12Fir
import Mathlib.Algebra.Ring.Defs
import Mathlib.Algebra.Order.Ring.Abs
import Mathlib.Analysis.Normed.Field.Basic
import Mathlib.Tactic.Ring
/-!
# C01 / C02 (engine half): the response of the engine model to a tone repeats with the implementation period

`Signal/Tone.lean` proves, for an abstract `(L, M)`-shift-covariant linear system, that the error of a reproduced tone over
a stream of ANY length is decided by one period of `L` output frames — which is why the checks of C01 / C02 measure one
period.  Here the same is proved about the ENGINE MODEL itself (`Cr/Data.lean` … `Cr/Shift.lean`: stage FIFOs, block
schedules, arbitrary call sequences), for every kernel that is homogeneous (`KSmul`: a gain on the window is a gain on the
output — every table-driven FIR kernel, `Properties/C12Fir.lean`): no linear-system abstraction in between.

`planShift` (the executable the driver runs on every exported plan) reports `(d, d_out, hor)`.  Then for the tone
`x[n] = zⁿ` the output stream `y` of any streaming run satisfies, beyond the horizon,

    y[j + d_out] = z^d · y[j]                                   (`tone_step_runs`, `tone_step_one_run`)

so against the same continuous-time tone at the output rate, `G·w^j` with `w^d_out = z^d`,

    y[j + d_out] − G·w^(j + d_out) = z^d · (y[j] − G·w^j)      (`tone_error_step`)

and for `|z| = 1` the error magnitude is `d_out`-periodic (`tone_error_norm_periodic`): the worst error over a stream of
any length is attained within the first `d_out` frames after the horizon (`tone_error_first_period`).
That the compiled floating-point kernels are such kernels up to rounding stays the measured part.
-/
namespace Soxr.Properties.C01Engine
open Soxr Soxr.Cr Soxr.Properties.C12Engine

variable {R : Type} [CommSemiring R]

/-- the first `N` samples of the tone `zⁿ` -/
def tone (z : R) (N : Nat) : List R := (List.range N).map (fun n => z ^ n)

@[simp] theorem tone_length (z : R) (N : Nat) : (tone z N).length = N := by simp [tone]

theorem tone_getElem? (z : R) (N n : Nat) (h : n < N) : (tone z N)[n]? = some (z ^ n) := by
  simp [tone, h]

/-- dropping `d` samples of a tone is the tone times `z^d` -/
theorem tone_drop (z : R) (N d : Nat) : (tone z (N + d)).drop d = lsmul (z ^ d) (tone z N) := by
  unfold tone lsmul
  rw [Nat.add_comm, List.range_add, List.map_append, List.drop_left' (by simp), List.map_map, List.map_map]
  exact List.map_congr_left fun n _ => pow_add z d n

theorem tone_prefix (z : R) {N N' : Nat} (h : N ≤ N') : tone z N <+: tone z N' := by
  rw [List.prefix_iff_eq_take]
  unfold tone
  rw [List.length_map, List.length_range, ← List.map_take, List.take_range, Nat.min_eq_left h]

omit [CommSemiring R] in
theorem prefix_getElem? {a b : List R} (h : a <+: b) {j : Nat} (hj : j < a.length) : b[j]? = a[j]? := by
  obtain ⟨t, rfl⟩ := h
  exact List.getElem?_append_left hj

theorem lsmul_getElem? (a : R) (l : List R) (j : Nat) : (lsmul a l)[j]? = (l[j]?).map (a * ·) := by
  simp [lsmul]

/-- **Tone step on canonical streams.**  `s`: a canonical stream of the plan for the first `N` samples of the tone, `s'`: one
    for the first `N + d`.  Beyond the horizon `s'` is `s`, `d_out` frames later, times `z^d`. -/
theorem tone_step_cinv (K : Kern R) (hK : KSmul K) (bound : Nat) (pl : Plan) (d dout hor : Nat)
    (hp : planShift bound pl = some (d, dout, hor)) (z : R) (N : Nat) (s s' : List R)
    (h1 : CInv K 0 pl (tone z N) s) (h2 : CInv K 0 pl (tone z (N + d)) s') :
    ∀ j, hor ≤ j → j < s.length → j + dout < s'.length → ∀ y, s[j]? = some y → s'[j + dout]? = some (z ^ d * y) := by
  intro j hj hjs hjs' y hy
  -- `z^d · s` is a canonical stream of `z^d · tone N`, which is `tone (N + d)` without its first `d` samples
  have hsc := h1.smul hK (a := z ^ d) (mul_zero _)
  have hcmp : Comparable (lsmul (z ^ d) (tone z N)) ((tone z (N + d)).drop d) := by
    rw [tone_drop]; exact Comparable.refl _
  have hsh := planShift_sound K 0 bound pl d dout hor hp _ _ _ _ hcmp hsc h2
  -- read index `j - hor` of both sides
  have := hsh.getElem?_eq (i := j - hor) (by rw [List.length_drop, lsmul, List.length_map]; omega)
    (by rw [List.length_drop]; omega)
  rw [List.getElem?_drop, List.getElem?_drop, show hor + (j - hor) = j by omega,
    show hor + dout + (j - hor) = j + dout by omega, lsmul_getElem?, hy] at this
  exact this.symm

/-- **Tone step, any schedules.**  Two streaming runs of the freshly initialised engine over the tone, `N` and `N + d` samples
    of it, with ANY call schedules: beyond the horizon, what the longer run has produced at frame `j + d_out` is `z^d` times
    what the shorter one produced at frame `j`. -/
theorem tone_step_runs (K : Kern R) (hK : KSmul K) (owed : Nat → Nat) (plan : Plan) (hwf : PlanWF plan) (bound d dout hor : Nat)
    (hp : planShift bound plan = some (d, dout, hor)) (z : R) (N : Nat)
    (ops₁ ops₂ : List (DOp R)) (D₁ D₂ : List R) (e₁ e₂ : DEng R)
    (r₁ : DRuns K 0 owed (DEng.fresh 0 plan) ops₁ (tone z N) D₁ e₁) (r₂ : DRuns K 0 owed (DEng.fresh 0 plan) ops₂ (tone z (N + d)) D₂ e₂)
    (f₁ : e₁.fl = false) (f₂ : e₂.fl = false) :
    ∀ j, hor ≤ j → j < (D₁ ++ e₁.out).length → j + dout < (D₂ ++ e₂.out).length →
      ∀ y, (D₁ ++ e₁.out)[j]? = some y → (D₂ ++ e₂.out)[j + dout]? = some (z ^ d * y) :=
  tone_step_cinv K hK bound plan d dout hor hp z N _ _ (fresh_runs_streaming hwf r₁ f₁).toCInv
    (fresh_runs_streaming hwf r₂ f₂).toCInv

/-- **Tone step inside one stream.**  The same two runs: the streams agree as far as both have got (prefix consistency), so
    inside the longer one `y[j + d_out] = z^d · y[j]` for every `j` beyond the horizon that the shorter run reached. -/
theorem tone_step_one_run (K : Kern R) (hK : KSmul K) (owed : Nat → Nat) (plan : Plan) (hwf : PlanWF plan) (bound d dout hor : Nat)
    (hp : planShift bound plan = some (d, dout, hor)) (z : R) (N : Nat)
    (ops₁ ops₂ : List (DOp R)) (D₁ D₂ : List R) (e₁ e₂ : DEng R)
    (r₁ : DRuns K 0 owed (DEng.fresh 0 plan) ops₁ (tone z N) D₁ e₁) (r₂ : DRuns K 0 owed (DEng.fresh 0 plan) ops₂ (tone z (N + d)) D₂ e₂)
    (f₁ : e₁.fl = false) (f₂ : e₂.fl = false) :
    ∀ j, hor ≤ j → j < (D₁ ++ e₁.out).length → j + dout < (D₂ ++ e₂.out).length →
      ∀ y, (D₂ ++ e₂.out)[j]? = some y → (D₂ ++ e₂.out)[j + dout]? = some (z ^ d * y) := by
  intro j hj h1 h2 y hy
  have c1 := (fresh_runs_streaming hwf r₁ f₁).toCInv
  have c2 := (fresh_runs_streaming hwf r₂ f₂).toCInv
  have hc := CInv_comparable K 0 plan _ _ _ _ c1 c2 (Or.inl (tone_prefix z (Nat.le_add_right N d)))
  exact tone_step_cinv K hK bound plan d dout hor hp z N _ _ c1 c2 j hj h1 h2 y ((hc.getElem?_eq h1 (by omega)).trans hy)

/-- **Every table-driven FIR engine** (`dotKern T`, any coefficient table `T` over any commutative semiring): the tone step holds
    for it with no hypothesis on the kernels at all. -/
theorem fir_engine_tone_step (T : StageCfg → Nat → Nat → Nat → List R) (owed : Nat → Nat) (plan : Plan) (hwf : PlanWF plan)
    (bound d dout hor : Nat) (hp : planShift bound plan = some (d, dout, hor)) (z : R) (N : Nat)
    (ops₁ ops₂ : List (DOp R)) (D₁ D₂ : List R) (e₁ e₂ : DEng R)
    (r₁ : DRuns (dotKern T) 0 owed (DEng.fresh 0 plan) ops₁ (tone z N) D₁ e₁)
    (r₂ : DRuns (dotKern T) 0 owed (DEng.fresh 0 plan) ops₂ (tone z (N + d)) D₂ e₂) (f₁ : e₁.fl = false) (f₂ : e₂.fl = false) :
    ∀ j, hor ≤ j → j < (D₁ ++ e₁.out).length → j + dout < (D₂ ++ e₂.out).length →
      ∀ y, (D₂ ++ e₂.out)[j]? = some y → (D₂ ++ e₂.out)[j + dout]? = some (z ^ d * y) :=
  tone_step_one_run (dotKern T) (dotKern_smul T) owed plan hwf bound d dout hor hp z N ops₁ ops₂ D₁ D₂ e₁ e₂ r₁ r₂ f₁ f₂

section ring
variable {A : Type} [CommRing A]

/-- against the same continuous-time tone at the output rate (`w^d_out = z^d`, gain `G`), the error one period later is the
    error now times `z^d` -/
theorem tone_error_step (z w G y y' : A) (d dout j : Nat) (hw : w ^ dout = z ^ d) (hy : y' = z ^ d * y) :
    y' - G * w ^ (j + dout) = z ^ d * (y - G * w ^ j) := by
  rw [hy, pow_add, hw]; ring

end ring

section normed
variable {𝕜 : Type} [NormedField 𝕜]

/-- for a tone on the unit circle the error MAGNITUDE is `d_out`-periodic -/
theorem tone_error_norm_periodic (z w G y y' : 𝕜) (d dout j : Nat) (hz : ‖z‖ = 1) (hw : w ^ dout = z ^ d) (hy : y' = z ^ d * y) :
    ‖y' - G * w ^ (j + dout)‖ = ‖y - G * w ^ j‖ := by
  rw [tone_error_step z w G y y' d dout j hw hy, norm_mul, norm_pow, hz, one_pow, one_mul]

/-- **One period decides the whole stream.**  A stream `y` (as a function of the frame index, on `[0, n)`) with
    `y[j + d_out] = z^d · y[j]` for `hor ≤ j`, `j + d_out < n` — what `tone_step_one_run` gives for the engine: if the error is at
    most `ε` on the first period after the horizon, it is at most `ε` at every frame of the stream, however long. -/
theorem tone_error_first_period (z w G : 𝕜) (y : Nat → 𝕜) (d dout hor n : Nat) (hd : 0 < dout) (hz : ‖z‖ = 1) (hw : w ^ dout = z ^ d)
    (hstep : ∀ j, hor ≤ j → j + dout < n → y (j + dout) = z ^ d * y j) (ε : ℝ)
    (h0 : ∀ j, hor ≤ j → j < hor + dout → j < n → ‖y j - G * w ^ j‖ ≤ ε) :
    ∀ j, hor ≤ j → j < n → ‖y j - G * w ^ j‖ ≤ ε := by
  intro j
  induction j using Nat.strong_induction_on with
  | _ j ih =>
    intro hj hn
    by_cases hfirst : j < hor + dout
    · exact h0 j hj hfirst hn
    · obtain ⟨i, rfl⟩ : ∃ i, j = i + dout := ⟨j - dout, by omega⟩
      have hi : hor ≤ i := by omega
      rw [tone_error_norm_periodic z w G (y i) (y (i + dout)) d dout i hz hw (hstep i hi hn)]
      exact ih i (by omega) hi (by omega)

end normed

/-! ## non-vacuity: `planShift` reports a shift for the example plan of `Properties/C12Engine.lean` -/

example : planShift 1000 exPlan = some (6, 2, 5) := by decide

end Soxr.Properties.C01Engine
