import SoxrModel.Cr.Pull
/-!
# C18 Input-function contract: bounded requests, no call after end or failure

Model: `Api.output` (= `soxr_output` of `soxr.c` as it is now, i.e. with the repaired `break` on failure and with
`soxr_clear` keeping `max_ilen`), the input function being an **arbitrary** script of answers.  Tie to `/repo`:
`checks/c18.py` logs every (request, answer) pair of the real library under scripted input functions and replays the
same calls through this very definition (compiled driver), comparing request sizes, number of calls, counts and flags.
-/
namespace Soxr.Properties.C18
open Soxr Soxr.Cr

/-- the answers a call consumed: `script = used ++ rest` -/
def Used (script rest used : List Supply) : Prop := script = used ++ rest

/-- **After a failure: no call, no output, state unchanged** — for every later request and every script. -/
theorem nothing_after_failure (num : Num) (fuel : Nat) (a : Api) (len0 : Nat) (script : List Supply) (herr : a.error = true) :
    a.output num fuel len0 script = some (a, 0, script, []) :=
  output_of_error herr

/-- … and the error state persists over any number of further calls. -/
theorem failure_is_sticky (num : Num) (fuel : Nat) (a : Api) (herr : a.error = true) (lens : List Nat) (script : List Supply) :
    ∀ len0 ∈ lens, a.output num fuel len0 script = some (a, 0, script, []) :=
  fun len0 _ => nothing_after_failure num fuel a len0 script herr

/-- **Requests are bounded.**  Every request made during a `soxr_output` call asks for exactly
    `min(max_ilen, ⌈olen·io_ratio⌉)` frames — never more than `max_ilen`. -/
theorem request_le_max_ilen (num : Num) (fuel : Nat) (a a' : Api) (len0 od : Nat) (script rest : List Supply) (reqs : List Nat)
    (h : a.output num fuel len0 script = some (a', od, rest, reqs)) :
    ∀ r ∈ reqs, r = min a.maxIlen (num.iForO len0) ∧ r ≤ a.maxIlen := by
  cases herr : a.error
  · obtain ⟨reqs', rfl, spec⟩ := output_spec herr h
    obtain ⟨used, _, u2, _⟩ := spec.used
    intro r hr
    rw [u2, List.append_nil, List.mem_reverse] at hr
    cases List.eq_of_mem_replicate hr
    exact ⟨rfl, Nat.min_le_left _ _⟩
  · cases (nothing_after_failure num fuel a len0 script herr).symm.trans h
    exact fun _ hr => nomatch hr

/-- The full shape of one call, for every script: the consumed answers are a prefix of the script; all but the last
    are proper (non-empty) supplies — so **nothing is asked after end-of-input or failure**; the number of requests
    equals the number of answers; a failure puts the resampler in the error state and only a failure does; end-of-input
    is latched exactly by an end answer. -/
theorem call_shape (num : Num) (fuel : Nat) (a a' : Api) (len0 od : Nat) (script rest : List Supply) (reqs : List Nat)
    (herr : a.error = false) (h : a.output num fuel len0 script = some (a', od, rest, reqs)) :
    ∃ used, Used script rest used ∧ reqs.length = used.length ∧
      (∀ s ∈ used.dropLast, s.isData = true) ∧
      (a'.error = true ↔ used.getLast? = some Supply.fail) ∧
      (a.flushing = false → (a'.flushing = true ↔ ∃ s, used.getLast? = some s ∧ s.isEnd = true)) ∧
      (a.flushing = true → a'.flushing = true) ∧ a'.hasFn = a.hasFn ∧ a'.maxIlen = a.maxIlen := by
  obtain ⟨reqs', rfl, spec⟩ := output_spec herr h
  obtain ⟨used, u1, u2, u3, u4, _, u6, _⟩ := spec.used
  exact ⟨used, u1, by simp [u2], u3, u4, u6, spec.fl_mono, spec.hasFn, spec.maxIlen⟩

/-- **No call after end-of-input** (across calls): once flushing, a `soxr_output` call asks nothing. -/
theorem no_call_when_flushing (num : Num) (fuel : Nat) (a a' : Api) (len0 od : Nat) (script rest : List Supply) (reqs : List Nat)
    (hfl : a.flushing = true) (h : a.output num fuel len0 script = some (a', od, rest, reqs)) :
    reqs = [] ∧ rest = script ∧ a'.flushing = true := by
  cases herr : a.error
  · obtain ⟨reqs', rfl, spec⟩ := output_spec herr h
    obtain ⟨used, u1, u2, _, _, u5, _⟩ := spec.used
    cases u5 (Or.inl hfl)
    exact ⟨by simp [u2], u1.symm, spec.fl_mono hfl⟩
  · cases (nothing_after_failure num fuel a len0 script herr).symm.trans h
    exact ⟨rfl, rfl, hfl⟩

/-- `soxr_process` on the generic path goes through the same loop: its requests obey the same bound. -/
theorem process_request_bound (num : Num) (fuel : Nat) (a a' : Api) (hasIn flushReq useIdone : Bool) (ilen0 olen idone odone : Nat)
    (script rest : List Supply) (reqs : List Nat)
    (h : a.process num fuel hasIn flushReq useIdone ilen0 olen script = some (a', idone, odone, rest, reqs)) :
    ∀ r ∈ reqs, r ≤ a.maxIlen := by
  unfold Api.process at h
  simp only at h
  split at h
  · cases h
  · next hout =>
    cases h
    intro r hr
    have := (request_le_max_ilen num fuel _ _ olen _ script _ _ hout r hr).2
    -- `max_ilen` is not touched by the flag update nor by `soxr_input`
    have hm : ∀ (b : Api) (n : Nat), (if n != 0 then b.input n else b).maxIlen = b.maxIlen := by
      intro b n; split
      · exact (input_flags b n).2.2.1
      · rfl
    rwa [hm] at this

/-- **Everything supplied is consumed exactly once** (count form).  Over one `soxr_output` call that does not latch
    end-of-input, the engine's `samples_in` grows by exactly the frames carried by the answers the call consumed — the
    consumed answers being a prefix of the script (order) — for every script, state and request.  (That the SAMPLES
    then come out as the resampling of exactly those frames in that order is C05's `delivered_is_canonical`; once
    end-of-input is latched `_soxr_flush` folds `samples_in` into the owed count, which C03 covers.) -/
theorem supplied_consumed_once (num : Num) (fuel : Nat) (a a' : Api) (len0 od : Nat) (script rest : List Supply) (reqs : List Nat)
    (h : a.output num fuel len0 script = some (a', od, rest, reqs)) (herr : a.error = false) (hefl : a.eng.fl = false)
    (hfl' : a'.flushing = false) :
    ∃ used, script = used ++ rest ∧ a'.eng.sin = a.eng.sin + dataSum used := by
  obtain ⟨_, _, spec⟩ := output_spec herr h
  obtain ⟨used, u1, _, _, _, _, _, u7⟩ := spec.used
  exact ⟨used, u1, (u7 hefl hfl').1⟩

/-! ## non-vacuity: a scripted call on a concrete engine -/
def exApi : Api := { eng := { stages :=
  [ { cfg := { kind := .half, prePost := 32 }, st := { occ := 16, isz := 8192 } } ] }, hasFn := true, maxIlen := 64 }
def exNum : Num := { owed := fun n => n / 2, iForO := fun n => 2 * n }

example : ∃ r, exApi.output exNum 1000 10 [.data 64, .data 64, .fail, .data 100] = some r ∧ r.1.error = false ∧
    r.2.1 = 10 ∧ r.2.2.2 = [20] ∧ r.2.2.1 = [.data 64, .fail, .data 100] ∧ r.1.eng.sin = 64 ∧ r.1.flushing = false := by
  refine ⟨_, rfl, ?_, ?_, ?_, ?_, ?_, ?_⟩ <;> decide

/-- a failure at the first call: error state, the answers after it are never asked for -/
example : ∃ r, exApi.output exNum 1000 100 [.fail, .data 100] = some r ∧ r.1.error = true ∧ r.2.2.1 = [.data 100] := by
  refine ⟨_, rfl, ?_, ?_⟩ <;> decide

end Soxr.Properties.C18
