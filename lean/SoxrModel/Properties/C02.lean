/-
  C02 — Stop-band rejection.

  "Input content at or above the configured stop-band start (when down-sampling: everything that would alias; when
  up-sampling: every spectral image of the pass-band) appears in the output attenuated by at least the configured
  precision, about 6.02 dB per bit.  This holds at every frequency up to the input Nyquist limit, not only at probe
  frequencies, for every ratio, quality spec and engine."

  What is proved here (over ℂ, exact arithmetic, rational ratio, beyond the start-up horizon): for a linear system with
  finitely supported rows that is (L,M)-shift covariant from `k₀` on,
  * the output LEVEL of a stop-band tone over the whole stream is decided by the `L` outputs of one period
    (`stopband_iff_one_period`), so every finite sum of stop-band tones with arbitrary complex amplitudes comes out
    at most `ε·Σ|aᵢ|` at EVERY output index (`stopband_rejection`) — aliases included, since the bound is on the
    total output whatever frequency it lands on;
  * a signal with in-band and stop-band content comes out as its in-band part (times the filter's response) up to
    `ε_pass·Σ|aᵢ| + ε_stop·Σ|bⱼ|` (`mixed_signal`);
  * when up-sampling, every spectral image of an in-band tone — every zero-sum unimodular line of the period of
    `c_r` — is at most `max_r |c_r − G|` (`images_rejected`).
  The inequalities on the `L` numbers per frequency are MEASURED on the real code (checks/c02.py), on a frequency grid
  from the stop-band start to the input Nyquist limit; between grid points only the grid density speaks.

  Not proved: that the designed filters meet the inequalities (`Goal_designed_filters_reject`), irrational ratios,
  floating-point rounding.
-/
import SoxrModel.Properties.C01

namespace Soxr.C02

open Soxr.Signal Soxr.Signal.Kernel Finset

/-- The hypotheses of one rational configuration for the stop band.  `S` is the set of input tones from the stop-band
start to the input Nyquist limit the hypothesis was evaluated for, `ε` the rejection bound (2^(−bits)).
`cov` is ASSUMED of the real kernels; `level` is MEASURED (`|y_z[k₀+r]| = |Σₙ g[k₀+r,n]·zⁿ|`). -/
structure StopBand (K : Kernel ℂ) (L M k₀ : ℤ) (S : Set ℂ) (ε : ℝ) : Prop where
  cov : K.CovFrom L M k₀
  Lpos : 0 < L
  unit_in : ∀ z ∈ S, ‖z‖ = 1
  level : ∀ z ∈ S, ∀ r, 0 ≤ r → r < L → ‖K.resp (fun n => z ^ n) (k₀ + r)‖ ≤ ε

variable {K : Kernel ℂ} {L M k₀ : ℤ} {S : Set ℂ} {ε : ℝ}

/-- **Stop-band rejection.** Every finite sum of stop-band tones with arbitrary complex amplitudes appears in the
output at a level of at most `ε·Σ|aᵢ|`, at EVERY output index beyond the horizon. -/
theorem stopband_rejection (D : StopBand K L M k₀ S ε) {ι : Type*} (s : Finset ι) (a z : ι → ℂ)
    (hz : ∀ i ∈ s, z i ∈ S) {k : ℤ} (hk : k₀ ≤ k) :
    ‖K.resp (fun n => ∑ i ∈ s, a i * z i ^ n) k‖ ≤ ε * ∑ i ∈ s, ‖a i‖ := by
  have h := D.cov.tones_level_le_of_resp D.Lpos s a z (fun _ => ε) (fun i hi => D.unit_in _ (hz i hi))
    (fun i hi => D.level _ (hz i hi)) hk
  rwa [← Finset.sum_mul, mul_comm _ ε] at h

/-- One period decides the whole stream, and only one period is needed: for a single tone the level bound over all
`k ≥ k₀` holds IF AND ONLY IF it holds at the `L` outputs of the first period. -/
theorem stopband_iff_one_period (hcov : K.CovFrom L M k₀) (hL : 0 < L) {z : ℂ} (hz1 : ‖z‖ = 1) (e : ℝ) :
    (∀ k, k₀ ≤ k → ‖K.resp (fun n => z ^ n) k‖ ≤ e) ↔ (∀ r, 0 ≤ r → r < L → ‖K.resp (fun n => z ^ n) (k₀ + r)‖ ≤ e) :=
  hcov.tone_level_le_iff hL hz1 e

/-- **In-band plus stop-band content.** The output is the in-band part (each tone times the filter's own response) up to
`ε_pass·Σ|aᵢ| + ε_stop·Σ|bⱼ|`: stop-band content neither leaks nor disturbs the pass-band. -/
theorem mixed_signal {B : Set ℂ} {wOf G : ℂ → ℂ} {εp δ : ℝ} (P : C01.PassBand K L M k₀ B wOf G εp δ)
    (D : StopBand K L M k₀ S ε) {ι κ : Type*} (s : Finset ι) (a z : ι → ℂ) (hz : ∀ i ∈ s, z i ∈ B)
    (t : Finset κ) (b u : κ → ℂ) (hu : ∀ j ∈ t, u j ∈ S) {k : ℤ} (hk : k₀ ≤ k) :
    ‖K.resp (fun n => (∑ i ∈ s, a i * z i ^ n) + ∑ j ∈ t, b j * u j ^ n) k
        - ∑ i ∈ s, a i * (G (z i) * wOf (z i) ^ k)‖ ≤ εp * ∑ i ∈ s, ‖a i‖ + ε * ∑ j ∈ t, ‖b j‖ := by
  rw [K.resp_add, add_sub_right_comm]
  exact norm_add_le_of_le (C01.passband_fidelity P s a z hz hk) (stopband_rejection D t b u hu hk)

/-- **Images when up-sampling.** For an in-band tone the output is `c_{(k−k₀) mod L}·w^k`; the mean of the `c_r` is
the wanted tone's gain and every other line of the period (weights `u_r` unimodular with zero sum — for the m-th image
`u_r = ζ^{−mr}`, ζ a primitive L-th root of unity) is a spectral image.  Each image, normalised like the gain
(divided by `L`), is at most the measured residual. -/
theorem images_rejected {B : Set ℂ} {wOf G : ℂ → ℂ} {εp δ : ℝ} (P : C01.PassBand K L M k₀ B wOf G εp δ) {z : ℂ}
    (hz : z ∈ B) (u : ℤ → ℂ) (hu0 : ∑ r ∈ Finset.Ico (0 : ℤ) L, u r = 0) (hu1 : ∀ r, ‖u r‖ ≤ 1) :
    ‖∑ r ∈ Finset.Ico (0 : ℤ) L, K.coef z (wOf z) (k₀ + r) * u r‖ ≤ (Finset.Ico (0 : ℤ) L).card * εp :=
  image_line_le (Finset.Ico (0 : ℤ) L) (fun r => K.coef z (wOf z) (k₀ + r)) u (G z) εp hu0 (fun r _ => hu1 r)
    (fun r hr => P.residual z hz r (Finset.mem_Ico.mp hr).1 (Finset.mem_Ico.mp hr).2)

/-- NOT PROVED: that the designed filters reject every stop-band frequency of every configuration by the configured
precision.  Evaluated by measurement on sampled configurations and a frequency grid up to the input Nyquist limit. -/
def Goal_designed_filters_reject (K : Kernel ℂ) (L M k₀ : ℤ) (stopband : Set ℂ) (bits : ℕ) : Prop :=
  StopBand K L M k₀ stopband ((2 : ℝ) ^ (-(bits : ℤ)))

/-! ### Non-vacuity: the ×2 linear interpolator at the input Nyquist frequency -/

theorem interp2_nyquist_level (r : ℤ) (hr0 : 0 ≤ r) (hr2 : r < 2) :
    ‖(interp2 ℂ).resp (fun n => (-1 : ℂ) ^ n) (0 + r)‖ ≤ 1 := by
  rw [interp2_resp]
  rcases (by omega : r = 0 ∨ r = 1) with rfl | rfl <;> simp

/-- The hypotheses are satisfiable (with the honest bound 1: a linear interpolator does not reject `z = −1`). -/
theorem interp2_stopband : StopBand (interp2 ℂ) 2 1 0 {-1} 1 where
  cov := interp2_cov.covFrom 0
  Lpos := by norm_num
  unit_in := by rintro _ rfl; rw [norm_neg, norm_one]
  level := by rintro _ rfl; exact interp2_nyquist_level

example (a : ℂ) {k : ℤ} (hk : 0 ≤ k) :
    ‖(interp2 ℂ).resp (fun n => ∑ _i ∈ ({0} : Finset ℕ), a * (-1 : ℂ) ^ n) k‖ ≤ 1 * ∑ _i ∈ ({0} : Finset ℕ), ‖a‖ :=
  stopband_rejection interp2_stopband {0} (fun _ => a) (fun _ => -1) (fun _ _ => rfl) hk

/-- The zero-sum unimodular weights of the single image of L = 2: `u = (1, −1)`. -/
example : ∑ r ∈ Finset.Ico (0 : ℤ) 2, (if r = 0 then (1 : ℂ) else -1) = 0 := by
  have : Finset.Ico (0 : ℤ) 2 = {0, 1} := by decide
  rw [this]; simp

end Soxr.C02
