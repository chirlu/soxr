import SoxrModel.Properties.C16
/-! Axiom audit of every theorem of `Properties/C16.lean` (run on every check: at most `propext`, `Classical.choice`, `Quot.sound`). -/
open Soxr.Vr.C16
#print axioms slew_increment_rounding
#print axioms slew_request
#print axioms slew_request_dropped
#print axioms slew_progression
#print axioms slew_step_linear
#print axioms snap_exact
#print axioms slew_overshoot_bound
#print axioms slew_sign_invariant
#print axioms snap_sets_target
#print axioms snap_sets_both_streams
#print axioms chunk_length
#print axioms immediate_when_zero
#print axioms first_ratio_stage
#print axioms first_ratio_stage_max_le_one
#print axioms immediate_quiescent
#print axioms immediate_cancels_fadeout_slew
#print axioms stays_at_target
#print axioms immediate_then_stays
#print axioms request_settles
#print axioms Historical.runPre_eq_fast
#print axioms Historical.setIoRatio_eq_pre_after_clear
#print axioms Historical.setIoRatio_eq_pre_of_quiescent
#print axioms Historical.pre_fix_stays_at_target_fails_during_slew
#print axioms Historical.pre_fix_stays_at_target_fails_snap_pending
#print axioms Historical.witnesses_repaired
#print axioms stage_switch_rescale
#print axioms stage_switch_shifts_as_repaired_code
#print axioms stage_switch_down_continuous
#print axioms stage_switch_up_continuous
#print axioms frames_for_constant_ratio
#print axioms frames_for_constant_ratio_d
#print axioms process_delivers_at_most_requested
#print axioms run_first_ratio
#print axioms frames_full_engine
#print axioms frames_full_engine_exact_ratio
#print axioms frames_full_engine_rounded_ratio
#print axioms frames_full_engine_exact_num
#print axioms cr_refuses_ratio_change
#print axioms cr_accepts_same_ratio
#print axioms vr_accepts
#print axioms set_io_ratio_error_changes_nothing
#print axioms Historical.runH_eq_fast
#print axioms Historical.chunk_eq_chunkH
#print axioms Historical.pre_fix_fade_alignment_fails
#print axioms Historical.pre_fix_not_fade_alignment_for_all_runs
#print axioms witnessF35_aligned
#print axioms fade_alignment_down_partial
#print axioms occ_aligned_invariant
#print axioms down_switch_fade_aligned_in_loop
#print axioms fade_alignment_chunk_partial
#print axioms fade_alignment_down_to_upsampling
#print axioms fade_alignment_up_from_upsampling
#print axioms fade_alignment_fails_up_switch
#print axioms not_fade_alignment_for_all_runs
#print axioms up_switch_reads_within_stage
#print axioms Historical.pre_fix_stage_left_below_preload
#print axioms witnessF36_within
#print axioms goal_frames_full_engine_is_false
