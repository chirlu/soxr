import SoxrModel.Cr.Wf
/-!
# Per-stage facts: what one invocation of a stage function does to the integers, for every state

`Step c s s' p` is what the pipeline proofs use of an invocation that takes a well-formed state `s` to `s'` and yields
`p` frames: well-formedness is kept (so it is an invariant of every execution), at most `gain` frames come out per frame
consumed, a FIFO holding `input_size` frames loses ≥ 1 frame and yields ≥ 1 frame.  It is proved once per kind
(`halfFn_step`, `clockedFn_step`, `dftFn_step`), each time after showing that the `fifo_read` which follows the kernel
loop succeeds (`half_two_no_le`, `clocked_read_ok`, `dft_quot`): the clock is never silently reset.
-/
namespace Soxr

theorem ceilDiv_le_iff {a b k : Nat} (hb : 0 < b) : ceilDiv a b ≤ k ↔ a ≤ k * b := by
  unfold ceilDiv
  rw [← Nat.lt_succ_iff, Nat.div_lt_iff_lt_mul hb, Nat.succ_mul]
  omega

theorem le_ceilDiv_mul {a b : Nat} (hb : 0 < b) : a ≤ ceilDiv a b * b :=
  (ceilDiv_le_iff hb).mp (Nat.le_refl _)

theorem ceilDiv_mul_lt {a b : Nat} (hb : 0 < b) (ha : 0 < a) : ceilDiv a b * b < a + b := by
  unfold ceilDiv
  have := Nat.div_mul_le_self (a + b - 1) b
  omega

theorem ceilDiv_pos {a b : Nat} (hb : 0 < b) (ha : 0 < a) : 0 < ceilDiv a b :=
  Nat.pos_of_ne_zero fun h => by have := le_ceilDiv_mul (a := a) hb; rw [h] at this; omega

theorem ceilDiv_mono {a b s : Nat} (h : a ≤ b) : ceilDiv a s ≤ ceilDiv b s :=
  Nat.div_le_div_right (by omega)

theorem ceilDiv_mul_le (n d s : Nat) (hs : 0 < s) : ceilDiv (n * d) s ≤ n * ceilDiv d s :=
  (ceilDiv_le_iff hs).mpr (by rw [Nat.mul_assoc]; exact Nat.mul_le_mul_left _ (le_ceilDiv_mul hs))

theorem loopCount_spec {pos step limit : Nat} (hs : 0 < step) (h : pos < limit) :
    limit ≤ pos + loopCount pos step limit * step ∧ pos + loopCount pos step limit * step < limit + step ∧
    1 ≤ loopCount pos step limit := by
  rw [loopCount, if_pos h]
  have h1 := le_ceilDiv_mul (a := limit - pos) hs
  have h2 := ceilDiv_mul_lt (a := limit - pos) hs (by omega)
  have h3 := ceilDiv_pos (a := limit - pos) hs (by omega)
  omega

theorem loopCount_zero {pos step limit : Nat} (h : limit ≤ pos) : loopCount pos step limit = 0 :=
  if_neg (by omega)

theorem loopCount_lt {pos step limit j : Nat} (hs : 0 < step) (hj : j < loopCount pos step limit) :
    pos + j * step < limit := by
  rcases Nat.lt_or_ge pos limit with h | h
  · obtain ⟨_, b, _⟩ := loopCount_spec (step := step) hs h
    have : (j + 1) * step ≤ loopCount pos step limit * step := Nat.mul_le_mul_right _ hj
    rw [Nat.add_mul] at this; omega
  · rw [loopCount_zero h] at hj; omega

end Soxr

namespace Soxr.Cr

/-- The clocked kernel loop over `n` frames, `cnt` outputs, then `q = ⌊at⌋`: the clock has passed all `n` frames and,
    by the advance clause `step ≤ (pre_post + 1)·den`, overshoots into at most `pp` frames of context; each frame of
    advance accounts for at most `⌈den/step⌉` outputs. -/
theorem clock_loop {clk step den pp : Nat} (n : Nat) (hden : 0 < den) (hstep : 0 < step) (hclk : clk < den)
    (hadv : step ≤ (pp + 1) * den) {cnt q : Nat} (hcnt : loopCount clk step (n * den) = cnt)
    (hq : (clk + cnt * step) / den = q) :
    n ≤ q ∧ q ≤ n + pp ∧ (n = 0 → q = 0) ∧ (1 ≤ n → 1 ≤ cnt) ∧ cnt ≤ ceilDiv den step * q := by
  subst hq
  rcases Nat.eq_zero_or_pos n with rfl | hn
  · rw [loopCount_zero (by omega)] at hcnt
    subst hcnt
    simp [Nat.div_eq_of_lt hclk]
  · have hlim : clk < n * den := Nat.lt_of_lt_of_le hclk (Nat.le_mul_of_pos_left _ hn)
    have hle : cnt ≤ ceilDiv (n * den) step := by
      rw [← hcnt, loopCount, if_pos hlim]; exact ceilDiv_mono (Nat.sub_le _ _)
    obtain ⟨h1, h2, h3⟩ := loopCount_spec hstep hlim
    rw [hcnt] at h1 h2 h3
    have hq1 : n ≤ (clk + cnt * step) / den := (Nat.le_div_iff_mul_le hden).mpr h1
    have hq2 : (clk + cnt * step) / den < n + (pp + 1) :=
      (Nat.div_lt_iff_lt_mul hden).mpr (by rw [Nat.add_mul]; omega)
    refine ⟨hq1, by omega, by omega, fun _ => h3, ?_⟩
    calc cnt ≤ ceilDiv (n * den) step := hle
      _ ≤ n * ceilDiv den step := ceilDiv_mul_le n den step hstep
      _ ≤ (clk + cnt * step) / den * ceilDiv den step := Nat.mul_le_mul_right _ hq1
      _ = _ := Nat.mul_comm _ _

structure Step (c : StageCfg) (s s' : StageSt) (p : Nat) : Prop where
  wf : StageWF c s'
  le_gain : p ≤ gain c * (s.occ - s'.occ)
  live : s.isz ≤ s.occ → s'.occ < s.occ ∧ 1 ≤ p
  idle : s'.occ = s.occ → s'.isz = s.isz

theorem numIn_pos (c : StageCfg) (s : StageSt) (hpp : c.prePost < s.isz) (hocc : s.isz ≤ s.occ) : 1 ≤ numIn c s := by
  unfold numIn; omega

theorem half_two_no_le (c : StageCfg) (s : StageSt) (h : 1 ≤ c.prePost) : 2 * ((numIn c s + 1) / 2) ≤ s.occ := by
  have : numIn c s ≤ s.occ - c.prePost := Nat.min_le_left _ _
  omega

theorem halfFn_spec (c : StageCfg) (s : StageSt) (h : 1 ≤ c.prePost) :
    (halfFn c s).1 = { s with occ := s.occ - 2 * ((numIn c s + 1) / 2) } ∧ (halfFn c s).2 = (numIn c s + 1) / 2 := by
  unfold halfFn
  simp only [fifoRead_of_le (half_two_no_le c s h), and_self]

theorem halfFn_step (c : StageCfg) (s : StageSt) (hk : c.kind = .half) (h : StageWF c s) :
    Step c s (halfFn c s).1 (halfFn c s).2 := by
  simp only [StageWF, hk] at h
  have h2 := half_two_no_le c s h.1
  rw [(halfFn_spec c s h.1).1, (halfFn_spec c s h.1).2]
  refine ⟨by simp only [StageWF, hk]; exact h, ?_, fun hocc => ?_, fun _ => rfl⟩
  · simp only [gain, hk, Nat.one_mul, Nat.sub_sub_self h2]; omega
  · have := numIn_pos c s h.2 hocc
    simp only; omega

/-- the read after the kernel loop stays inside the FIFO -/
theorem clocked_read_ok (c : StageCfg) (s : StageSt)
    (hden : 0 < c.den) (hstep : 0 < c.step) (hclk : s.clk < c.den) (hadv : c.step ≤ (c.prePost + 1) * c.den) :
    (s.clk + loopCount s.clk c.step (numIn c s * c.den) * c.step) / c.den ≤ s.occ := by
  obtain ⟨_, h2, h3, _⟩ := clock_loop (numIn c s) hden hstep hclk hadv rfl rfl
  have : numIn c s ≤ s.occ - c.prePost := Nat.min_le_left _ _
  omega

/-- `poly-fir0.h`'s early return on `num_in == 0` is what the general path computes anyway -/
theorem clockedFn_spec (c : StageCfg) (s : StageSt) (hden : 0 < c.den) (hstep : 0 < c.step) (hclk : s.clk < c.den)
    (hadv : c.step ≤ (c.prePost + 1) * c.den) :
    clockedFn c s =
      ({ s with occ := s.occ - (s.clk + loopCount s.clk c.step (numIn c s * c.den) * c.step) / c.den,
                clk := (s.clk + loopCount s.clk c.step (numIn c s * c.den) * c.step) % c.den },
       loopCount s.clk c.step (numIn c s * c.den)) := by
  by_cases h0 : numIn c s = 0
  · simp [clockedFn, h0, loopCount_zero, Nat.div_eq_of_lt hclk, Nat.mod_eq_of_lt hclk, fifoRead]
  · simp [clockedFn, h0, fifoRead_of_le (clocked_read_ok c s hden hstep hclk hadv)]

theorem clockedFn_step (c : StageCfg) (s : StageSt) (hk : c.kind = .clocked) (h : StageWF c s) :
    Step c s (clockedFn c s).1 (clockedFn c s).2 := by
  have h' := h
  simp only [StageWF, hk] at h'
  obtain ⟨hden, hstep, hclk, hpp, hadv, htaps⟩ := h'
  simp only [clockedFn]
  split
  · -- `poly-fir0.h` with nothing to read: the state is untouched, and `num_in = 0` means the FIFO was short
    rename_i hskip
    refine ⟨h, Nat.zero_le _, fun hocc => ?_, fun _ => rfl⟩
    have := numIn_pos c s hpp hocc
    simp only [Bool.and_eq_true, beq_iff_eq] at hskip
    omega
  · obtain ⟨q1, _, _, q4, q5⟩ := clock_loop (numIn c s) hden hstep hclk hadv rfl rfl
    have hread := clocked_read_ok c s hden hstep hclk hadv
    simp only [fifoRead_of_le hread]
    refine ⟨?_, ?_, fun hocc => ?_, fun _ => rfl⟩
    · simp only [StageWF, hk]; exact ⟨hden, hstep, Nat.mod_lt _ hden, hpp, hadv, htaps⟩
    · simp only [gain, hk, Nat.sub_sub_self hread]; exact q5
    · have := numIn_pos c s hpp hocc
      exact ⟨by simp only; omega, q4 this⟩

/-- a dft block that fires reads between 1 frame and the whole FIFO -/
theorem dft_quot (c : StageCfg) (s : StageSt) (hL : 0 < c.L) (hclk : s.clk < c.L)
    (hbl : c.L ≤ c.dftLen - (c.numTaps - 1)) (hfire : s.clk + c.L * s.occ ≥ c.dftLen) :
    1 ≤ (c.dftLen - (c.numTaps - 1) + c.L - 1 - s.clk) / c.L ∧
    (c.dftLen - (c.numTaps - 1) + c.L - 1 - s.clk) / c.L ≤ s.occ := by
  constructor
  · apply (Nat.le_div_iff_mul_le hL).mpr; omega
  · apply Nat.lt_succ_iff.mp
    apply (Nat.div_lt_iff_lt_mul hL).mpr
    rw [Nat.succ_mul, Nat.mul_comm]; omega

/-- `input_size = ⌈(dft_length − at) / L⌉` frames are enough for the block to fire -/
theorem dft_fires (c : StageCfg) (s : StageSt) (hL : 0 < c.L) (hclk : s.clk < c.L)
    (hisz : s.isz = (c.dftLen - s.clk + c.L - 1) / c.L) (hocc : s.isz ≤ s.occ) : s.clk + c.L * s.occ ≥ c.dftLen := by
  have h1 := Nat.lt_div_mul_add (a := c.dftLen - s.clk + c.L - 1) hL
  have h2 : s.isz * c.L ≤ s.occ * c.L := Nat.mul_le_mul_right _ hocc
  rw [← hisz] at h1
  rw [Nat.mul_comm c.L]
  omega

/-- a dft block fires only when `input_size` frames are there -/
theorem dft_isz_le {dftLen clk L occ : Nat} (hL : 0 < L) (hf : dftLen ≤ clk + L * occ) : (dftLen - clk + L - 1) / L ≤ occ := by
  apply Nat.lt_succ_iff.mp
  apply (Nat.div_lt_iff_lt_mul hL).mpr
  rw [Nat.succ_mul, Nat.mul_comm occ]
  omega

/-- decimation by `m`: from a remainder `r < m` the loop `for (; r < bl; r += m)` emits between 1 and `bl` frames and
    leaves a remainder below `m` again -/
theorem decim_loop {r m bl : Nat} (hm : m ≤ bl) (hr : r < m) :
    1 ≤ loopCount r m bl ∧ loopCount r m bl ≤ bl ∧ r + loopCount r m bl * m - bl < m := by
  have hmpos : 0 < m := Nat.zero_lt_of_lt hr
  obtain ⟨a, b, cc⟩ := loopCount_spec hmpos (Nat.lt_of_lt_of_le hr hm)
  refine ⟨cc, ?_, by omega⟩
  -- `j·m < bl + m` gives `(j − 1)·m < bl`, and `j − 1 ≤ (j − 1)·m`
  obtain ⟨j, hj⟩ : ∃ j, loopCount r m bl = j + 1 := ⟨_, (Nat.sub_add_cancel cc).symm⟩
  rw [hj, Nat.succ_mul] at b
  have := Nat.le_mul_of_pos_right j hmpos
  omega

/-- interpolation by `2^m`: `⌊((2^m − 1)·len + ov) / 2^m⌋ < len` because `ov < len` -/
theorem interp_drop (m : Nat) {len ov : Nat} (h : ov < len) : ((2 ^ m - 1) * len + ov) >>> m < len := by
  rw [Nat.shiftRight_eq_div_pow, Nat.div_lt_iff_lt_mul (Nat.two_pow_pos m), Nat.mul_comm len]
  calc (2 ^ m - 1) * len + ov < (2 ^ m - 1) * len + len := Nat.add_lt_add_left h _
    _ = (2 ^ m - 1 + 1) * len := (Nat.succ_mul _ _).symm
    _ = 2 ^ m * len := by rw [Nat.sub_add_cancel (Nat.two_pow_pos m)]

theorem dftProduced_spec (c : StageCfg) (remM : Nat) (hT : 1 ≤ c.numTaps) (hlen : c.numTaps ≤ c.dftLen)
    (hL : 1 ≤ c.dftLen - (c.numTaps - 1)) (hok : dftOutOK c remM) :
    1 ≤ (dftProduced c remM).1 ∧ (dftProduced c remM).1 ≤ c.dftLen ∧ dftOutOK c (dftProduced c remM).2 := by
  unfold dftOutOK at hok ⊢
  unfold dftProduced
  dsimp only at hok ⊢
  have hbl : c.dftLen - (c.numTaps - 1) ≤ c.dftLen := Nat.sub_le _ _
  split
  · rw [if_pos ‹_›] at hok
    split
    · exact ⟨hL, hbl, hok⟩
    · obtain ⟨hm, hr⟩ := hok.resolve_left ‹_›
      obtain ⟨h1, h2, h3⟩ := decim_loop hm hr
      exact ⟨h1, Nat.le_trans h2 hbl, Or.inr ⟨hm, h3⟩⟩
  · exact ⟨Nat.sub_pos_of_lt (interp_drop _ (by omega)), Nat.sub_le _ _, trivial⟩

theorem dftFn_step (c : StageCfg) (s : StageSt) (hk : c.kind = .dft) (h : StageWF c s) :
    Step c s (dftFn c s).1 (dftFn c s).2 := by
  have h' := h
  simp only [StageWF, hk] at h'
  obtain ⟨hL, hT, hlen, hclk, hbl, hisz, hok⟩ := h'
  simp only [dftFn]
  split
  · rename_i hf
    obtain ⟨q1, q2⟩ := dft_quot c s hL hclk hbl hf
    obtain ⟨p1, p2, p3⟩ := dftProduced_spec c s.remM hT hlen (by omega) hok
    simp only [fifoRead_of_le q2]
    refine ⟨?_, ?_, fun _ => ⟨by simp only; omega, p1⟩, fun h0 => by simp only at h0; omega⟩
    · rw [StageWF, hk]
      refine ⟨hL, hT, hlen, ?_, hbl, rfl, p3⟩
      simp only
      split
      · exact hclk
      · omega
    · simp only [gain, hk, Nat.sub_sub_self q2]
      exact Nat.le_trans p2 (Nat.le_mul_of_pos_right _ q1)
  · rename_i hf
    exact ⟨by rw [StageWF, hk]; exact ⟨hL, hT, hlen, hclk, hbl, rfl, hok⟩, Nat.zero_le _,
      fun hocc => absurd (dft_fires c s hL hclk hisz hocc) hf, fun _ => hisz.symm⟩

theorem stageFn_step (c : StageCfg) (s : StageSt) (h : StageWF c s) : Step c s (stageFn c s).1 (stageFn c s).2 := by
  unfold stageFn
  cases hk : c.kind
  · exact halfFn_step c s hk h
  · exact clockedFn_step c s hk h
  · exact dftFn_step c s hk h

theorem stageFn_wf (c : StageCfg) (s : StageSt) (h : StageWF c s) : StageWF c (stageFn c s).1 :=
  (stageFn_step c s h).wf

/-- it never consumes more than the FIFO holds (well-formed or not: a `fifo_read` that fails reads nothing) -/
theorem stageFn_occ_le (c : StageCfg) (s : StageSt) : (stageFn c s).1.occ ≤ s.occ := by
  unfold stageFn
  cases c.kind
  · exact fifoRead_le _ _
  · simp only [clockedFn]
    split
    · exact Nat.le_refl _
    · exact fifoRead_le _ _
  · simp only [dftFn]
    split
    · exact fifoRead_le _ _
    · exact Nat.le_refl _

theorem Stage.run_cfg (x : Stage) : x.run.1.cfg = x.cfg := rfl
theorem Stage.addOcc_cfg (x : Stage) (n : Nat) : (x.addOcc n).cfg = x.cfg := rfl

theorem Stage.short_false_iff (x : Stage) : x.short = false ↔ x.st.isz ≤ x.st.occ := by
  unfold Stage.short; simp

theorem Stage.short_true_iff (x : Stage) : x.short = true ↔ x.st.occ < x.st.isz := by
  unfold Stage.short; simp

theorem Stage.run_step {x : Stage} (h : x.WF) : Step x.cfg x.st x.run.1.st x.run.2 := stageFn_step x.cfg x.st h

theorem Stage.wf_run {x : Stage} (h : x.WF) : x.run.1.WF := (Stage.run_step h).wf

/-- `StageWF` does not mention the occupancy -/
theorem StageWF.occ {c : StageCfg} {s : StageSt} (h : StageWF c s) (o : Nat) : StageWF c { s with occ := o } := h

theorem Stage.wf_addOcc {x : Stage} (h : x.WF) (n : Nat) : (x.addOcc n).WF := StageWF.occ h _

theorem Stage.run_occ_le (x : Stage) : x.run.1.st.occ ≤ x.st.occ := stageFn_occ_le x.cfg x.st

theorem Stage.run_live {x : Stage} (h : x.WF) (hs : x.short = false) : x.run.1.st.occ < x.st.occ ∧ 1 ≤ x.run.2 :=
  (Stage.run_step h).live ((Stage.short_false_iff x).mp hs)

end Soxr.Cr
