import SoxrModel.Cr.StageLemmas
import SoxrModel.Cr.Units
/-!
# Data level: what the stage functions compute, for arbitrary kernels

`DStage.run` is one invocation of a stage function on a FIFO of samples of an arbitrary type `α`, with the numeric
kernel an arbitrary function `Kern.eval` of (stage configuration, three phase tags, window).  Counts and control
integers come from the count model's `stageFn` **by construction**, so the per-call correspondence of the count model
with the real code also ties this definition.  For every kind the invariant `DInv` — FIFO = history minus what was
consumed, control integers = those of unit `m`, every window so far inside the history — is preserved by feeding and
by running, for *any* amount of available input; outputs are always `G m hist`, the canonical function of the history.
-/
namespace Soxr.Cr

variable {α : Type}

/-- an arbitrary numeric kernel: (stage configuration, phase tags, window) ↦ one output sample -/
structure Kern (α : Type) where
  eval : StageCfg → Nat → Nat → Nat → List α → α

/-- where output `j` of one invocation reads, relative to the FIFO: offset, length and phase tags -/
def readSpec (c : StageCfg) (s : StageSt) (j : Nat) : Nat × Nat × Nat × Nat × Nat :=
  match c.kind with
  | .half => (2 * j + 1, c.prePost - 1, 0, 0, 0)
  | .clocked => ((s.clk + j * c.step) / c.den, c.prePost + 1, (s.clk + j * c.step) % c.den, 0, 0)
  | .dft => (0, s.isz, s.clk, s.remM, j)

structure DStage (α : Type) where
  cfg : StageCfg
  st : StageSt
  fifo : List α

def DStage.outAt (K : Kern α) (x : DStage α) (j : Nat) : α :=
  let r := readSpec x.cfg x.st j
  K.eval x.cfg r.2.2.1 r.2.2.2.1 r.2.2.2.2 ((x.fifo.drop r.1).take r.2.1)

/-- one invocation of the stage function -/
def DStage.run (K : Kern α) (x : DStage α) : DStage α × List α :=
  let r := stageFn x.cfg x.st
  ({ x with st := r.1, fifo := x.fifo.drop (x.st.occ - r.1.occ) }, (List.range r.2).map (x.outAt K))

def DStage.feed (x : DStage α) (xs : List α) : DStage α :=
  { x with st := { x.st with occ := x.st.occ + xs.length }, fifo := x.fifo ++ xs }

/-- the count projection of the data-level stage is the count model, by construction -/
theorem DStage.run_count (K : Kern α) (x : DStage α) :
    (x.run K).1.st = (stageFn x.cfg x.st).1 ∧ (x.run K).2.length = (stageFn x.cfg x.st).2 := by
  simp [DStage.run]

/-- (frames consumed so far, `at.integer`, `remM`) after `u` blocks -/
def dctl (c : StageCfg) (s0 : StageSt) : Nat → Nat × Nat × Nat
  | 0 => (0, s0.clk, s0.remM)
  | u+1 =>
    let p := dctl c s0 u
    let num := c.dftLen - (c.numTaps - 1) + c.L - 1 - p.2.1
    (p.1 + num / c.L, (if isPow2 c.L || c.L == 1 then p.2.1 else c.L - 1 - num % c.L), (dftProduced c p.2.2).2)

/-- one block of the dft control recurrence on `(consumed, at.integer, remM)` — the step of `dctl` -/
def dstep (c : StageCfg) (p : Nat × Nat × Nat) : Nat × Nat × Nat :=
  let num := c.dftLen - (c.numTaps - 1) + c.L - 1 - p.2.1
  (p.1 + num / c.L, (if isPow2 c.L || c.L == 1 then p.2.1 else c.L - 1 - num % c.L), (dftProduced c p.2.2).2)

theorem dctl_succ (c : StageCfg) (s0 : StageSt) (u : Nat) : dctl c s0 (u + 1) = dstep c (dctl c s0 u) := rfl

/-- the canonical units of a stage with configuration `c`, initial integers `s0` and kernel `K` -/
def unitSem (K : Kern α) (c : StageCfg) (s0 : StageSt) : UnitSem α :=
  match c.kind with
  | .half => { pos := fun u => 2 * u + 1, len := fun _ => c.prePost - 1, out := fun _ w => [K.eval c 0 0 0 w] }
  | .clocked => { pos := fun u => (s0.clk + u * c.step) / c.den, len := fun _ => c.prePost + 1,
                  out := fun u w => [K.eval c ((s0.clk + u * c.step) % c.den) 0 0 w] }
  | .dft => { pos := fun u => (dctl c s0 u).1, len := fun u => (c.dftLen - (dctl c s0 u).2.1 + c.L - 1) / c.L,
              out := fun u w => (List.range (dftProduced c (dctl c s0 u).2.2).1).map fun j =>
                K.eval c (dctl c s0 u).2.1 (dctl c s0 u).2.2 j w }

/-- relation between a stage's control integers, the number of frames it has consumed and the unit index -/
def ctlRel (c : StageCfg) (s0 s : StageSt) (cons m : Nat) : Prop :=
  match c.kind with
  | .half => cons = 2 * m
  | .clocked => cons * c.den + s.clk = s0.clk + m * c.step
  | .dft => (cons, s.clk, s.remM) = dctl c s0 m

/-- the data-level invariant of one stage w.r.t. everything ever fed to it (`hist`, preload included) -/
structure DInv (K : Kern α) (c : StageCfg) (s0 : StageSt) (x : DStage α) (hist : List α) (m : Nat) : Prop where
  cfg : x.cfg = c
  occ : x.st.occ = x.fifo.length
  cons : ∃ cons, x.fifo = hist.drop cons ∧ cons ≤ hist.length ∧ ctlRel c s0 x.st cons m
  stable : (unitSem K c s0).Stable m hist
  wf : StageWF c x.st

theorem DInv.feed {K : Kern α} {c : StageCfg} {s0 : StageSt} {x : DStage α} {hist : List α} {m : Nat}
    (h : DInv K c s0 x hist m) (xs : List α) : DInv K c s0 (x.feed xs) (hist ++ xs) m := by
  obtain ⟨cons, h1, h2, h3⟩ := h.cons
  refine ⟨h.cfg, ?_, ⟨cons, ?_, ?_, ?_⟩, UnitSem.stable_append _ xs h.stable, h.wf.occ _⟩
  · simp [DStage.feed, h.occ]
  · simp [DStage.feed, h1, List.drop_append_of_le_length h2]
  · rw [List.length_append]; omega
  · unfold ctlRel at h3 ⊢
    unfold DStage.feed
    cases hk : c.kind <;> simp only [hk] at h3 ⊢ <;> exact h3

/-! ## the units of a stage, kernel aside

Where a unit reads and which phase tags it hands to the kernel are integers of the plan.  A *read* is a tuple
`(offset, length, tag₁, tag₂, tag₃)`; `Kern.read` evaluates the kernel on one read of a list.  Both an invocation of the
stage function (`readSpec`) and a unit (`ureads`) are lists of reads, and `stageFn_reads` — arithmetic on the control
integers only — says that an invocation performs the reads of the next units. -/

/-- read position of unit `u` (independent of the kernel) -/
def upos (c : StageCfg) (s0 : StageSt) (u : Nat) : Nat :=
  match c.kind with
  | .half => 2 * u + 1
  | .clocked => (s0.clk + u * c.step) / c.den
  | .dft => (dctl c s0 u).1

/-- window length of unit `u` (independent of the kernel) -/
def ulen (c : StageCfg) (s0 : StageSt) (u : Nat) : Nat :=
  match c.kind with
  | .half => c.prePost - 1
  | .clocked => c.prePost + 1
  | .dft => (c.dftLen - (dctl c s0 u).2.1 + c.L - 1) / c.L

/-- phase tags of the outputs of unit `u` -/
def utags (c : StageCfg) (s0 : StageSt) (u : Nat) : List (Nat × Nat × Nat) :=
  match c.kind with
  | .half => [(0, 0, 0)]
  | .clocked => [((s0.clk + u * c.step) % c.den, 0, 0)]
  | .dft => (List.range (dftProduced c (dctl c s0 u).2.2).1).map fun j => ((dctl c s0 u).2.1, (dctl c s0 u).2.2, j)

theorem unitSem_pos (K : Kern α) (c : StageCfg) (s0 : StageSt) (u : Nat) : (unitSem K c s0).pos u = upos c s0 u := by
  unfold unitSem upos; cases c.kind <;> rfl

theorem unitSem_len (K : Kern α) (c : StageCfg) (s0 : StageSt) (u : Nat) : (unitSem K c s0).len u = ulen c s0 u := by
  unfold unitSem ulen; cases c.kind <;> rfl

theorem unitSem_out (K : Kern α) (c : StageCfg) (s0 : StageSt) (u : Nat) (w : List α) :
    (unitSem K c s0).out u w = (utags c s0 u).map fun t => K.eval c t.1 t.2.1 t.2.2 w := by
  unfold unitSem utags; cases c.kind <;> simp only [List.map_cons, List.map_nil, List.map_map] <;> rfl

/-- the kernel on one read `(offset, length, tag₁, tag₂, tag₃)` of a list -/
def Kern.read (K : Kern α) (c : StageCfg) (h : List α) (q : Nat × Nat × Nat × Nat × Nat) : α :=
  K.eval c q.2.2.1 q.2.2.2.1 q.2.2.2.2 ((h.drop q.1).take q.2.1)

theorem Kern.read_drop (K : Kern α) (c : StageCfg) (h : List α) (k : Nat) (q : Nat × Nat × Nat × Nat × Nat) :
    K.read c (h.drop k) q = K.read c h (k + q.1, q.2) := by
  simp only [Kern.read, List.drop_drop]

/-- the reads of unit `u` -/
def ureads (c : StageCfg) (s0 : StageSt) (u : Nat) : List (Nat × Nat × Nat × Nat × Nat) :=
  (utags c s0 u).map fun t => (upos c s0 u, ulen c s0 u, t)

theorem unitSem_out_window (K : Kern α) (c : StageCfg) (s0 : StageSt) (u : Nat) (h : List α) :
    (unitSem K c s0).out u ((unitSem K c s0).window u h) = (ureads c s0 u).map (K.read c h) := by
  rw [unitSem_out, UnitSem.window, unitSem_pos, unitSem_len, ureads, List.map_map]; rfl

/-- the clock of a sampler `j` outputs on, in absolute terms and relative to the frames consumed -/
theorem clocked_abs {den step clk0 clk cons m : Nat} (hden : 0 < den) (h : cons * den + clk = clk0 + m * step) (j : Nat) :
    (clk0 + (m + j) * step) / den = cons + (clk + j * step) / den ∧
      (clk0 + (m + j) * step) % den = (clk + j * step) % den := by
  have e : clk0 + (m + j) * step = clk + j * step + den * cons := by rw [Nat.add_mul, Nat.mul_comm den]; omega
  rw [e, Nat.add_mul_div_left _ _ hden, Nat.add_mul_mod_self_left, Nat.add_comm]
  exact ⟨rfl, rfl⟩

/-- half-band: output `i` of `no = ⌈n/2⌉` reads `[2i + 1, 2i + pre_post)`, inside the `n + pre_post` frames there are -/
theorem half_window {occ pp n no m i : Nat} (hpp : 1 ≤ pp) (h3 : 2 * no ≤ n + 1) (hn : n ≤ occ - pp) (hi : i < no) :
    2 * (m + i) + 1 + (pp - 1) ≤ 2 * m + occ := by
  omega

theorem clocked_ctl {den cons clk clk0 m step cnt q r : Nat} (hctl : cons * den + clk = clk0 + m * step)
    (hdm : den * q + r = clk + cnt * step) : (cons + q) * den + r = clk0 + (m + cnt) * step := by
  rw [Nat.add_mul, Nat.add_mul, Nat.mul_comm q]; omega

/-- **One invocation, in units.**  From unit `m`, with `cons` frames consumed before, the stage function runs the next
    `r` units: their windows lie inside the frames received so far, and the reads of the invocation (relative to the
    FIFO) are theirs (relative to the history). -/
theorem stageFn_reads {c : StageCfg} {s0 s : StageSt} {cons m : Nat} (hwf : StageWF c s) (hctl : ctlRel c s0 s cons m) :
    ∃ r, ctlRel c s0 (stageFn c s).1 (cons + (s.occ - (stageFn c s).1.occ)) (m + r) ∧
      (∀ i, i < r → upos c s0 (m + i) + ulen c s0 (m + i) ≤ cons + s.occ) ∧
      (List.range r).flatMap (fun i => ureads c s0 (m + i)) =
        (List.range (stageFn c s).2).map fun j => (cons + (readSpec c s j).1, (readSpec c s j).2) := by
  unfold StageWF at hwf
  unfold ctlRel at hctl ⊢
  unfold stageFn
  cases hk : c.kind <;> simp only [hk, ureads, upos, ulen, utags, readSpec, List.map_cons, List.map_nil] at hwf hctl ⊢
  · obtain ⟨e1, e2⟩ := halfFn_spec c s hwf.1
    have h2 := half_two_no_le c s hwf.1
    have h3 : 2 * ((numIn c s + 1) / 2) ≤ numIn c s + 1 := Nat.mul_div_le _ _
    have hn : numIn c s ≤ s.occ - c.prePost := Nat.min_le_left _ _
    rw [e1, e2, hctl]
    generalize (numIn c s + 1) / 2 = no at *
    refine ⟨no, by simp only; rw [Nat.sub_sub_self h2, Nat.mul_add], fun i hi => half_window hwf.1 h3 hn hi, ?_⟩
    rw [← List.map_eq_flatMap]
    exact List.map_congr_left fun j _ => by rw [Nat.mul_add, Nat.add_assoc]
  · obtain ⟨hden, hstep, hclk, _, hadv, _⟩ := hwf
    have hread := clocked_read_ok c s hden hstep hclk hadv
    have hn : numIn c s ≤ s.occ - c.prePost := Nat.min_le_left _ _
    have hbelow := fun j => loopCount_lt (pos := s.clk) (limit := numIn c s * c.den) (j := j) hstep
    have habs := clocked_abs hden hctl
    rw [clockedFn_spec c s hden hstep hclk hadv]
    simp only
    generalize loopCount s.clk c.step (numIn c s * c.den) = cnt at *
    refine ⟨cnt, ?_, fun i hi => ?_, (List.map_eq_flatMap ..).symm.trans (List.map_congr_left fun j _ => ?_)⟩
    · rw [Nat.sub_sub_self hread]
      exact clocked_ctl hctl (Nat.div_add_mod _ _)
    · have := (Nat.div_lt_iff_lt_mul hden).mpr (hbelow i hi)
      rw [(habs i).1, Nat.add_assoc]
      generalize (s.clk + i * c.step) / c.den = q at this ⊢
      exact Nat.add_le_add_left (by omega) _
    · rw [(habs j).1, (habs j).2]
  · obtain ⟨hL, _, _, hclk, hbl, hisz, _⟩ := hwf
    unfold dftFn
    split
    · rename_i hf
      obtain ⟨_, q2⟩ := dft_quot c s hL hclk hbl hf
      have hiszle : s.isz ≤ s.occ := hisz ▸ dft_isz_le hL hf
      refine ⟨1, ?_, fun i hi => ?_, ?_⟩
      · simp only [dctl, ← hctl, fifoRead_of_le q2, Nat.sub_sub_self q2]
      · obtain rfl : i = 0 := by omega
        simp only [Nat.add_zero, ← hctl, ← hisz]; exact Nat.add_le_add_left hiszle _
      · simp only [List.range_one, List.flatMap_cons, List.flatMap_nil, List.append_nil, Nat.add_zero, ← hctl, ← hisz,
          List.map_map]
        rfl
    · exact ⟨0, by simp only [Nat.sub_self, Nat.add_zero, hctl], fun i hi => by omega, rfl⟩

theorem DStage.outAt_eq (K : Kern α) (x : DStage α) (j : Nat) : x.outAt K j = K.read x.cfg x.fifo (readSpec x.cfg x.st j) := rfl

/-- running preserves the invariant and appends exactly the canonical outputs of the next units -/
theorem DInv.run {K : Kern α} {c : StageCfg} {s0 : StageSt} {x : DStage α} {hist : List α} {m : Nat}
    (h : DInv K c s0 x hist m) :
    ∃ m', m ≤ m' ∧ DInv K c s0 (x.run K).1 hist m' ∧
      (unitSem K c s0).G m' hist = (unitSem K c s0).G m hist ++ (x.run K).2 := by
  obtain ⟨rfl, hocc, ⟨cons, hfifo, hcons, hctl⟩, hst, hwf⟩ := h
  obtain ⟨r, hctl', hwin, hreads⟩ := stageFn_reads hwf hctl
  have hle := stageFn_occ_le x.cfg x.st
  have hlen : x.st.occ = hist.length - cons := by rw [hocc, hfifo, List.length_drop]
  refine ⟨m + r, Nat.le_add_right _ _, ⟨rfl, ?_, ⟨_, ?_, ?_, hctl'⟩, fun u hu => ?_, stageFn_wf _ _ hwf⟩, ?_⟩
  · simp only [DStage.run, List.length_drop]; omega
  · simp only [DStage.run, hfifo, List.drop_drop]
  · omega
  · rcases Nat.lt_or_ge u m with hu' | hu'
    · exact hst u hu'
    · obtain ⟨i, rfl⟩ := Nat.exists_eq_add_of_le hu'
      have := hwin i (by omega)
      rw [unitSem_pos, unitSem_len]; omega
  · rw [UnitSem.G_add, UnitSem.seg]
    simp only [unitSem_out_window, ← List.map_flatMap, hreads, List.map_map]
    exact congrArg _ (List.map_congr_left fun j _ => by rw [DStage.outAt_eq, hfifo, Kern.read_drop]; rfl)

end Soxr.Cr
