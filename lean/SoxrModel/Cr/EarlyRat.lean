import SoxrModel.Cr.EarlyNat
import SoxrModel.Cr.TimeLemmas
import SoxrModel.Cr.Lift
/-!
# Never early: an output cannot appear before the input instant it represents

Stage by stage: if the first `m` units' windows lie inside the history, the stage's input stream is at least as long
as `a·(outputs − 1) + b + 1 + margin` (`stage_need`): the last sample the last output reads lies `margin + 1`
periods past the instant that output represents.  Composed over the pipeline invariant (`pinv_need`) and applied to the
state reached by any run (`never_early_run`) and, every history of the count model being the shadow of a run on samples
(`streams_lift`), to every streaming history of the count model (`never_early_counts_gen`).  The forms in which the bound is
used (strict, ceiling, rounded, as a delay numerator) are consequences for any numbers (`early_lt` … `early_delay`).
-/
namespace Soxr.Cr

variable {α : Type}

/-! What the natural-number facts of `Cr/EarlyNat.lean` say once divided by the stage's denominator, with the shape `tstage` and
`margin` give to `a`, `b` and the margin of each kind.  Over rational variables: `linarith` on casts of structure fields is
several times dearer. -/

theorem half_reach {m pp pre occ n : ℚ} (h : 2 * m + pp ≤ occ + n + 2) :
    2 * (m - 1) + (pre - occ) + 1 + (pp - pre - 1) ≤ n := by
  linarith only [h]

/-- `j + 1` outputs, the history `pre_post + r + 1` long; the kernel's centre `w` and the margin `mg` together stay inside the
    `pre_post + 1` frames the stage waits for -/
theorem clocked_reach {step den clk j r pp occ n w mg t : ℚ} (hden : 0 < den) (h : clk + j * step < den * (r + 1))
    (hr : occ + n = pp + (r + 1)) (hw : w + mg = t - 2) (ht : t ≤ pp + 1) :
    step / den * (j + 1 - 1) + (clk / den + w - occ) + 1 + mg ≤ n := by
  have hx : step / den * j + clk / den < r + 1 := by
    rw [div_mul_eq_mul_div, ← add_div, div_lt_iff₀ hden]; linarith only [h]
  linarith only [hx, hr, hw, ht]

/-- the slack of the claim is that of `dft_need`, in units of `1/L` -/
theorem dft_reach {M L outs nt pp clk occ n : ℚ} (hL : 0 < L) (h : M * outs + nt ≤ L * (occ + n) + clk + M) :
    M / L * (outs - 1) + ((nt - 1 - pp - clk) / L - occ) + 1 + (pp + 1 - L) / L ≤ n := by
  have e : n - (M / L * (outs - 1) + ((nt - 1 - pp - clk) / L - occ) + 1 + (pp + 1 - L) / L) =
      (L * (occ + n) + clk + M - (M * outs + nt)) / L := by
    field_simp
    ring
  rw [← sub_nonneg, e]
  exact div_nonneg (sub_nonneg.2 h) hL.le

/-- a stage of rate `a` on top of a pipeline of rate `R`: the needs compose like the time maps -/
theorem need_compose {R a b mg c s off marg inp : ℚ} (hR : 0 ≤ R) (hst : a * (c - 1) + b + 1 + mg ≤ s)
    (hrec : R * (s - 1) + off + 1 + marg ≤ inp) : a * R * (c - 1) + (b * R + off) + 1 + (mg * R + marg) ≤ inp := by
  have := mul_le_mul_of_nonneg_left (by linarith only [hst] : a * (c - 1) + b + mg ≤ s - 1) hR
  linarith only [this, hrec]

/-- **One stage.**  `n` is the length of the stage's input stream (its history minus the zero preload). -/
theorem stage_need (K : Kern α) (x : LStage) (hwf : StageWF x.cfg x.s0) (hshape : x.cfg.kind = .dft → DftShapeOK x.cfg x.s0)
    (hist : List α) (m n : Nat)
    (hst : (unitSem K x.cfg x.s0).Stable m hist) (hlen : hist.length = x.s0.occ + n) (hout : 1 ≤ outCount x.cfg x.s0 m) :
    (tstage x).a * ((outCount x.cfg x.s0 m : ℚ) - 1) + (tstage x).b + 1 + margin x ≤ n := by
  cases hk : x.cfg.kind <;> simp only [outCount, hk] at hout <;> simp only [tstage, margin, outCount, hk]
  · have h := half_need K x.cfg x.s0 hk hist m hout hst
    rw [hlen, ← Nat.cast_le (α := ℚ)] at h
    exact half_reach (by exact_mod_cast h)
  · -- clocked sampler: the stage waits for `pre_post + 1` frames from the position an output represents (for FIR stages
    -- `pre_post + 1 ≥ taps`; the cubic stage holds back more than it reads)
    simp only [StageWF, hk] at hwf
    obtain ⟨hden, -, -, -, -, htaps⟩ := hwf
    obtain ⟨h1, h2⟩ := clocked_need K x.cfg x.s0 hk hden hist m hout hst
    obtain ⟨j, rfl⟩ := Nat.exists_eq_add_of_le' hout
    obtain ⟨r, hr⟩ : ∃ r, hist.length = x.cfg.prePost + (r + 1) := ⟨hist.length - x.cfg.prePost - 1, by omega⟩
    rw [hr, Nat.add_sub_cancel, Nat.add_sub_cancel_left, ← Nat.cast_lt (α := ℚ)] at h2
    rw [hlen, ← @Nat.cast_inj ℚ] at hr
    rw [← Nat.cast_le (α := ℚ)] at htaps
    have hdq : (0 : ℚ) < x.cfg.den := Nat.cast_pos.2 hden
    push_cast at h2 hr htaps ⊢
    cases x.lat.cubic <;> simp only [Bool.false_eq_true, if_false, if_true]
    · exact clocked_reach hdq h2 hr (by ring) htaps
    · exact clocked_reach (t := x.cfg.prePost + 1) hdq h2 hr (by ring) le_rfl
  · have hm1 : 1 ≤ m := Nat.pos_of_ne_zero (by rintro rfl; exact absurd hout (Nat.not_succ_le_zero 0))
    have h := dft_need K x.cfg x.s0 hk hwf (hshape hk) hist m hm1 hst
    simp only [StageWF, hk] at hwf
    have hL : (0 : ℚ) < x.cfg.L := Nat.cast_pos.2 hwf.1
    rw [hlen, ← Nat.cast_le (α := ℚ)] at h
    exact dft_reach hL (by exact_mod_cast h)

/-- **The pipeline.**  If the canonical stream has at least one sample, the bottom input is at least as long as the
    composed time map says: `rate·(|src| − 1) + offset + 1 + margin ≤ |inp|`. -/
theorem pinv_need_gen (K : Kern α) (z : α) : ∀ (lp : List LStage) (l : List (DStage α)) (inp src : List α),
    (∀ x ∈ lp, StageWF x.cfg x.s0) → PlanEarlyGen lp →
    PInv K z (lp.map LStage.toPlan) l inp src → 1 ≤ src.length →
    rateOf (lp.map tstage) * ((src.length : ℚ) - 1) + offsetOf (lp.map tstage) + 1 + margOf lp ≤ inp.length := by
  intro lp
  induction lp with
  | nil =>
    intro l inp src _ _ h _
    cases h
    simp [rateOf, offsetOf, margOf]
  | cons x rest ih =>
    intro l inp src hwf he h hsrc
    simp only [List.map_cons, LStage.toPlan] at h
    cases h with
    | @cons _ below _ s _ _ d m hb hx =>
      obtain ⟨hshape, hbm⟩ := he x List.mem_cons_self
      rw [G_length] at hsrc ⊢
      have hst := stage_need K x (hwf x List.mem_cons_self) hshape _ m s.length hx.stable
        (by rw [List.length_append, List.length_replicate]) hsrc
      have ha : 0 ≤ (tstage x).a * (((outCount x.cfg x.s0 m : ℕ) : ℚ) - 1) :=
        mul_nonneg (tstage_a_nonneg x) (sub_nonneg.2 (by exact_mod_cast hsrc))
      -- the stage below has produced at least one sample
      have hs1 : 1 ≤ s.length := by exact_mod_cast (by linarith only [hst, ha, hbm] : (1 : ℚ) ≤ s.length)
      have hrec := ih below inp s (fun y hy => hwf y (List.mem_cons_of_mem _ hy)) (fun y hy => he y (List.mem_cons_of_mem _ hy)) hb hs1
      exact need_compose (rate_nonneg_map rest) hst hrec

theorem margin_nonneg (x : LStage) (he : EarlyOK x) : 0 ≤ margin x := by
  unfold EarlyOK at he; unfold margin
  cases hk : x.cfg.kind <;> simp only [hk] at he ⊢
  · rw [sub_sub, sub_nonneg]; exact_mod_cast he
  · cases hc : x.lat.cubic <;> simp only [hc, Bool.false_eq_true, if_false, if_true] at he ⊢
    · rw [sub_nonneg, le_div_iff₀ two_pos, one_mul]; exact_mod_cast he.1
    · rw [sub_sub, sub_nonneg]; exact_mod_cast he.2
  · exact div_nonneg (sub_nonneg.2 (by exact_mod_cast he.1)) (Nat.cast_nonneg _)

/-- the centred (linear-phase) hypotheses imply the general ones -/
theorem earlyGen_of_ok (lp : List LStage) (he : PlanEarlyOK lp) (hlat : PlanLatOK false lp) : PlanEarlyGen lp := by
  intro x hx
  have hex := he x hx
  refine ⟨fun hk => ?_, add_nonneg (tstage_b_bound x (hlat x hx)).1 (margin_nonneg x hex)⟩
  simp only [EarlyOK, hk] at hex
  exact hex.2

theorem pinv_need (K : Kern α) (z : α) (lp : List LStage) (l : List (DStage α)) (inp src : List α)
    (hwf : ∀ x ∈ lp, StageWF x.cfg x.s0) (he : PlanEarlyOK lp) (hlat : PlanLatOK false lp)
    (h : PInv K z (lp.map LStage.toPlan) l inp src) (hsrc : 1 ≤ src.length) :
    rateOf (lp.map tstage) * ((src.length : ℚ) - 1) + offsetOf (lp.map tstage) + 1 + margOf lp ≤ inp.length :=
  pinv_need_gen K z lp l inp src hwf (earlyGen_of_ok lp he hlat) h hsrc

/-- **Never early, for every run.**  In the state reached by any streaming run (any interleaving of input blocks and
    output requests, end-of-input not yet signalled) that has delivered at least one frame, the frames accepted so
    far number at least `rate·(delivered − 1) + offset + 1 + margin`. -/
theorem never_early_run_gen (K : Kern α) (z : α) (owed : Nat → Nat) (lp : List LStage) (hwf : ∀ x ∈ lp, StageWF x.cfg x.s0)
    (he : PlanEarlyGen lp) (ops : List (DOp α)) (F D : List α) (e : DEng α)
    (r : DRuns K z owed (DEng.fresh z (lp.map LStage.toPlan)) ops F D e) (hfl : e.fl = false) (hD : 1 ≤ D.length) :
    rateOf (lp.map tstage) * ((D.length : ℚ) - 1) + offsetOf (lp.map tstage) + 1 + margOf lp ≤ F.length := by
  obtain ⟨pad, src, hpad, hp, hsrc⟩ := druns_inv K z owed _ ops _ _ _ _ _ _ (fresh_einv K z _ (planWF_toPlan hwf)) r
  rw [hpad.2 hfl, List.append_nil, List.nil_append] at hp
  -- what has been delivered is a prefix of the canonical stream
  have hlen : D.length ≤ src.length := by rw [← hsrc, List.nil_append, List.length_append]; exact Nat.le_add_right _ _
  have h := pinv_need_gen K z lp e.stages F src hwf he hp (Nat.le_trans hD hlen)
  have := mul_le_mul_of_nonneg_left (sub_le_sub_right (Nat.cast_le (α := ℚ).2 hlen) 1) (rate_nonneg_map lp)
  linarith only [h, this]

theorem never_early_run (K : Kern α) (z : α) (owed : Nat → Nat) (lp : List LStage) (hwf : ∀ x ∈ lp, StageWF x.cfg x.s0)
    (he : PlanEarlyOK lp) (hlat : PlanLatOK false lp) (ops : List (DOp α)) (F D : List α) (e : DEng α)
    (r : DRuns K z owed (DEng.fresh z (lp.map LStage.toPlan)) ops F D e) (hfl : e.fl = false) (hD : 1 ≤ D.length) :
    rateOf (lp.map tstage) * ((D.length : ℚ) - 1) + offsetOf (lp.map tstage) + 1 + margOf lp ≤ F.length :=
  never_early_run_gen K z owed lp hwf (earlyGen_of_ok lp he hlat) ops F D e r hfl hD

theorem fresh_streaming (z : α) (lp : List LStage) (hwf : ∀ x ∈ lp, StageWF x.cfg x.s0) (hne : lp ≠ []) :
    Streaming (DEng.fresh z (lp.map LStage.toPlan)).toEng := by
  refine ⟨rfl, ?_, ?_⟩ <;> simp only [DEng.toEng, DEng.fresh, List.map_map]
  · intro st hst
    obtain ⟨x, hx, rfl⟩ := List.mem_map.mp hst
    exact hwf x hx
  · exact fun h => hne (List.map_eq_nil_iff.mp h)

/-- the bound of `never_early_run_gen` for the count model: its histories are run on samples of the unit type -/
theorem never_early_counts_gen (lp : List LStage) (hwf : ∀ x ∈ lp, StageWF x.cfg x.s0) (he : PlanEarlyGen lp) (hne : lp ≠ [])
    (ops : List StreamOp) (N D : Nat) (e' : Eng) (hs : Streams (DEng.fresh () (lp.map LStage.toPlan)).toEng ops N D e')
    (hD : 1 ≤ D) :
    rateOf (lp.map tstage) * ((D : ℚ) - 1) + offsetOf (lp.map tstage) + 1 + margOf lp ≤ N := by
  have hstr := fresh_streaming () lp hwf hne
  obtain ⟨F', D', d', hrun, rfl, rfl, rfl⟩ :=
    streams_lift ⟨fun _ _ _ _ _ => ()⟩ () (fun _ => 0) ops _ N D e' (DEng.fresh () (lp.map LStage.toPlan)) rfl hstr hs
  exact never_early_run_gen _ () _ lp hwf he _ F' D' d' hrun (streams_counters ops _ _ _ _ hstr hs).1.fl hD

theorem offset_marg_nonneg : ∀ (lp : List LStage), PlanEarlyGen lp → 0 ≤ offsetOf (lp.map tstage) + margOf lp
  | [], _ => by simp only [List.map_nil, offsetOf, margOf, add_zero, le_refl]
  | x :: rest, he => by
    have i1 := offset_marg_nonneg rest fun y hy => he y (List.mem_cons_of_mem _ hy)
    have := mul_nonneg (he x List.mem_cons_self).2 (rate_nonneg_map rest)
    simp only [List.map_cons, offsetOf, margOf]
    linarith only [i1, this]

theorem early_lt {r off marg : ℚ} {N D : ℕ} (hc : 0 ≤ off + marg) (h : r * ((D : ℚ) - 1) + off + 1 + marg ≤ N) :
    ((D : ℚ) - 1) * r < N := by
  linarith only [hc, h]

theorem early_ceil {r : ℚ} {N D : ℕ} (hr : 0 < r) (h : 1 ≤ D → ((D : ℚ) - 1) * r < N) : D ≤ ⌈(N : ℚ) / r⌉₊ := by
  rcases Nat.eq_zero_or_pos D with rfl | h1
  · exact Nat.zero_le _
  · have h2 : ((D - 1 : ℕ) : ℚ) < (N : ℚ) / r := by
      rw [lt_div_iff₀ hr, Nat.cast_sub h1, Nat.cast_one]; exact h h1
    exact Nat.le_of_pred_lt (Nat.lt_ceil.mpr h2)

/-- with a post-context of at least half an output period the delivered count is at most `N/rate + ½` -/
theorem early_round {r off marg : ℚ} {N D : ℕ} (hr : 0 < r) (hpost : r / 2 ≤ 1 + off + marg)
    (h : 1 ≤ D → r * ((D : ℚ) - 1) + off + 1 + marg ≤ N) : (D : ℚ) ≤ (N : ℚ) / r + 1 / 2 := by
  rcases Nat.eq_zero_or_pos D with rfl | h1
  · rw [Nat.cast_zero]; positivity
  · rw [← sub_le_iff_le_add, le_div_iff₀ hr]
    linarith only [hpost, h h1]

/-- for a rate `p/q` the bound says that the delay numerator `N·q − D·p` exceeds `−p` -/
theorem early_delay {p q N D : ℕ} (hp : 0 < p) (hq : 0 < q) (h : 1 ≤ D → ((D : ℚ) - 1) * ((p : ℚ) / q) < N) :
    -(p : Int) < (N : Int) * q - (D : Int) * p := by
  rcases Nat.eq_zero_or_pos D with rfl | h1
  · have : (0 : Int) ≤ (N : Int) * q := Int.mul_nonneg (Int.natCast_nonneg _) (Int.natCast_nonneg _)
    simp only [Int.ofNat_zero, Int.zero_mul, Int.sub_zero]; omega
  · have h2 := h h1
    have hq' : (0 : ℚ) < q := Nat.cast_pos.2 hq
    rw [mul_div_assoc', div_lt_iff₀ hq', sub_mul, one_mul] at h2
    have h3 : (D : Int) * p - p < (N : Int) * q := by exact_mod_cast h2
    omega

end Soxr.Cr
