import SoxrModel.Cr.StageLemmas
/-!
# Progress of the demand-driven pipeline (`stage_process`)

`sp` is fuelled; "returns `some`" is termination of the C recursion.  First what holds of every call that returned
(`sp_mono`: more fuel never changes a result; `sp_len`, `sp_wf`; `sp_done_short`: a call that reports "done" leaves every
stage FIFO below its `input_size`), then that calls do return:
* `sp_flush_total`   while flushing, with ≥ 1 frame and "not done" (induction on the pipeline, inside it on
                     `input_size − occupancy` of the head FIFO);
* `sp_stream_total`  while streaming, for every state: the weighted potential `Σ occᵢ·Wᵢ` (`Wᵢ = gainᵢ·Wᵢ₊₁ + 1`) never
                     rises and falls strictly whenever the call reports "not done".
-/
namespace Soxr.Cr

theorem pipeWF_nil : PipeWF [] := fun _ h => nomatch h

theorem pipeWF_cons {x : Stage} {l : List Stage} : PipeWF (x :: l) ↔ x.WF ∧ PipeWF l := by
  unfold PipeWF; simp

theorem sp_exit {fl : Bool} (f : Nat) {x : Stage} {below : List Stage} {done : Bool} (hc : (!done && x.short) = false) :
    sp fl (f + 1) (x :: below) done = some (x.run.1 :: below, x.run.2, done && x.run.1.short) := by
  simp [sp, hc]

theorem sp_fill (f : Nat) {x : Stage} {done : Bool} (hc : (!done && x.short) = true) :
    sp true (f + 1) [x] done = sp true f [x.addOcc (x.st.isz - x.st.occ)] false := by
  simp [sp, hc]

theorem sp_input (f : Nat) {x : Stage} {done : Bool} (hc : (!done && x.short) = true) :
    sp false (f + 1) [x] done = sp false f [x] true := by
  simp [sp, hc]

theorem sp_call {fl : Bool} {f : Nat} {x y : Stage} {rest b' : List Stage} {done d : Bool} {p : Nat}
    (hc : (!done && x.short) = true) (h : sp fl f (y :: rest) false = some (b', p, d)) :
    sp fl (f + 1) (x :: y :: rest) done = sp fl f (x.addOcc p :: b') d := by
  simp [sp, hc, h]

def AllShort (l : List Stage) : Prop := ∀ x ∈ l, x.short = true

section
variable {fl : Bool} {fuel : Nat} {l : List Stage} {done : Bool} {r : List Stage × Nat × Bool}

theorem sp_mono (h : sp fl fuel l done = some r) (k : Nat) : sp fl (fuel + k) l done = some r := by
  fun_induction sp fl fuel l done generalizing r with
  | case1 => cases h
  | case2 => cases h
  | case3 f x done hc hfl ih => subst hfl; rw [Nat.succ_add, sp_fill _ hc]; exact ih h
  | case4 f x done hc hfl ih =>
    have : fl = false := by simpa using hfl
    subst this; rw [Nat.succ_add, sp_input _ hc]; exact ih h
  | case5 f x done hc y rest hnone ih => simp [hnone] at h
  | case6 f x done hc y rest b' p d hcal ih1 ih2 =>
    simp only [hcal] at h
    rw [Nat.succ_add, sp_call hc (ih1 hcal)]; exact ih2 h
  | case7 f x below done hc => rw [Nat.succ_add, sp_exit _ (by simpa using hc)]; exact h

theorem sp_mono_le {f' : Nat} (h : sp fl fuel l done = some r) (hle : fuel ≤ f') : sp fl f' l done = some r := by
  obtain ⟨k, rfl⟩ := Nat.exists_eq_add_of_le hle
  exact sp_mono h k

theorem sp_len (h : sp fl fuel l done = some r) : r.1.length = l.length := by
  fun_induction sp fl fuel l done generalizing r with
  | case1 => cases h
  | case2 => cases h
  | case3 f x done hc hfl ih => exact ih h
  | case4 f x done hc hfl ih => exact ih h
  | case5 f x done hc y rest hnone ih => simp [hnone] at h
  | case6 f x done hc y rest b' p d hcal ih1 ih2 =>
    simp only [hcal] at h
    rw [ih2 h, List.length_cons, ih1 hcal]; rfl
  | case7 f x below done hc => cases h; rfl

theorem sp_ne_nil (h : sp fl fuel l done = some r) (hne : l ≠ []) : r.1 ≠ [] :=
  fun h0 => hne (List.eq_nil_of_length_eq_zero (by rw [← sp_len h, h0]; rfl))

theorem sp_wf (h : sp fl fuel l done = some r) (hwf : PipeWF l) : PipeWF r.1 := by
  fun_induction sp fl fuel l done generalizing r with
  | case1 => cases h
  | case2 => cases h
  | case3 f x done hc hfl ih => exact ih h (pipeWF_cons.mpr ⟨Stage.wf_addOcc (pipeWF_cons.mp hwf).1 _, pipeWF_nil⟩)
  | case4 f x done hc hfl ih => exact ih h hwf
  | case5 f x done hc y rest hnone ih => simp [hnone] at h
  | case6 f x done hc y rest b' p d hcal ih1 ih2 =>
    simp only [hcal] at h
    obtain ⟨hx, hbelow⟩ := pipeWF_cons.mp hwf
    exact ih2 h (pipeWF_cons.mpr ⟨Stage.wf_addOcc hx p, ih1 hcal hbelow⟩)
  | case7 f x below done hc =>
    cases h
    exact pipeWF_cons.mpr ⟨Stage.wf_run (pipeWF_cons.mp hwf).1, (pipeWF_cons.mp hwf).2⟩

/-- bounded latency: a call that reports "done" leaves every FIFO below its `input_size` -/
theorem sp_done_short (h : sp fl fuel l done = some r) (hd : r.2.2 = true) (htail : done = true → AllShort l.tail) :
    AllShort r.1 := by
  fun_induction sp fl fuel l done generalizing r with
  | case1 => cases h
  | case2 => cases h
  | case3 f x done hc hfl ih => exact ih h hd (fun hh => nomatch hh)
  | case4 f x done hc hfl ih => exact ih h hd (fun _ _ hz => nomatch hz)
  | case5 f x done hc y rest hnone ih => simp [hnone] at h
  | case6 f x done hc y rest b' p d hcal ih1 ih2 =>
    simp only [hcal] at h
    exact ih2 h hd fun hd1 => ih1 hcal hd1 (fun hh => nomatch hh)
  | case7 f x below done hc =>
    cases h
    simp only [Bool.and_eq_true] at hd
    intro z hz
    rcases List.mem_cons.mp hz with rfl | hz
    · exact hd.2
    · exact htail hd.1 z hz

end

/-- the call of the stages below, then the rest of the loop: fuel adds up -/
theorem sp_call_total {fl : Bool} {f1 f2 : Nat} {x y : Stage} {rest b' : List Stage} {done d : Bool} {p : Nat}
    {r : List Stage × Nat × Bool} (hc : (!done && x.short) = true) (h1 : sp fl f1 (y :: rest) false = some (b', p, d))
    (h2 : sp fl f2 (x.addOcc p :: b') d = some r) : sp fl (f1 + f2 + 1) (x :: y :: rest) done = some r := by
  rw [sp_call hc (sp_mono h1 f2), Nat.add_comm]; exact sp_mono h2 f1

theorem sp_flush_total (l : List Stage) (hne : l ≠ []) (hwf : PipeWF l) :
    ∃ fuel l' prod, sp true fuel l false = some (l', prod, false) ∧ 1 ≤ prod := by
  generalize hn : l.length = n
  induction n generalizing l with
  | zero => exact absurd (List.eq_nil_of_length_eq_zero hn) hne
  | succ n ih =>
    obtain ⟨x, below, rfl⟩ := List.exists_cons_of_ne_nil hne
    obtain ⟨hx, hbelow⟩ := pipeWF_cons.mp hwf
    clear hwf hne
    -- the head FIFO is fewer than `m` frames short of `input_size`; every call of the stages below brings ≥ 1 frame
    obtain ⟨m, hm⟩ : ∃ m, x.st.isz - x.st.occ < m := ⟨_, Nat.lt_succ_self _⟩
    induction m generalizing x below with
    | zero => exact absurd hm (Nat.not_lt_zero _)
    | succ m ihm =>
      by_cases hs : x.short = true
      · have hlt := (Stage.short_true_iff x).mp hs
        have hc : (!false && x.short) = true := by simp [hs]
        match below, hbelow, hn with
        | [], hbelow, hn =>
          -- the input stage is zero-filled to `input_size`
          obtain ⟨f, l', p, h, hp⟩ := ihm (x.addOcc (x.st.isz - x.st.occ)) [] hn (Stage.wf_addOcc hx _) hbelow
            (by show x.st.isz - (x.st.occ + (x.st.isz - x.st.occ)) < m; omega)
          exact ⟨f + 1, l', p, by rw [sp_fill f hc]; exact h, hp⟩
        | y :: rest, hbelow, hn =>
          obtain ⟨f1, b', p1, g1, g2⟩ := ih (y :: rest) (List.cons_ne_nil _ _) hbelow (Nat.succ.inj hn)
          obtain ⟨f2, l', p, h, hp⟩ := ihm (x.addOcc p1) b'
            (by rw [List.length_cons, sp_len g1]; exact hn) (Stage.wf_addOcc hx _) (sp_wf g1 hbelow)
            (by show x.st.isz - (x.st.occ + p1) < m; omega)
          exact ⟨f1 + f2 + 1, l', p, sp_call_total hc g1 h, hp⟩
      · have hs' : x.short = false := by simpa using hs
        exact ⟨1, _, _, sp_exit 0 (by simp [hs']), (Stage.run_live hx hs').2⟩
/-- weight of one frame in the head FIFO when a frame of its output weighs `w` -/
def wgt (x : Stage) (w : Nat) : Nat := gain x.cfg * w + 1

/-- potential of a pipeline whose output frames weigh `w` -/
def phi : Nat → List Stage → Nat
  | _, [] => 0
  | w, x :: below => x.st.occ * wgt x w + phi (wgt x w) below

/-- post-condition of a terminated call: the potential (counting what was handed upwards) never rises, and falls
    strictly when the call reports "not done". -/
def Post (w : Nat) (l : List Stage) (r : List Stage × Nat × Bool) : Prop :=
  phi w r.1 + r.2.1 * w ≤ phi w l ∧ (r.2.2 = false → phi w r.1 + r.2.1 * w < phi w l)

theorem Post.mono {w : Nat} {l l' : List Stage} {r : List Stage × Nat × Bool} (h : Post w l' r)
    (hle : phi w l' ≤ phi w l) : Post w l r :=
  ⟨Nat.le_trans h.1 hle, fun hd => Nat.lt_of_lt_of_le (h.2 hd) hle⟩

theorem wgt_run (x : Stage) (w : Nat) : wgt x.run.1 w = wgt x w := rfl
theorem wgt_addOcc (x : Stage) (n w : Nat) : wgt (x.addOcc n) w = wgt x w := rfl

/-- running the head stage lowers the potential by at least what it consumed -/
theorem phi_run (x : Stage) (below : List Stage) (w : Nat) (hx : x.WF) :
    phi w (x.run.1 :: below) + x.run.2 * w + (x.st.occ - x.run.1.st.occ) ≤ phi w (x :: below) := by
  simp only [phi, wgt_run]
  have hle := Stage.run_occ_le x
  have hg := (Stage.run_step hx).le_gain
  generalize hc : x.st.occ - x.run.1.st.occ = c at *
  have e : x.st.occ = x.run.1.st.occ + c := by omega
  rw [e, Nat.add_mul]
  have h1 : x.run.2 * w ≤ gain x.cfg * c * w := Nat.mul_le_mul_right _ hg
  have h2 : c * wgt x w = gain x.cfg * c * w + c := by
    unfold wgt; rw [Nat.mul_add, Nat.mul_one, Nat.mul_comm c, Nat.mul_assoc, Nat.mul_assoc, Nat.mul_comm w c]
  omega

theorem phi_addOcc (x : Stage) (below : List Stage) (w n : Nat) :
    phi w (x.addOcc n :: below) = phi w (x :: below) + n * wgt x w := by
  simp only [phi, wgt_addOcc]
  have : (x.addOcc n).st.occ = x.st.occ + n := rfl
  rw [this, Nat.add_mul]; omega

theorem sp_exit_post (x : Stage) (below : List Stage) (done : Bool) (w : Nat) (hx : x.WF)
    (hc : (!done && x.short) = false) :
    Post w (x :: below) (x.run.1 :: below, x.run.2, done && x.run.1.short) := by
  have hrun := phi_run x below w hx
  refine ⟨by simp only; omega, fun hd => ?_⟩
  -- "not done" ⇒ something was consumed: an idle invocation leaves a short FIFO short, and `done` as it was
  have hcons : x.run.1.st.occ < x.st.occ := by
    apply Nat.lt_of_le_of_ne (Stage.run_occ_le x)
    intro heq
    have hi := (Stage.run_step hx).idle heq
    have hl := (Stage.run_step hx).live
    have hs : x.short = true := by rw [Stage.short_true_iff]; omega
    have hs' : x.run.1.short = true := by rw [Stage.short_true_iff] at hs ⊢; omega
    simp [hs, hs'] at hc hd
    simp [hc] at hd
  simp only at hd ⊢
  omega

theorem sp_stream_total : ∀ (Φ : Nat) (l : List Stage) (done : Bool) (w : Nat), l ≠ [] → PipeWF l → phi w l ≤ Φ →
    ∃ fuel r, sp false fuel l done = some r ∧ Post w l r := by
  intro Φ
  induction Φ using Nat.strongRecOn with
  | _ Φ ihΦ =>
    intro l
    induction l with
    | nil => intro _ _ h; exact absurd rfl h
    | cons x below ihl =>
      intro done w _ hwf hΦ
      obtain ⟨hx, hbelow⟩ := pipeWF_cons.mp hwf
      by_cases hc : (!done && x.short) = true
      · match below, hbelow, ihl with
        | [], _, _ =>
          -- input stage, not flushing: `done := true`, then the exit branch
          exact ⟨2, _, by rw [sp_input 1 hc, sp_exit 0 rfl], sp_exit_post x [] true w hx rfl⟩
        | y :: rest, hbelow, ihl =>
          -- call the stages below (their output frames weigh `wgt x w`) …
          obtain ⟨f1, ⟨b', p1, d1⟩, hr1, hp1⟩ := ihl false (wgt x w) (List.cons_ne_nil _ _) hbelow
            (Nat.le_trans (by simp only [phi]; omega) hΦ)
          have hx1 : (x.addOcc p1).WF := Stage.wf_addOcc hx p1
          have hphi : phi w (x.addOcc p1 :: b') = phi (wgt x w) b' + p1 * wgt x w + x.st.occ * wgt x w := by
            rw [phi_addOcc]; simp only [phi]; omega
          have hphi0 : phi w (x :: y :: rest) = phi (wgt x w) (y :: rest) + x.st.occ * wgt x w := by
            simp only [phi]; omega
          -- … and go round again: at once through the exit branch if they are done, else with a smaller potential
          have cont : ∃ f2 r2, sp false f2 (x.addOcc p1 :: b') d1 = some r2 ∧ Post w (x.addOcc p1 :: b') r2 := by
            cases d1 with
            | true => exact ⟨1, _, sp_exit 0 rfl, sp_exit_post (x.addOcc p1) b' true w hx1 rfl⟩
            | false =>
              have := hp1.2 rfl
              exact ihΦ (phi w (x.addOcc p1 :: b')) (by simp only at this; omega) _ false w (List.cons_ne_nil _ _)
                (pipeWF_cons.mpr ⟨hx1, sp_wf hr1 hbelow⟩) (Nat.le_refl _)
          obtain ⟨f2, r2, hr2, hp2⟩ := cont
          have := hp1.1
          exact ⟨f1 + f2 + 1, r2, sp_call_total hc hr1 hr2, hp2.mono (by simp only at this; omega)⟩
      · have hc' : (!done && x.short) = false := by simpa using hc
        exact ⟨1, _, sp_exit 0 hc', sp_exit_post x below done w hx hc'⟩

end Soxr.Cr
