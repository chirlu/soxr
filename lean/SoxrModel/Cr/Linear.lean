import SoxrModel.Cr.EarlyNat
import SoxrModel.Cr.Schedule
/-!
# The engine model commutes with maps of the sample type that the kernels commute with

Control is data-independent, so a map `φ : β → α` of samples that every kernel commutes with (`KMap`: evaluating on the
mapped window is mapping the value) carries canonical streams to canonical streams, with the same units (`CInv.map`,
and back: `CInv.of_map`).  Homogeneity is the case `φ = (a * ·)`; superposition is the case of the sum
`α × α → α` out of the pair kernel, whose two projections are such maps by definition.  Stated on the pipeline invariant,
so both hold for the state reached by ANY run of the engine model (any schedule), not for an idealised filter bank.
-/
namespace Soxr.Cr

variable {α β : Type}

/-- `φ` carries the kernel `K'` to the kernel `K`: evaluating `K` on a mapped window is mapping the value of `K'` -/
def KMap (φ : β → α) (K' : Kern β) (K : Kern α) : Prop :=
  ∀ (c : StageCfg) (p1 p2 p3 : Nat) (w : List β), K.eval c p1 p2 p3 (w.map φ) = φ (K'.eval c p1 p2 p3 w)

theorem G_map {φ : β → α} {K' : Kern β} {K : Kern α} (hφ : KMap φ K' K) (c : StageCfg) (s0 : StageSt) (h : List β) :
    ∀ m, (unitSem K c s0).G m (h.map φ) = ((unitSem K' c s0).G m h).map φ := by
  intro m
  induction m with
  | zero => rfl
  | succ m ih =>
    have hw : (unitSem K c s0).window m (h.map φ) = ((unitSem K' c s0).window m h).map φ := by
      simp only [UnitSem.window, unitSem_pos, unitSem_len, List.map_take, List.map_drop]
    simp only [UnitSem.G, ih, hw, List.map_append, unitSem_out, List.map_map]
    exact congrArg _ (List.map_congr_left fun t _ => hφ c _ _ _ _)

/-- which units are stable depends on the length of the history only -/
theorem stable_of_length {K : Kern α} {K' : Kern β} {c : StageCfg} {s0 : StageSt} {m : Nat} {h : List α} {h' : List β}
    (hl : h'.length = h.length) (hs : (unitSem K c s0).Stable m h) : (unitSem K' c s0).Stable m h' := by
  intro u hu
  have := hs u hu
  rwa [unitSem_pos, unitSem_len, hl, ← unitSem_pos K, ← unitSem_len K]

theorem map_preload (φ : β → α) {z' : β} {z : α} (hz : φ z' = z) (n : Nat) (s : List β) :
    List.replicate n z ++ s.map φ = (List.replicate n z' ++ s).map φ := by
  rw [List.map_append, List.map_replicate, hz]

/-- a canonical stream, mapped, is a canonical stream of the mapped input -/
theorem CInv.map {φ : β → α} {K' : Kern β} {K : Kern α} (hφ : KMap φ K' K) {z' : β} {z : α} (hz : φ z' = z) {plan : Plan}
    {x t : List β} (h : CInv K' z' plan x t) : CInv K z plan (x.map φ) (t.map φ) := by
  induction h with
  | nil inp => exact CInv.nil _
  | cons c s0 m _ hst ih =>
    rw [← G_map hφ, ← map_preload φ hz]
    exact CInv.cons c s0 m ih (stable_of_length (by simp) hst)

/-- a canonical stream of a mapped input is a canonical stream of the input, mapped -/
theorem CInv.of_map {φ : β → α} {K' : Kern β} {K : Kern α} (hφ : KMap φ K' K) {z' : β} {z : α} (hz : φ z' = z) :
    ∀ {plan : Plan} {x : List β} {s : List α}, CInv K z plan (x.map φ) s → ∃ t, CInv K' z' plan x t ∧ s = t.map φ := by
  intro plan
  induction plan with
  | nil => intro x s h; cases h; exact ⟨x, CInv.nil x, rfl⟩
  | cons p ps ih =>
    intro x s h
    cases h with
    | cons c s0 m hb hst =>
      obtain ⟨t, ht, rfl⟩ := ih hb
      exact ⟨_, CInv.cons c s0 m ht (stable_of_length (by simp) hst), by rw [map_preload φ hz, G_map hφ]⟩

/-- pointwise sum of two sample lists -/
def ladd [Add α] (a b : List α) : List α := List.zipWith (· + ·) a b

theorem ladd_length [Add α] (a b : List α) (h : a.length = b.length) : (ladd a b).length = a.length := by
  simp [ladd, h]

theorem ladd_append [Add α] (a1 a2 b1 b2 : List α) (h : a1.length = b1.length) :
    ladd (a1 ++ a2) (b1 ++ b2) = ladd a1 b1 ++ ladd a2 b2 :=
  List.zipWith_append h

theorem ladd_window [Add α] (a b : List α) (p n : Nat) :
    ((ladd a b).drop p).take n = ladd ((a.drop p).take n) ((b.drop p).take n) := by
  unfold ladd; rw [List.drop_zipWith, List.take_zipWith]

/-- the kernels are additive in the window -/
def KAdd [Add α] (K : Kern α) : Prop :=
  ∀ (c : StageCfg) (p1 p2 p3 : Nat) (w1 w2 : List α), w1.length = w2.length →
    K.eval c p1 p2 p3 (ladd w1 w2) = K.eval c p1 p2 p3 w1 + K.eval c p1 p2 p3 w2

theorem ladd_map_fst_snd [Add α] (w : List (α × α)) : ladd (w.map Prod.fst) (w.map Prod.snd) = w.map fun p => p.1 + p.2 := by
  induction w with
  | nil => rfl
  | cons p w ih => simp only [List.map_cons, ladd, List.zipWith_cons_cons] at ih ⊢; rw [ih]

/-- a kernel run on both components of a pair -/
def Kern.pair (K : Kern α) : Kern (α × α) :=
  ⟨fun c p1 p2 p3 w => (K.eval c p1 p2 p3 (w.map Prod.fst), K.eval c p1 p2 p3 (w.map Prod.snd))⟩

theorem KAdd.kmap [Add α] {K : Kern α} (hK : KAdd K) : KMap (fun p : α × α => p.1 + p.2) K.pair K := by
  intro c p1 p2 p3 w
  rw [← ladd_map_fst_snd, hK c p1 p2 p3 _ _ (by simp)]; rfl

/-- **Superposition for the engine model.**  Three states of the same plan — reached by any runs whatever — whose bottom
    inputs are `x`, `y` and `x + y` and whose canonical streams are equally long: the stream of the sum is the sum of
    the streams, sample by sample. -/
theorem engine_superposition [Add α] (K : Kern α) (hK : KAdd K) (z : α) (hz : z + z = z) (plan : Plan)
    (l1 l2 l3 : List (DStage α)) (x y s1 s2 s3 : List α) (hl : x.length = y.length)
    (h1 : PInv K z plan l1 x s1) (h2 : PInv K z plan l2 y s2) (h3 : PInv K z plan l3 (ladd x y) s3)
    (e1 : s1.length = s3.length) (e2 : s2.length = s3.length) : s3 = ladd s1 s2 := by
  -- `s3` comes from a stream `t` of pairs over `zip x y`, whose components are streams over `x` and over `y`
  have hf := List.map_fst_zip (Nat.le_of_eq hl)
  have hs := List.map_snd_zip (Nat.le_of_eq hl.symm)
  have h3' := h3.toCInv
  rw [show ladd x y = (x.zip y).map fun p => p.1 + p.2 by rw [← ladd_map_fst_snd, hf, hs]] at h3'
  obtain ⟨t, ht, rfl⟩ := CInv.of_map hK.kmap (z' := (z, z)) hz h3'
  have c1 := ht.map (φ := Prod.fst) (K := K) (fun _ _ _ _ _ => rfl) (z := z) rfl
  have c2 := ht.map (φ := Prod.snd) (K := K) (fun _ _ _ _ _ => rfl) (z := z) rfl
  rw [hf] at c1
  rw [hs] at c2
  rw [List.length_map] at e1 e2
  rw [← (CInv_comparable K z plan x x _ s1 c1 h1.toCInv (Comparable.refl x)).eq_of_length (by simpa using e1.symm),
    ← (CInv_comparable K z plan y y _ s2 c2 h2.toCInv (Comparable.refl y)).eq_of_length (by simpa using e2.symm),
    ladd_map_fst_snd]

/-- every sample multiplied by `a` -/
def lsmul [Mul α] (a : α) (l : List α) : List α := l.map (a * ·)

/-- the kernels commute with scaling of the window -/
def KSmul [Mul α] (K : Kern α) : Prop :=
  ∀ (c : StageCfg) (p1 p2 p3 : Nat) (a : α) (w : List α), K.eval c p1 p2 p3 (lsmul a w) = a * K.eval c p1 p2 p3 w

theorem KSmul.kmap [Mul α] {K : Kern α} (hK : KSmul K) (a : α) : KMap (a * ·) K K := fun c p1 p2 p3 w => hK c p1 p2 p3 a w

/-- **Homogeneity for the engine model**: `a` times a canonical stream of `x` is a canonical stream of `a·x` with the
    same units (`a·z = z` for the zero sample the FIFOs are preloaded with). -/
theorem CInv.smul [Mul α] {K : Kern α} (hK : KSmul K) {z a : α} (hz : a * z = z) {plan : Plan} {x t : List α}
    (h : CInv K z plan x t) : CInv K z plan (lsmul a x) (lsmul a t) :=
  h.map (hK.kmap a) hz

theorem engine_homogeneity [Mul α] (K : Kern α) (hK : KSmul K) (z : α) (a : α) (hz : a * z = z) (plan : Plan)
    (l1 l2 : List (DStage α)) (x s1 s2 : List α) (h1 : PInv K z plan l1 x s1) (h2 : PInv K z plan l2 (lsmul a x) s2)
    (e : s1.length = s2.length) : s2 = lsmul a s1 :=
  (CInv_comparable K z plan _ _ s2 _ h2.toCInv (h1.toCInv.smul hK hz) (Comparable.refl _)).eq_of_length
    (by rw [← e, lsmul, List.length_map])

end Soxr.Cr
