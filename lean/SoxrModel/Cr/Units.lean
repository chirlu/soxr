import SoxrModel.Basic
/-!
# Canonical output of a stage as a function of its input history

A stage's work decomposes into *units* (one output frame for the half-band and clocked kinds, one block for the dft
kind).  Unit `u` reads the window `[pos u, pos u + len u)` of the stage's input history — positions, lengths and phase
tags depend on `u` and the plan only, never on sample values or on how calls were sized — and yields `out u window`.
`G m h` is the output of the first `m` units on history `h`; `Stable m h` says their windows lie inside `h`.
The three laws (a)–(c) are all that the schedule-invariance argument needs from a stage.
-/
namespace Soxr.Cr

structure UnitSem (α : Type) where
  pos : Nat → Nat
  len : Nat → Nat
  out : Nat → List α → List α

variable {α : Type}

def UnitSem.window (U : UnitSem α) (u : Nat) (h : List α) : List α := (h.drop (U.pos u)).take (U.len u)

/-- output of the first `m` units -/
def UnitSem.G (U : UnitSem α) : Nat → List α → List α
  | 0, _ => []
  | m+1, h => U.G m h ++ U.out m (U.window m h)

/-- the windows of the first `m` units lie inside the history -/
def UnitSem.Stable (U : UnitSem α) (m : Nat) (h : List α) : Prop := ∀ u, u < m → U.pos u + U.len u ≤ h.length

/-- a window is determined by the frames it covers -/
theorem UnitSem.window_congr (U : UnitSem α) (u : Nat) {h h' : List α}
    (e : ∀ k, k < U.len u → h[U.pos u + k]? = h'[U.pos u + k]?) : U.window u h = U.window u h' := by
  apply List.ext_getElem?
  intro k
  simp only [UnitSem.window, List.getElem?_take, List.getElem?_drop]
  split
  · exact e k ‹_›
  · rfl

theorem UnitSem.window_append (U : UnitSem α) (u : Nat) (h more : List α) (hs : U.pos u + U.len u ≤ h.length) :
    U.window u (h ++ more) = U.window u h := by
  unfold UnitSem.window
  rw [List.drop_append_of_le_length (by omega)]
  rw [List.take_append_of_le_length (by simp; omega)]

/-- (a) stability is downward closed in the number of units -/
theorem UnitSem.stable_mono (U : UnitSem α) {m m' : Nat} {h : List α} (hm : m' ≤ m) (hs : U.Stable m h) : U.Stable m' h :=
  fun u hu => hs u (by omega)

/-- (b) extending the history changes nothing that was stable -/
theorem UnitSem.stable_append (U : UnitSem α) {m : Nat} {h : List α} (more : List α) (hs : U.Stable m h) :
    U.Stable m (h ++ more) := by
  intro u hu; have := hs u hu; rw [List.length_append]; omega

theorem UnitSem.G_append (U : UnitSem α) : ∀ (m : Nat) (h more : List α), U.Stable m h → U.G m (h ++ more) = U.G m h := by
  intro m
  induction m with
  | zero => intro h more _; rfl
  | succ m ih =>
    intro h more hs
    simp only [UnitSem.G]
    rw [ih h more (U.stable_mono (Nat.le_succ m) hs), U.window_append m h more (hs m (Nat.lt_succ_self m))]

/-- outputs of the units `u0 … u0+r-1` -/
def UnitSem.seg (U : UnitSem α) (u0 r : Nat) (h : List α) : List α :=
  (List.range r).flatMap (fun i => U.out (u0 + i) (U.window (u0 + i) h))

theorem UnitSem.G_add (U : UnitSem α) (h : List α) (m : Nat) : ∀ r, U.G (m + r) h = U.G m h ++ U.seg m r h := by
  intro r
  induction r with
  | zero => simp [UnitSem.seg]
  | succ r ih =>
    rw [← Nat.add_assoc]
    simp only [UnitSem.G, UnitSem.seg, ih, List.range_succ, List.flatMap_append, List.flatMap_cons, List.flatMap_nil,
      List.append_nil, List.append_assoc]

/-- (c) more units only append -/
theorem UnitSem.G_prefix (U : UnitSem α) (h : List α) (m m' : Nat) (hle : m ≤ m') : U.G m h <+: U.G m' h := by
  obtain ⟨r, rfl⟩ := Nat.exists_eq_add_of_le hle
  exact ⟨_, (U.G_add h m r).symm⟩

def Comparable (a b : List α) : Prop := a <+: b ∨ b <+: a

theorem Comparable.symm {a b : List α} (h : Comparable a b) : Comparable b a := h.elim Or.inr Or.inl

theorem Comparable.refl (a : List α) : Comparable a a := Or.inl (List.prefix_refl a)

/-- **Key lemma.**  Outputs computed from prefix-comparable histories are prefix-comparable, whatever numbers of
    units were run on each. -/
theorem UnitSem.G_comparable (U : UnitSem α) {m1 m2 : Nat} {h1 h2 : List α} (hc : Comparable h1 h2)
    (s1 : U.Stable m1 h1) (s2 : U.Stable m2 h2) : Comparable (U.G m1 h1) (U.G m2 h2) := by
  -- symmetric in (1,2): assume m1 ≤ m2
  have key : ∀ {m1 m2 : Nat} {h1 h2 : List α}, m1 ≤ m2 → Comparable h1 h2 → U.Stable m1 h1 → U.Stable m2 h2 →
      U.G m1 h1 <+: U.G m2 h2 := by
    intro m1 m2 h1 h2 hle hc s1 s2
    have e : U.G m1 h1 = U.G m1 h2 := by
      rcases hc with ⟨t, ht⟩ | ⟨t, ht⟩
      · rw [← ht, U.G_append m1 h1 t s1]
      · rw [← ht, U.G_append m1 h2 t (U.stable_mono hle s2)]
    rw [e]
    exact U.G_prefix h2 m1 m2 hle
  rcases Nat.le_total m1 m2 with hle | hle
  · exact Or.inl (key hle hc s1 s2)
  · exact Or.inr (key hle hc.symm s2 s1)

theorem comparable_append_left (z : List α) {a b : List α} (h : Comparable a b) : Comparable (z ++ a) (z ++ b) := by
  rcases h with ⟨t, ht⟩ | ⟨t, ht⟩
  · exact Or.inl ⟨t, by rw [← ht, List.append_assoc]⟩
  · exact Or.inr ⟨t, by rw [← ht, List.append_assoc]⟩

theorem comparable_take {a b : List α} (h : Comparable a b) (n k : Nat) : Comparable (a.take n) (b.take k) := by
  rcases h with hab | hba
  · exact List.prefix_or_prefix_of_prefix (List.IsPrefix.trans (List.take_prefix n a) hab) (List.take_prefix k b)
  · exact List.prefix_or_prefix_of_prefix (List.take_prefix n a) (List.IsPrefix.trans (List.take_prefix k b) hba)

theorem Comparable.getElem?_eq {a b : List α} (h : Comparable a b) {i : Nat} (ha : i < a.length) (hb : i < b.length) :
    a[i]? = b[i]? := by
  rcases h with ⟨t, rfl⟩ | ⟨t, rfl⟩
  · exact (List.getElem?_append_left ha).symm
  · exact List.getElem?_append_left hb

theorem Comparable.eq_of_length {a b : List α} (h : Comparable a b) (hl : a.length = b.length) : a = b := by
  rcases h with h | h
  · exact List.IsPrefix.eq_of_length h hl
  · exact (List.IsPrefix.eq_of_length h hl.symm).symm

end Soxr.Cr
