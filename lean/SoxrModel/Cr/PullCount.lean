import SoxrModel.Cr.ApiLemmas
/-!
# Frames on their way from the input function to the engine

`dataSum` is what a list of answers carries; `soxr_output_no_callback` leaves `samples_in` alone (`outputNoCb_sin`,
`Cr/ApiLemmas.lean`) and `soxr_input` of a proper supply adds its length.  `pullLoop_spec` (`Cr/Pull.lean`) puts these
together: everything the input function supplies reaches the engine exactly once.
-/
namespace Soxr.Cr

/-- frames carried by a list of answers -/
def dataSum : List Supply → Nat
  | [] => 0
  | .data n :: r => n + dataSum r
  | _ :: r => dataSum r

/-- frames carried by one answer -/
def Supply.len : Supply → Nat
  | .data n => n
  | _ => 0

theorem dataSum_cons (r : Supply) (l : List Supply) : dataSum (r :: l) = r.len + dataSum l := by
  cases r <;> simp [dataSum, Supply.len]

theorem dataSum_append (a b : List Supply) : dataSum (a ++ b) = dataSum a + dataSum b := by
  induction a with
  | nil => exact (Nat.zero_add _).symm
  | cons x r ih => rw [List.cons_append, dataSum_cons, dataSum_cons, ih, Nat.add_assoc]

/-- `soxr_input` of a proper supply hands it to the engine -/
theorem input_sin {a : Api} {n : Nat} (herr : a.error = false) (hn : 0 < n) (hfl : a.eng.fl = false) :
    (a.input n).eng.sin = a.eng.sin + n ∧ (a.input n).eng.fl = false := by
  have hn : ¬ n = 0 := by omega
  simp only [Api.input, herr, Bool.false_eq_true, if_false, hn, Eng.input, hfl]
  cases a.eng.stages <;> exact ⟨rfl, rfl⟩

end Soxr.Cr
