import SoxrModel.Cr.DataPipe
import SoxrModel.Cr.Stream
/-!
# Every count-level history is the shadow of a sample-level one

`Cr/DataPipe.lean` projects the engine on samples onto the count model call by call (`DEng.*_proj`).  Here the converse for
whole histories: any streaming history of the count model (`Streams`) from a state that is the projection of a sample-level
engine can be run on samples — feeding `n` frames of any value for `feed n` — and the sample-level run accepts and delivers
lists of exactly the counted lengths.  So what is proved about every sample-level run (`never_early_round`,
`hearly_every_run`) holds for every history of the count model, the model the per-call correspondence ties to the code.
-/
namespace Soxr.Cr

variable {α : Type}

def liftOps (z : α) : List StreamOp → List (DOp α)
  | [] => []
  | .feed n :: r => .feed (List.replicate n z) :: liftOps z r
  | .take n0 :: r => .take n0 :: liftOps z r

theorem streams_lift (K : Kern α) (z : α) (owed : Nat → Nat) : ∀ (ops : List StreamOp) (e : Eng) (N D : Nat) (e' : Eng) (d : DEng α),
    d.toEng = e → Streaming e → Streams e ops N D e' →
    ∃ F' D' d', DRuns K z owed d (liftOps z ops) F' D' d' ∧ F'.length = N ∧ D'.length = D ∧ d'.toEng = e' := by
  intro ops e N D e' d hd hstr hs
  induction hs generalizing d with
  | nil => exact ⟨[], [], d, DRuns.nil d, rfl, rfl, hd⟩
  | feed e n ops _ _ _ _ ih =>
    have hfl : d.toEng.fl = false := hd ▸ hstr.fl
    obtain ⟨F', D', d', hrun, hF, hD, hd'⟩ := ih (d.input (List.replicate n z))
      (by rw [DEng.input_proj, hd, List.length_replicate]) (streaming_input hstr n).1
    refine ⟨List.replicate n z ++ F', D', d', ?_, by simp [hF], hD, hd'⟩
    have := DRuns.feed d (List.replicate n z) (liftOps z ops) F' D' d' hrun
    rwa [show d.fl = false from hfl] at this
  | take e n0 fuel e1 ops _ _ _ hp _ ih =>
    -- the count-level `process` succeeded, so the sample-level one does, and projects onto its result
    have hpp := DEng.process_proj K z fuel d n0
    rw [hd, hp] at hpp
    cases hdp : d.process K z fuel n0 with
    | none => rw [hdp] at hpp; cases hpp
    | some d1 =>
      rw [hdp] at hpp
      obtain rfl : d1.toEng = e1 := Option.some.inj hpp
      obtain ⟨h1, _, _⟩ := streaming_process hstr n0 fuel hp
      obtain ⟨h2, _, onn, _, _⟩ := streaming_output h1 n0
      obtain ⟨o1, o2⟩ := DEng.output_proj d1 n0
      obtain ⟨F', D', d', hrun, hF, hD, hd'⟩ := ih _ o1 h2
      refine ⟨F', (d1.output n0).2 ++ D', d', DRuns.take d n0 fuel d1 (liftOps z ops) F' D' d' hdp hrun, hF, ?_, hd'⟩
      rw [List.length_append, hD]; omega

end Soxr.Cr
