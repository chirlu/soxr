import SoxrModel.Cr.Engine
/-!
# `soxr_output_no_callback`: flush if end-of-input has been signalled, `_soxr_process`, `_soxr_output`

Once end-of-input has been signalled every call delivers exactly `min(frames still owed, request)`; hence the drain
is exact and nothing comes afterwards.
-/
namespace Soxr.Cr

theorem flush_idem (owed : Nat → Nat) (e : Eng) (h : e.fl = true) : e.flush owed = e := by
  unfold Eng.flush; simp [h]

/-- the engine `soxr_output_no_callback` works on: flushed first if end-of-input has been signalled -/
def Api.engIn (num : Num) (a : Api) : Eng := if a.flushing then a.eng.flush num.owed else a.eng

/-- `_soxr_flush` has nothing to do: end-of-input not signalled, or the engine flushing already -/
theorem Api.engIn_eq (num : Num) {a : Api} (h : a.flushing = true → a.eng.fl = true) : a.engIn num = a.eng := by
  unfold Api.engIn
  split
  · exact flush_idem _ _ (h ‹_›)
  · rfl

theorem outputNoCb_eq (num : Num) (fuel : Nat) (a : Api) (len : Nat) :
    a.outputNoCb num fuel len =
      ((a.engIn num).process fuel len).map fun e' => ({ a with eng := (e'.output len).1 }, (e'.output len).2.toNat) := by
  unfold Api.outputNoCb Api.engIn
  dsimp only
  cases (if a.flushing = true then a.eng.flush num.owed else a.eng).process fuel len <;> rfl

theorem outputNoCb_some {num : Num} {fuel : Nat} {a : Api} {len : Nat} {r : Api × Nat}
    (h : a.outputNoCb num fuel len = some r) :
    ∃ e', (a.engIn num).process fuel len = some e' ∧
      r = ({ a with eng := (e'.output len).1 }, (e'.output len).2.toNat) := by
  rw [outputNoCb_eq, Option.map_eq_some_iff] at h
  obtain ⟨e', hp, he⟩ := h
  exact ⟨e', hp, he.symm⟩

theorem outputNoCb_flags (num : Num) (fuel : Nat) (a : Api) (len : Nat) (a1 : Api) (od : Nat)
    (h : a.outputNoCb num fuel len = some (a1, od)) :
    a1.flushing = a.flushing ∧ a1.error = a.error ∧ a1.hasFn = a.hasFn ∧ a1.maxIlen = a.maxIlen := by
  obtain ⟨_, _, he⟩ := outputNoCb_some h
  cases he
  exact ⟨rfl, rfl, rfl, rfl⟩

/-- unless this is the call that passes end-of-input on to the engine, `soxr_output_no_callback` leaves `samples_in` and
    the engine's flushing flag alone (`_soxr_flush` is idle, `_soxr_process` and `_soxr_output` touch neither) -/
theorem outputNoCb_sin {num : Num} {fuel : Nat} {a a1 : Api} {len od : Nat}
    (h : a.outputNoCb num fuel len = some (a1, od)) (hfl : a.flushing = true → a.eng.fl = true) :
    a1.eng.sin = a.eng.sin ∧ a1.eng.fl = a.eng.fl := by
  obtain ⟨e', hp, he⟩ := outputNoCb_some h
  cases he
  rw [Api.engIn_eq num hfl] at hp
  exact ⟨(process_same hp).sin, (process_same hp).fl⟩

/-- the counts delivered by a call do not depend on the fuel used (the model is deterministic) -/
theorem outputNoCb_det (num : Num) (a : Api) (len f1 f2 : Nat) (r1 r2 : Api × Nat)
    (h1 : a.outputNoCb num f1 len = some r1) (h2 : a.outputNoCb num f2 len = some r2) : r1 = r2 := by
  obtain ⟨e1, hp1, rfl⟩ := outputNoCb_some h1
  obtain ⟨e2, hp2, rfl⟩ := outputNoCb_some h2
  rw [process_det _ len f1 f2 e1 e2 hp1 hp2]

/-- frames still owed by an engine whose `_soxr_flush` has run -/
def Eng.owedLeft (e : Eng) : Nat := (-e.sout).toNat

/-- the engine is flushing and has not delivered more than it owes -/
structure Draining (e : Eng) : Prop where
  fl : e.fl = true
  sout : e.sout ≤ 0
  wf : PipeWF e.stages
  ne : e.stages ≠ []

theorem Draining.ok {e : Eng} (hd : Draining e) : e.OK := ⟨hd.ne, hd.wf⟩

theorem Draining.sout_eq {e : Eng} (hd : Draining e) : e.sout = -(e.owedLeft : Int) := by
  have := hd.sout
  unfold Eng.owedLeft; omega

theorem owedLeft_of_sout {e : Eng} {o : Nat} (h : e.sout = -(o : Int)) : e.owedLeft = o := by
  unfold Eng.owedLeft; rw [h, Int.neg_neg, Int.toNat_natCast]

theorem Draining.target {e : Eng} (hd : Draining e) (len : Nat) : e.target len = ((min e.owedLeft len : Nat) : Int) := by
  unfold Eng.target
  rw [if_pos hd.fl, hd.sout_eq, Int.neg_neg]
  omega

/-- `_soxr_output` on a draining engine whose output FIFO holds the target: exactly `min(owed, request)` frames -/
theorem Draining.output {e : Eng} (hd : Draining e) (len : Nat) (hocc : e.target len ≤ e.outOcc) :
    (e.output len).2 = ((min e.owedLeft len : Nat) : Int) ∧ Draining (e.output len).1 ∧
      (e.output len).1.owedLeft = e.owedLeft - min e.owedLeft len := by
  have hn : min (e.target len) (e.outOcc : Int) = ((min e.owedLeft len : Nat) : Int) := by rw [← hd.target]; omega
  have hm := Nat.min_le_left e.owedLeft len
  have hs : (e.output len).1.sout = -((e.owedLeft - min e.owedLeft len : Nat) : Int) := by
    simp only [Eng.output, hn, hd.sout_eq]; omega
  exact ⟨by simp only [Eng.output, hn], ⟨hd.fl, by rw [hs]; omega, hd.wf, hd.ne⟩, owedLeft_of_sout hs⟩

theorem Draining.process {e e' : Eng} (hd : Draining e) {fuel len : Nat} (h : e.process fuel len = some e') :
    Draining e' ∧ e'.owedLeft = e.owedLeft ∧ e'.target len = e.target len := by
  have hs := process_same h
  have ok := hd.ok.process h
  refine ⟨⟨hs.fl.trans hd.fl, hs.sout ▸ hd.sout, ok.wf, ok.ne⟩, ?_, ?_⟩
  · unfold Eng.owedLeft; rw [hs.sout]
  · unfold Eng.target; rw [hs.sout, hs.fl]

theorem outputNoCb_draining (num : Num) (a : Api) (len : Nat) (hfl : a.flushing = true) (hd : Draining a.eng) :
    ∃ fuel a', a.outputNoCb num fuel len = some (a', min a.eng.owedLeft len) ∧ a'.flushing = true ∧
      Draining a'.eng ∧ a'.eng.owedLeft = a.eng.owedLeft - min a.eng.owedLeft len ∧
      a'.error = a.error ∧ a'.hasFn = a.hasFn ∧ a'.maxIlen = a.maxIlen := by
  obtain ⟨fuel, e', hp, hocc, _⟩ := process_flush_total a.eng len hd.fl hd.ok
  obtain ⟨hd', ho, ht⟩ := hd.process hp
  obtain ⟨h1, h2, h3⟩ := hd'.output len (ht ▸ hocc)
  refine ⟨fuel, { a with eng := (e'.output len).1 }, ?_, hfl, h2, ho ▸ h3, rfl, rfl, rfl⟩
  rw [outputNoCb_eq, Api.engIn_eq num fun _ => hd.fl, hp, Option.map_some, h1, Int.toNat_natCast, ho]

/-- a sequence of `soxr_output_no_callback` calls with the given request sizes delivering the given counts -/
inductive Calls (num : Num) : Api → List Nat → List Nat → Api → Prop
  | nil (a : Api) : Calls num a [] [] a
  | cons (a a1 a2 : Api) (len od : Nat) (reqs ods : List Nat) (fuel : Nat) :
      a.outputNoCb num fuel len = some (a1, od) → Calls num a1 reqs ods a2 → Calls num a (len :: reqs) (od :: ods) a2

/-- what a drain of `owed` frames delivers for a list of request sizes -/
def drainSpec : Nat → List Nat → List Nat
  | _, [] => []
  | owed, n :: r => min owed n :: drainSpec (owed - min owed n) r

/-- the first request takes `min o n`; what is left, `o − n`, meets the other requests -/
theorem min_add_min_sub (o n s : Nat) : min o n + min (o - n) s = min o (n + s) := by
  rcases Nat.le_total n o with h | h
  · rw [Nat.min_eq_right h, ← Nat.add_min_add_left, Nat.add_sub_cancel' h]
  · rw [Nat.min_eq_left h, Nat.sub_eq_zero_of_le h, Nat.zero_min, Nat.add_zero,
      Nat.min_eq_left (Nat.le_trans h (Nat.le_add_right _ _))]

theorem drainSpec_sum (owed : Nat) (reqs : List Nat) : (drainSpec owed reqs).sum = min owed reqs.sum := by
  induction reqs generalizing owed with
  | nil => simp [drainSpec]
  | cons n r ih =>
    simp only [drainSpec, List.sum_cons, ih, ← Nat.sub_eq_sub_min]
    exact min_add_min_sub owed n r.sum

theorem drainSpec_zero (reqs : List Nat) : ∀ x ∈ drainSpec 0 reqs, x = 0 := by
  induction reqs with
  | nil => exact fun _ h => nomatch h
  | cons n r ih =>
    intro x hx
    simp only [drainSpec, Nat.zero_min, Nat.sub_zero, List.mem_cons] at hx
    exact hx.elim id (ih x)

/-- every request sequence on a draining resampler delivers exactly `drainSpec` -/
theorem calls_draining (num : Num) (reqs : List Nat) : ∀ (a : Api), a.flushing = true → Draining a.eng →
    ∃ a', Calls num a reqs (drainSpec a.eng.owedLeft reqs) a' ∧ a'.flushing = true ∧ Draining a'.eng ∧
      a'.eng.owedLeft = a.eng.owedLeft - min a.eng.owedLeft reqs.sum := by
  induction reqs with
  | nil => exact fun a hfl hd => ⟨a, Calls.nil a, hfl, hd, by simp⟩
  | cons n r ih =>
    intro a hfl hd
    obtain ⟨fuel, a1, h1, hfl1, hd1, ho1, _⟩ := outputNoCb_draining num a n hfl hd
    obtain ⟨a2, h2, hfl2, hd2, ho2⟩ := ih a1 hfl1 hd1
    rw [ho1] at h2 ho2
    exact ⟨a2, Calls.cons a a1 a2 n _ r _ fuel h1 h2, hfl2, hd2, by
      rw [ho2, List.sum_cons, ← Nat.sub_eq_sub_min, ← Nat.sub_eq_sub_min, ← Nat.sub_eq_sub_min, Nat.sub_sub]⟩

theorem calls_det (num : Num) : ∀ (reqs : List Nat) (a : Api) (o1 o2 : List Nat) (b1 b2 : Api),
    Calls num a reqs o1 b1 → Calls num a reqs o2 b2 → o1 = o2 ∧ b1 = b2 := by
  intro reqs
  induction reqs with
  | nil => intro a o1 o2 b1 b2 h1 h2; cases h1; cases h2; exact ⟨rfl, rfl⟩
  | cons n r ih =>
    intro a o1 o2 b1 b2 h1 h2
    cases h1 with
    | cons _ a1 _ _ od1 _ ods1 f1 hc1 hr1 =>
      cases h2 with
      | cons _ a2 _ _ od2 _ ods2 f2 hc2 hr2 =>
        cases outputNoCb_det num a n f1 f2 _ _ hc1 hc2
        obtain ⟨rfl, e2⟩ := ih a1 ods1 ods2 b1 b2 hr1 hr2
        exact ⟨rfl, e2⟩

end Soxr.Cr
