import SoxrModel.Cr.Linear
import SoxrModel.Cr.EarlyNat
/-!
# Shift covariance of the engine model at the implementation period

Every stage kind works in *units* whose read position, window length, phase tags and output count repeat: `P` units
later the stage reads `M` frames later and does exactly the same thing (`UPeriodic`).  For the half-band kind
`(P, M) = (1, 2)`; for a clocked sampler any `(P, M)` with `P·step = M·den`; for the block-clocked dft kind any `P`
after which the control integers `(at.integer, remM)` have returned to their initial values (`StagePeriod`, decidable —
the compiled driver evaluates it on every plan the real planner exports).

`G_shift`: if two input histories of a stage agree from some point on, one of them `j·M` frames later than the other,
then the two output streams agree from some point on, one of them `j·L` frames later — whatever the kernels are (no
linearity is needed: a kernel is a function of configuration, phase tags and window).  `chain` composes this along a
plan with aligned multiples and `chain_sound` is the statement for canonical streams of the whole pipeline: prefixing
the input with ANY `d_in` frames moves the output by exactly `d_out` frames beyond the horizon `hor`.
-/
namespace Soxr.Cr

variable {α : Type}

theorem comparable_drop {a b : List α} (h : Comparable a b) (k : Nat) : Comparable (a.drop k) (b.drop k) := by
  rcases h with ⟨t, rfl⟩ | ⟨t, rfl⟩
  · by_cases hk : k ≤ a.length
    · rw [List.drop_append_of_le_length hk]; exact Or.inl (List.prefix_append _ _)
    · rw [List.drop_of_length_le (by omega : a.length ≤ k)]; exact Or.inl (List.nil_prefix)
  · by_cases hk : k ≤ b.length
    · rw [List.drop_append_of_le_length hk]; exact Or.inr (List.prefix_append _ _)
    · rw [List.drop_of_length_le (by omega : b.length ≤ k)]; exact Or.inr (List.nil_prefix)

/-- `P` units later the stage reads `M` frames later and computes the same function -/
structure UPeriodic (U : UnitSem α) (P M : Nat) : Prop where
  pos : ∀ u, U.pos (u + P) = U.pos u + M
  len : ∀ u, U.len (u + P) = U.len u
  out : ∀ u w, U.out (u + P) w = U.out u w

theorem UPeriodic.mul {U : UnitSem α} {P M : Nat} (h : UPeriodic U P M) (j : Nat) : UPeriodic U (j * P) (j * M) := by
  induction j with
  | zero => exact ⟨fun u => by simp, fun u => by simp, fun u w => by simp⟩
  | succ j ih =>
    have e : ∀ u, u + (j + 1) * P = (u + j * P) + P := fun u => by rw [Nat.succ_mul]; omega
    refine ⟨fun u => ?_, fun u => ?_, fun u w => ?_⟩
    · rw [e, h.pos, ih.pos, Nat.succ_mul]; omega
    · rw [e, h.len, ih.len]
    · rw [e, h.out, ih.out]

/-- the units from `u0` on, reading the history without its first `a` frames -/
def UnitSem.shift (U : UnitSem α) (u0 a : Nat) : UnitSem α :=
  ⟨fun i => U.pos (u0 + i) - a, fun i => U.len (u0 + i), fun i => U.out (u0 + i)⟩

theorem UPeriodic.shift_eq {U : UnitSem α} {P M : Nat} (hp : UPeriodic U P M) (u0 a : Nat) :
    U.shift (u0 + P) (a + M) = U.shift u0 a := by
  have e : ∀ i, u0 + P + i = (u0 + i) + P := fun i => by omega
  have ho : ∀ u, U.out (u + P) = U.out u := fun u => funext (hp.out u)
  simp only [UnitSem.shift, e, hp.pos, hp.len, ho, Nat.add_sub_add_right]

/-- what a stream holds beyond the outputs of unit `u0` is the stream of the shifted units over the history beyond `a`,
    provided those units read beyond `a` -/
theorem UnitSem.drop_G (U : UnitSem α) (cnt : Nat → Nat) (hcnt : ∀ m h, (U.G m h).length = cnt m) {u0 a m : Nat}
    {h : List α} (hu0 : ∀ u, u0 ≤ u → a ≤ U.pos u) (s : U.Stable m h) :
    ∃ r, (U.G m h).drop (cnt u0) = (U.shift u0 a).G r (h.drop a) ∧ (U.shift u0 a).Stable r (h.drop a) := by
  rcases Nat.le_total m u0 with hm | hm
  · exact ⟨0, List.drop_of_length_le (by rw [← hcnt u0 h]; exact (U.G_prefix h m u0 hm).length_le), fun _ hu => by omega⟩
  · obtain ⟨r, rfl⟩ := Nat.exists_eq_add_of_le hm
    refine ⟨r, ?_, fun i hi => ?_⟩
    · rw [U.G_add, ← hcnt u0 h, List.drop_left]
      clear s hm
      induction r with
      | zero => rfl
      | succ r ih =>
        have hw : (U.shift u0 a).window r (h.drop a) = U.window (u0 + r) h := by
          simp only [UnitSem.window, UnitSem.shift, List.drop_drop, Nat.add_sub_cancel' (hu0 _ (Nat.le_add_right u0 r))]
        rw [UnitSem.G, ← ih, hw]
        simp only [UnitSem.seg, List.range_succ, List.flatMap_append, List.flatMap_cons, List.flatMap_nil, List.append_nil]
        rfl
    · have := s (u0 + i) (by omega)
      have := hu0 (u0 + i) (Nat.le_add_right _ _)
      simp only [UnitSem.shift, List.length_drop]; omega

/-- **One stage.**  Histories that agree from `a` on, the second `M` later; output streams agree from the outputs of
    unit `u0` on, the second `cnt (u0+P) − cnt u0` later: both are streams of the same shifted units. -/
theorem UnitSem.G_shift (U : UnitSem α) {P M : Nat} (hp : UPeriodic U P M) (cnt : Nat → Nat)
    (hcnt : ∀ m h, (U.G m h).length = cnt m)
    (h h' : List α) (a : Nat) (hc : Comparable (h.drop a) (h'.drop (a + M)))
    (u0 : Nat) (hu0 : ∀ u, u0 ≤ u → a ≤ U.pos u)
    (m m' : Nat) (s : U.Stable m h) (s' : U.Stable m' h') :
    Comparable ((U.G m h).drop (cnt u0)) ((U.G m' h').drop (cnt (u0 + P))) := by
  have hu0' : ∀ u, u0 + P ≤ u → a + M ≤ U.pos u := fun u hu => by
    obtain ⟨d, rfl⟩ := Nat.exists_eq_add_of_le hu
    rw [show u0 + P + d = (u0 + d) + P by omega, hp.pos]
    exact Nat.add_le_add_right (hu0 _ (Nat.le_add_right _ _)) M
  obtain ⟨r, e, st⟩ := U.drop_G cnt hcnt hu0 s
  obtain ⟨r', e', st'⟩ := U.drop_G cnt hcnt hu0' s'
  rw [hp.shift_eq] at e' st'
  rw [e, e']
  exact UnitSem.G_comparable _ hc st st'

/-- the period of a stage, decidable: `P` units later, `M` input frames later, `L` output frames later -/
def StagePeriod (c : StageCfg) (s0 : StageSt) (P M L : Nat) : Prop :=
  match c.kind with
  | .half => P = 1 ∧ M = 2 ∧ L = 1
  | .clocked => 0 < c.den ∧ P * c.step = M * c.den ∧ L = P
  | .dft => dctl c s0 P = (M, s0.clk, s0.remM) ∧ L = dftOuts c s0 P

instance (c : StageCfg) (s0 : StageSt) (P M L : Nat) : Decidable (StagePeriod c s0 P M L) := by
  unfold StagePeriod; cases c.kind <;> exact inferInstance

/-- the control integers of a dft stage after `u + P` blocks, when they have returned after `P` -/
theorem dctl_periodic {c : StageCfg} {s0 : StageSt} {P M : Nat} (h : dctl c s0 P = (M, s0.clk, s0.remM)) :
    ∀ u, dctl c s0 (u + P) = ((dctl c s0 u).1 + M, (dctl c s0 u).2.1, (dctl c s0 u).2.2) := by
  intro u
  induction u with
  | zero => simp [h, dctl]
  | succ u ih =>
    have e : u + 1 + P = (u + P) + 1 := by omega
    rw [e]
    simp only [dctl, ih]
    refine Prod.ext ?_ (Prod.ext rfl rfl)
    simp only; omega

theorem dftOuts_periodic {c : StageCfg} {s0 : StageSt} {P M : Nat} (h : dctl c s0 P = (M, s0.clk, s0.remM)) :
    ∀ u, dftOuts c s0 (u + P) = dftOuts c s0 u + dftOuts c s0 P := by
  intro u
  induction u with
  | zero => simp [dftOuts]
  | succ u ih =>
    have e : u + 1 + P = (u + P) + 1 := by omega
    rw [e]
    simp only [dftOuts, ih, dctl_periodic h u]
    omega

theorem stagePeriod_units (K : Kern α) {c : StageCfg} {s0 : StageSt} {P M L : Nat} (h : StagePeriod c s0 P M L) :
    UPeriodic (unitSem K c s0) P M := by
  unfold StagePeriod at h
  cases hk : c.kind
  · simp only [hk] at h
    obtain ⟨rfl, rfl, _⟩ := h
    refine ⟨fun u => ?_, fun u => ?_, fun u w => ?_⟩ <;> simp only [unitSem, hk]
    omega
  · simp only [hk] at h
    obtain ⟨hden, hpm, _⟩ := h
    have e : ∀ u, s0.clk + (u + P) * c.step = s0.clk + u * c.step + c.den * M := by
      intro u; rw [Nat.add_mul, hpm, Nat.mul_comm M]; omega
    refine ⟨fun u => ?_, fun u => ?_, fun u w => ?_⟩ <;> simp only [unitSem, hk]
    · rw [e, Nat.add_mul_div_left _ _ hden]
    · rw [e, Nat.add_mul_mod_self_left]
  · simp only [hk] at h
    have hd := dctl_periodic h.1
    refine ⟨fun u => ?_, fun u => ?_, fun u w => ?_⟩ <;> simp only [unitSem, hk, hd]

theorem stagePeriod_outs {c : StageCfg} {s0 : StageSt} {P M L : Nat} (h : StagePeriod c s0 P M L) :
    ∀ u, outCount c s0 (u + P) = outCount c s0 u + L := by
  unfold StagePeriod at h
  intro u
  unfold outCount
  cases hk : c.kind <;> simp only [hk] at h ⊢
  · omega
  · omega
  · rw [dftOuts_periodic h.1 u, h.2]

theorem stagePeriod_outs_mul {c : StageCfg} {s0 : StageSt} {P M L : Nat} (h : StagePeriod c s0 P M L) (j : Nat) :
    ∀ u, outCount c s0 (u + j * P) = outCount c s0 u + j * L := by
  induction j with
  | zero => intro u; simp
  | succ j ih =>
    intro u
    have e : u + (j + 1) * P = (u + j * P) + P := by rw [Nat.succ_mul]; omega
    rw [e, stagePeriod_outs h, ih, Nat.succ_mul]; omega

theorem mono_of_le_succ {f : Nat → Nat} (h : ∀ u, f u ≤ f (u + 1)) {u v : Nat} (huv : u ≤ v) : f u ≤ f v := by
  obtain ⟨d, rfl⟩ := Nat.exists_eq_add_of_le huv
  induction d with
  | zero => exact Nat.le_refl _
  | succ d ih => exact Nat.le_trans (ih (Nat.le_add_right _ _)) (h _)

theorem upos_mono (c : StageCfg) (s0 : StageSt) {u v : Nat} (h : u ≤ v) : upos c s0 u ≤ upos c s0 v := by
  refine mono_of_le_succ (f := upos c s0) (fun u => ?_) h
  unfold upos
  cases c.kind <;> simp only
  · omega
  · exact Nat.div_le_div_right (by rw [Nat.add_mul]; omega)
  · exact Nat.le_add_right _ _

/-- a stage with a claimed period and the unit from which its windows lie beyond the previous stage's horizon -/
structure PStage where
  cfg : StageCfg
  s0 : StageSt
  P : Nat
  M : Nat
  L : Nat
  u0 : Nat

def PStage.toPlan (x : PStage) : StageCfg × StageSt := (x.cfg, x.s0)

/-- walk the plan (output side first, like `Plan`): `some (d_out, hor)` when every claimed period is one, the shift
    arriving at each stage is a multiple of its `M`, and each `u0` lies beyond the horizon below -/
def chain : List PStage → Nat → Option (Nat × Nat)
  | [], d => some (d, 0)
  | x :: ps, d =>
    match chain ps d with
    | none => none
    | some (dm, b) =>
      if StagePeriod x.cfg x.s0 x.P x.M x.L ∧ dm % x.M = 0 ∧ x.s0.occ + b ≤ upos x.cfg x.s0 x.u0 then
        some (dm / x.M * x.L, outCount x.cfg x.s0 x.u0)
      else none

theorem drop_preload (z : α) (n k : Nat) (t : List α) : (List.replicate n z ++ t).drop (n + k) = t.drop k := by
  rw [← List.drop_drop, List.drop_left' List.length_replicate]

/-- **The pipeline.**  Canonical streams `s`, `s'` of the plan for inputs that agree with a shift of `d` frames (`i'`
    is `i` behind any `d` frames, both possibly extended by padding): beyond `hor` output frames, `s'` is `s`
    delayed by exactly `d_out` frames. -/
theorem chain_sound (K : Kern α) (z : α) : ∀ (pl : List PStage) (d dout hor : Nat), chain pl d = some (dout, hor) →
    ∀ (i i' s s' : List α), Comparable i (i'.drop d) →
      CInv K z (pl.map PStage.toPlan) i s → CInv K z (pl.map PStage.toPlan) i' s' →
      Comparable (s.drop hor) (s'.drop (hor + dout)) := by
  intro pl d dout hor hch i i' s s' hc h1 h2
  fun_induction chain pl d generalizing dout hor s s'
  case case1 => cases hch; cases h1; cases h2; simpa using hc
  case case2 | case4 => cases hch
  case case3 x ps d dm b hps hcond ih =>
    obtain ⟨hper, hdiv, hu0⟩ := hcond
    cases hch
    cases h1 with | cons _ _ m hb hst =>
    cases h2 with | cons _ _ m' hb' hst' =>
    -- the shift `dm` arriving at this stage is `dm / M` of its periods
    have hdm : dm / x.M * x.M = dm := Nat.div_mul_cancel (Nat.dvd_of_mod_eq_zero hdiv)
    have := UnitSem.G_shift (unitSem K x.cfg x.s0) ((stagePeriod_units K hper).mul (dm / x.M))
      (outCount x.cfg x.s0) (fun m h => G_length K x.cfg x.s0 h m) _ _ (x.s0.occ + b)
      (by rw [drop_preload, Nat.add_assoc, drop_preload, hdm]; exact ih _ _ hps _ _ hc hb hb') x.u0
      (fun u hu => by rw [unitSem_pos]; exact Nat.le_trans hu0 (upos_mono x.cfg x.s0 hu)) m m' hst hst'
    rwa [stagePeriod_outs_mul hper] at this

/-! ## finding periods and horizons (executable; used by the driver, re-checked by `chain`) -/

/-- least `P ≥ 1` (at most `fuel`) after which the dft control integers are back -/
def dftPeriod (c : StageCfg) (s0 : StageSt) : Nat → Nat → Nat × Nat × Nat → Option (Nat × Nat)
  | 0, _, _ => none
  | fuel+1, P, p =>
    let q := dstep c p
    if q.2.1 = s0.clk ∧ q.2.2 = s0.remM then some (P + 1, q.1) else dftPeriod c s0 fuel (P + 1) q

/-- a candidate `(P, M, L)` for a stage (the smallest one) -/
def findPeriod (bound : Nat) (c : StageCfg) (s0 : StageSt) : Option (Nat × Nat × Nat) :=
  match c.kind with
  | .half => some (1, 2, 1)
  | .clocked =>
    if c.den = 0 ∨ c.step = 0 then none
    else let g := Nat.gcd c.step c.den; some (c.den / g, c.step / g, c.den / g)
  | .dft =>
    match dftPeriod c s0 bound 0 (0, s0.clk, s0.remM) with
    | none => none
    | some (P, M) => some (P, M, dftOuts c s0 P)

/-- least unit (within `fuel`) whose window starts at or beyond `a` -/
def findUnit (c : StageCfg) (s0 : StageSt) (a : Nat) : Nat → Nat → Option Nat
  | 0, _ => none
  | fuel+1, u => if a ≤ upos c s0 u then some u else findUnit c s0 a fuel (u + 1)

/-- the input shift of a plan: the smallest one that arrives at every stage as a multiple of its `M`
    (stages input side first, each with `(M, L)`); returns `(d_in, d_out)` -/
def implShift : List (Nat × Nat) → Nat × Nat
  | [] => (1, 1)
  | (M, L) :: rest =>
    -- scale what comes first so that this stage sees a multiple of `M`, then look at the rest with `L` per `M`
    let r := implShift rest
    -- `rest` needs a multiple of `r.1` frames at its input; this stage turns `j·M` into `j·L`
    let j := r.1 / Nat.gcd L r.1
    (j * M, j * L / r.1 * r.2)

/-- attach periods and horizon units to a plan (output side first) for the shift `d` -/
def mkChain (bound : Nat) : List (StageCfg × StageSt) → Nat → Option (List PStage × Nat × Nat)
  | [], d => some ([], d, 0)
  | (c, s0) :: ps, d =>
    match mkChain bound ps d with
    | none => none
    | some (below, dm, b) =>
      match findPeriod bound c s0 with
      | none => none
      | some (P, M, L) =>
        match findUnit c s0 (s0.occ + b) bound 0 with
        | none => none
        | some u0 => some ({ cfg := c, s0 := s0, P := P, M := M, L := L, u0 := u0 } :: below, dm / M * L, outCount c s0 u0)

theorem mkChain_plan {bound : Nat} {pl : List (StageCfg × StageSt)} {d dm b : Nat} {ps : List PStage}
    (h : mkChain bound pl d = some (ps, dm, b)) : ps.map PStage.toPlan = pl := by
  fun_induction mkChain bound pl d generalizing ps dm b
  case case1 => cases h; rfl
  case case5 ih => cases h; exact congrArg (_ :: ·) (ih ‹_›)
  all_goals cases h

/-- the whole evaluation the driver performs for a plan: periods, input shift, horizons, then the CHECK by `chain` —
    only what `chain` accepts is reported -/
def planShift (bound : Nat) (pl : List (StageCfg × StageSt)) : Option (Nat × Nat × Nat) :=
  match (pl.reverse.mapM fun p => (findPeriod bound p.1 p.2).map fun t => (t.2.1, t.2.2)) with
  | none => none
  | some mls =>
    let d := (implShift mls).1
    match mkChain bound pl d with
    | none => none
    | some (ps, _, _) =>
      match chain ps d with
      | none => none
      | some (dout, hor) => some (d, dout, hor)

/-- **What a reported shift means**: for every kernel and all inputs related by the shift, beyond `hor` the canonical
    stream of the plan is delayed by exactly `d_out`. -/
theorem planShift_sound (K : Kern α) (z : α) (bound : Nat) (pl : List (StageCfg × StageSt)) (d dout hor : Nat)
    (h : planShift bound pl = some (d, dout, hor)) (i i' s s' : List α) (hc : Comparable i (i'.drop d))
    (h1 : CInv K z pl i s) (h2 : CInv K z pl i' s') : Comparable (s.drop hor) (s'.drop (hor + dout)) := by
  unfold planShift at h
  split at h
  · cases h
  simp only at h
  split at h
  · cases h
  rename_i hmk
  split at h
  · cases h
  rename_i hch
  cases h
  rw [← mkChain_plan hmk] at h1 h2
  exact chain_sound K z _ _ _ _ hch i i' s s' hc h1 h2

end Soxr.Cr
