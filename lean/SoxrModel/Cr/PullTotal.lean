import SoxrModel.Cr.Pull
/-!
# The pull loop of `soxr_output` terminates, for every behaviour of the input function

For every well-formed engine, every request and every finite script of answers there is an amount of fuel from which
on `soxr_output` returns (the fuelled recursions of the model never run out): each iteration of the `do … while`
consumes one answer or leaves the loop, and each `soxr_output_no_callback` inside it terminates (`process_total`).
-/
namespace Soxr.Cr

/-- one `soxr_output_no_callback`: from some fuel on it returns, always the same result, and keeps the engine well-formed -/
theorem outputNoCb_total (num : Num) (a : Api) (len : Nat) (h : a.eng.OK) :
    ∃ F a1 od, (∀ fuel, F ≤ fuel → a.outputNoCb num fuel len = some (a1, od)) ∧ a1.eng.OK := by
  have hin : (a.engIn num).OK := by
    unfold Api.engIn; split
    · exact h.flush _
    · exact h
  obtain ⟨f, e', hp⟩ := process_total _ len hin
  have ok := hin.process hp
  refine ⟨f, { a with eng := (e'.output len).1 }, (e'.output len).2.toNat, fun fuel hf => ?_, ok.output len⟩
  obtain ⟨d, rfl⟩ := Nat.exists_eq_add_of_le hf
  rw [outputNoCb_eq, process_mono hp d]; rfl

theorem input_ok (a : Api) (n : Nat) (h : a.eng.OK) : (a.input n).eng.OK := by
  unfold Api.input
  split
  · exact h
  · split
    · exact h
    · exact h.input n

/-- **The `do … while` of `soxr_output` ends**, whatever the input function answers. -/
theorem pullLoop_total (num : Num) (len0 ilen : Nat) : ∀ (script : List Supply) (k : Nat) (a : Api) (olen odone0 : Nat)
    (reqs : List Nat), script.length + 1 ≤ k → a.eng.OK →
    ∃ F, ∀ fuel, F ≤ fuel → (pullLoop num fuel len0 ilen k a olen odone0 script reqs).isSome = true := by
  intro script
  induction script with
  | nil =>
    intro k a olen odone0 reqs hk h
    obtain ⟨k, rfl⟩ : ∃ k', k = k' + 1 := ⟨k - 1, by omega⟩
    obtain ⟨F, a1, od, hcb, _⟩ := outputNoCb_total num a olen h
    refine ⟨F, fun fuel hf => ?_⟩
    rw [pullLoop_succ (hcb fuel hf)]
    split <;> rfl
  | cons r rest ih =>
    intro k a olen odone0 reqs hk h
    obtain ⟨k, rfl⟩ : ∃ k', k = k' + 1 := ⟨k - 1, by omega⟩
    obtain ⟨F, a1, od, hcb, h1⟩ := outputNoCb_total num a olen h
    -- the fuel the rest of the loop needs, should it go on
    obtain ⟨F2, hF2⟩ := ih k (a1.input r.len) (olen - od) (odone0 + od) (ilen :: reqs)
      (by simp only [List.length_cons] at hk; omega) (input_ok a1 _ h1)
    refine ⟨max F F2, fun fuel hf => ?_⟩
    rw [pullLoop_succ (hcb fuel (by omega))]
    split
    · rfl
    · split
      · rfl
      · rfl
      · rename_i heq
        cases heq
        split
        · exact hF2 fuel (by omega)
        · rfl

/-- **`soxr_output` returns** for every well-formed engine, every request and every script of answers. -/
theorem output_total (num : Num) (a : Api) (len0 : Nat) (script : List Supply) (h : a.eng.OK) :
    ∃ F, ∀ fuel, F ≤ fuel → (a.output num fuel len0 script).isSome = true := by
  obtain ⟨F, hF⟩ := pullLoop_total num len0 (min a.maxIlen (num.iForO len0)) script (script.length + 2) a len0 0 []
    (by omega) h
  refine ⟨F, fun fuel hf => ?_⟩
  cases herr : a.error
  · rw [output_eq herr, Option.isSome_map]; exact hF fuel hf
  · rw [output_of_error herr]; rfl

end Soxr.Cr
