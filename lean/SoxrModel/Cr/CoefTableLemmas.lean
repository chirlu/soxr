import SoxrModel.Cr.CoefTable
/-!
# `prepare_poly_fir_coefs`: indices are injective and in bounds, the loop computes the closed form (`prep_spec`)

Both index macros are mixed-radix numerals, so injectivity and the bound are uniqueness and bound of the digits
(`radix_unique`, `radix_lt`), applied level by level.  Core Lean only (`omega`, `simp`).
-/
namespace Soxr.Cr.CoefTable

theorem radix_unique {a q r q' r' : Nat} (hr : r < a) (hr' : r' < a) (h : a * q + r = a * q' + r') : q = q' ∧ r = r' := by
  have ha : 0 < a := Nat.zero_lt_of_lt hr
  have hq : q = q' := by
    have := congrArg (· / a) h
    simpa only [Nat.mul_add_div ha, Nat.div_eq_of_lt hr, Nat.div_eq_of_lt hr', Nat.add_zero] using this
  subst hq
  exact ⟨rfl, Nat.add_left_cancel h⟩

theorem radix_lt {a n q r : Nat} (hq : q < n) (hr : r < a) : a * q + r < a * n :=
  calc a * q + r < a * q + a := Nat.add_lt_add_left hr _
    _ = a * (q + 1) := (Nat.mul_succ a q).symm
    _ ≤ a * n := Nat.mul_le_mul_left a hq

/-! `coef` has the digits (phase, tap, `ord − ci`) to the bases (·, `len`, `ord + 1`), `coef4` the digits
(phase, `tap / 4`, `ord − ci`, `tap % 4`) to the bases (·, `len / 4`, `ord + 1`, 4). -/

theorem coefIdx_radix (ord len j ci k : Nat) : coefIdx ord len j ci k = (ord + 1) * len * j + ((ord + 1) * k + (ord - ci)) := by
  rw [coefIdx, Nat.add_assoc, Nat.mul_comm len]

theorem coef4Idx_radix (ord m j ci k : Nat) :
    coef4Idx ord (4 * m) j ci k = 4 * ((ord + 1) * m) * j + (4 * ((ord + 1) * (k / 4) + (ord - ci)) + k % 4) := by
  have eA : 4 * m * (ord + 1) * j = 4 * ((ord + 1) * m) * j := by ac_rfl
  have eB : (ord + 1) * (k / 4 * 4) = 4 * ((ord + 1) * (k / 4)) := by ac_rfl
  rw [coef4Idx, eA, eB]
  omega

theorem coefIdx_inj {ord len j ci k j' ci' k' : Nat} (hci : ci ≤ ord) (hci' : ci' ≤ ord) (hk : k < len) (hk' : k' < len)
    (h : coefIdx ord len j ci k = coefIdx ord len j' ci' k') : j = j' ∧ ci = ci' ∧ k = k' := by
  rw [coefIdx_radix, coefIdx_radix] at h
  obtain ⟨hj, h1⟩ := radix_unique (radix_lt hk (by omega)) (radix_lt hk' (by omega)) h
  obtain ⟨hk, h2⟩ := radix_unique (by omega) (by omega) h1
  exact ⟨hj, by omega, hk⟩

theorem coef4Idx_inj {ord m j ci k j' ci' k' : Nat} (hci : ci ≤ ord) (hci' : ci' ≤ ord) (hk : k < 4 * m)
    (hk' : k' < 4 * m) (h : coef4Idx ord (4 * m) j ci k = coef4Idx ord (4 * m) j' ci' k') : j = j' ∧ ci = ci' ∧ k = k' := by
  rw [coef4Idx_radix, coef4Idx_radix] at h
  have lt : ∀ {k ci}, k < 4 * m → (ord + 1) * (k / 4) + (ord - ci) < (ord + 1) * m :=
    fun hk => radix_lt (by omega) (by omega)
  obtain ⟨hj, h1⟩ := radix_unique (radix_lt (lt hk) (Nat.mod_lt _ (by decide))) (radix_lt (lt hk') (Nat.mod_lt _ (by decide))) h
  obtain ⟨h2, h3⟩ := radix_unique (Nat.mod_lt _ (by decide)) (Nat.mod_lt _ (by decide)) h1
  obtain ⟨h4, h5⟩ := radix_unique (by omega) (by omega) h2
  exact ⟨hj, by omega, by omega⟩

theorem coefIdx_lt {ord len P j ci k : Nat} (hj : j < P) (hk : k < len) : coefIdx ord len j ci k < len * P * (ord + 1) := by
  rw [coefIdx_radix, show len * P * (ord + 1) = (ord + 1) * len * P by ac_rfl]
  exact radix_lt hj (radix_lt hk (by omega))

theorem coef4Idx_lt {ord m P j ci k : Nat} (hci : ci ≤ ord) (hj : j < P) (hk : k < 4 * m) :
    coef4Idx ord (4 * m) j ci k < 4 * m * P * (ord + 1) := by
  rw [coef4Idx_radix, show 4 * m * P * (ord + 1) = 4 * ((ord + 1) * m) * P by ac_rfl]
  exact radix_lt hj (radix_lt (radix_lt (by omega) (by omega)) (Nat.mod_lt _ (by decide)))

variable {α : Type}

theorem len_ge (p : Par α) : p.nc ≤ p.len := by unfold Par.len nc4; split <;> omega

/-- the SIMD layout rounds `num_coefs4` up to a multiple of four -/
theorem len_simd (p : Par α) (hs : p.simd = true) : p.len = 4 * ((p.nc + 3) / 4) := by
  rw [Par.len, hs, nc4, if_pos rfl, Nat.mul_comm]

/-- the index macro of the call is injective on (phase, coefficient number ≤ order, tap < num_coefs4) -/
theorem Par.idx_inj (p : Par α) {j ci k j' ci' k' : Nat} (hci : ci ≤ p.ord) (hci' : ci' ≤ p.ord) (hk : k < p.len) (hk' : k' < p.len)
    (h : p.idx j ci k = p.idx j' ci' k') : j = j' ∧ ci = ci' ∧ k = k' := by
  unfold Par.idx at h
  cases hs : p.simd
  · rw [hs, if_neg Bool.false_ne_true, if_neg Bool.false_ne_true] at h
    exact coefIdx_inj hci hci' hk hk' h
  · rw [hs, if_pos rfl, if_pos rfl, len_simd p hs] at h
    rw [len_simd p hs] at hk hk'
    exact coef4Idx_inj hci hci' hk hk' h

/-- every (phase < num_phases, coefficient number ≤ order, tap < num_coefs4) lies inside the allocation -/
theorem Par.idx_lt (p : Par α) {j ci k : Nat} (hj : j < p.P) (hci : ci ≤ p.ord) (hk : k < p.len) : p.idx j ci k < p.length := by
  unfold Par.idx Par.length
  cases hs : p.simd
  · rw [if_neg Bool.false_ne_true]
    exact coefIdx_lt hj hk
  · rw [if_pos rfl, len_simd p hs]
    rw [len_simd p hs] at hk
    exact coef4Idx_lt hci hj hk

theorem upd_same (t : Tbl α) (i : Nat) (v : α) : upd t i v i = v := by simp [upd]
theorem upd_other (t : Tbl α) {i x : Nat} (v : α) (h : x ≠ i) : upd t i v x = t x := by simp [upd, h]

/-- a write that is skipped, or goes elsewhere, is not seen at `x` -/
theorem ite_upd_other (c : Prop) [Decidable c] (t : Tbl α) (i : Nat) (v : α) {x : Nat} (h : c → x ≠ i) :
    (if c then upd t i v else t) x = t x := by
  split
  · exact upd_other t v (h ‹c›)
  · rfl

theorem store_other (t : Tbl α) (ord : Nat) (idx : Nat → Nat) (e : Entry α) (x : Nat) (h : ∀ ci, ci ≤ ord → x ≠ idx ci) :
    store t ord idx e x = t x := by
  simp only [store]
  rw [upd_other _ _ (h 0 (Nat.zero_le _)), ite_upd_other (0 < ord) _ _ _ (h 1), ite_upd_other (1 < ord) _ _ _ (h 2),
    ite_upd_other (2 < ord) _ _ _ (h 3)]

/-- the last write to a cell wins, and the four writes of one `STORE` go to different cells -/
theorem store_get (t : Tbl α) (ord : Nat) (idx : Nat → Nat) (e : Entry α) (ci : Nat) (hci : ci ≤ ord) (hord : ord ≤ 3)
    (hinj : ∀ a b, a ≤ ord → b ≤ ord → idx a = idx b → a = b) : store t ord idx e (idx ci) = e.get ci := by
  have ne : ∀ a b, a ≤ ord → b ≤ ord → a ≠ b → idx a ≠ idx b := fun a b ha hb hab h => hab (hinj a b ha hb h)
  simp only [store]
  rcases (by omega : ci = 0 ∨ ci = 1 ∨ ci = 2 ∨ ci = 3) with rfl | rfl | rfl | rfl
  · exact upd_same _ _ _
  · rw [upd_other _ _ (ne 1 0 hci (by omega) (by omega)), if_pos (show 0 < ord from hci)]
    exact upd_same _ _ _
  · rw [upd_other _ _ (ne 2 0 hci (by omega) (by omega)), ite_upd_other (0 < ord) _ _ _ (fun _ => ne 2 1 hci (by omega) (by omega)),
      if_pos (show 1 < ord from hci)]
    exact upd_same _ _ _
  · rw [upd_other _ _ (ne 3 0 hci (by omega) (by omega)), ite_upd_other (0 < ord) _ _ _ (fun _ => ne 3 1 hci (by omega) (by omega)),
      ite_upd_other (1 < ord) _ _ _ (fun _ => ne 3 2 hci (by omega) (by omega)), if_pos (show 2 < ord from hci)]
    exact upd_same _ _ _

theorem F_last (p : Par α) : F p ((p.nc : Int) * p.P - 2) = p.o.mul (p.coefs 0) p.mult := by
  unfold F; rw [if_pos rfl]

theorem F_neg (p : Par α) {q : Int} (h : q < 0) (hl : q ≠ (p.nc : Int) * p.P - 2) : F p q = p.o.zero := by
  unfold F; rw [if_neg hl, if_pos h]

theorem F_inside (p : Par α) {q : Int} (h0 : 0 ≤ q) (h : q < (p.nc : Int) * p.P - 2) :
    F p q = p.o.mul (p.coefs q.toNat) p.mult := by
  unfold F; rw [if_neg (Int.ne_of_lt h), if_neg (Int.not_lt.mpr h0), if_pos h]

theorem F_ge (p : Par α) {q : Int} (h : (p.nc : Int) * p.P - 1 ≤ q) : F p q = p.o.zero := by
  unfold F
  rw [if_neg (by omega)]
  by_cases h0 : q < 0
  · rw [if_pos h0]
  · rw [if_neg h0, if_neg (by omega)]

/-- what the loop body fetches for the next position down is the prototype's value there -/
theorem F_fetch (p : Par α) {q : Int} (h : q + 1 < (p.nc : Int) * p.P) :
    (if 0 < q then p.o.mul (p.coefs (q - 1).toNat) p.mult else p.o.zero) = F p (q - 1) := by
  by_cases hp : 0 < q
  · rw [if_pos hp, F_inside p (by omega) (by omega)]
  · rw [if_neg hp, F_neg p (by omega) (by omega)]

/-- before the iteration with `i·num_phases + j = t − 1` (i.e. `t` iterations are still to come) -/
structure Inv (p : Par α) (t : Nat) (s : St α) : Prop where
  fm1 : s.fm1 = F p ((t : Int) - 1 - 1)
  f1 : s.f1 = F p ((t : Int) - 1)
  f2 : s.f2 = F p t
  tbl : ∀ i j ci, i < p.nc → j < p.P → ci ≤ p.ord → t ≤ i * p.P + j → s.tbl (p.idx j ci (p.len - 1 - i)) = (E p i j).get ci
  rest : ∀ x, (∀ i j ci, i < p.nc → j < p.P → ci ≤ p.ord → t ≤ i * p.P + j → x ≠ p.idx j ci (p.len - 1 - i)) → s.tbl x = p.o.zero

/-- position `(i, j)` of the double loop as one counter -/
theorem pos_unique {P i j i' j' : Nat} (hj : j < P) (hj' : j' < P) (h : i * P + j = i' * P + j') : i = i' ∧ j = j' := by
  rw [Nat.mul_comm i, Nat.mul_comm i'] at h
  exact radix_unique hj hj' h

theorem pos_lt {P n i j : Nat} (hi : i < n) (hj : j < P) : i * P + j < n * P := by
  rw [Nat.mul_comm i, Nat.mul_comm n]
  exact radix_lt hi hj

theorem body_inv (p : Par α) (hord : p.ord ≤ 3) (i j : Nat) (hi : i < p.nc) (hj : j < p.P) (s : St α)
    (h : Inv p (i * p.P + j + 1) s) : Inv p (i * p.P + j) (body p i j s) := by
  have hlen := len_ge p
  obtain ⟨hfm1, hf1, hf2, htbl, hrest⟩ := h
  have hb : (((i * p.P + j : Nat) : Int)) < (p.nc : Int) * p.P := by exact_mod_cast pos_lt hi hj
  -- everything in terms of the counter `u = i·P + j`
  have hu : (i : Int) * p.P + j = ((i * p.P + j : Nat) : Int) := by push_cast; rfl
  rw [Int.natCast_succ, Int.add_sub_cancel] at hfm1 hf1
  rw [Int.natCast_succ] at hf2
  have hnew : (body p i j s).fm1 = F p (((i * p.P + j : Nat) : Int) - 1 - 1) := by
    show (if 0 < (i : Int) * p.P + j - 1 then _ else _) = _
    rw [hu]; exact F_fetch p (by omega)
  have hbody : (body p i j s).tbl = store s.tbl p.ord (fun ci => p.idx j ci (p.len - 1 - i)) (E p i j) := by
    show store s.tbl p.ord (fun ci => p.idx j ci (p.len - 1 - i)) (comp p.o p.ord (body p i j s).fm1 s.fm1 s.f1 s.f2) = _
    rw [hnew, hfm1, hf1, hf2, E, hu, Int.sub_add_cancel]
    congr 3; omega
  refine ⟨hnew, hfm1, hf1, ?_, ?_⟩
  · intro i' j' ci hi' hj' hci hge
    rw [hbody]
    by_cases heq : i' * p.P + j' = i * p.P + j
    · obtain ⟨rfl, rfl⟩ := pos_unique hj' hj heq
      exact store_get s.tbl p.ord _ _ ci hci hord fun a b ha hb hab => (p.idx_inj ha hb (by omega) (by omega) hab).2.1
    · rw [store_other]
      · exact htbl i' j' ci hi' hj' hci (by omega)
      · intro a ha hx
        obtain ⟨rfl, -, h3⟩ := p.idx_inj hci ha (by omega) (by omega) hx
        exact heq (by rw [show i' = i by omega])
  · intro x hx
    rw [hbody, store_other]
    · exact hrest x fun i' j' ci hi' hj' hci hge => hx i' j' ci hi' hj' hci (by omega)
    · exact fun a ha => hx i j a hi hj ha (Nat.le_refl _)

theorem inner_inv (p : Par α) (hord : p.ord ≤ 3) (i : Nat) (hi : i < p.nc) : ∀ (jn : Nat) (s : St α), jn ≤ p.P →
    Inv p (i * p.P + jn) s → Inv p (i * p.P) (inner p i jn s)
  | 0, s, _, h => h
  | jn + 1, s, hle, h => inner_inv p hord i hi jn _ (by omega) (body_inv p hord i jn hi (by omega) s h)

theorem outer_inv (p : Par α) (hord : p.ord ≤ 3) : ∀ (n : Nat) (s : St α), n ≤ p.nc → Inv p (n * p.P) s → Inv p 0 (outer p n s)
  | 0, s, _, h => by rw [Nat.zero_mul] at h; exact h
  | n + 1, s, hle, h => by
    rw [Nat.succ_mul] at h
    exact outer_inv p hord n _ (by omega) (inner_inv p hord n (by omega) p.P s (Nat.le_refl _) h)

theorem init_inv (p : Par α) : Inv p (p.nc * p.P) (init p) := by
  have hc : ((p.nc * p.P : Nat) : Int) = (p.nc : Int) * p.P := Int.natCast_mul _ _
  refine ⟨?_, ?_, ?_, fun i j _ hi hj _ hge => absurd (pos_lt hi hj) (by omega), fun x _ => rfl⟩
  · show p.o.mul (p.coefs 0) p.mult = _
    rw [hc, Int.sub_sub]; exact (F_last p).symm
  · show p.o.zero = _
    rw [hc, F_ge p (by omega)]
  · show p.o.zero = _
    rw [hc, F_ge p (by omega)]

/-- **the loop computes the closed form**: after `prepare_poly_fir_coefs` the table holds at `(phase j, coefficient number ci,
    tap num_coefs4 − 1 − i)` the `ci`-th polynomial coefficient formed from the four scaled prototype taps around position
    `i·num_phases + j − 1`, and zero (what `calloc` left) at every other index -/
theorem prep_spec (p : Par α) (hord : p.ord ≤ 3) :
    (∀ i j ci, i < p.nc → j < p.P → ci ≤ p.ord → prep p (p.idx j ci (p.len - 1 - i)) = (E p i j).get ci) ∧
    (∀ x, (∀ i j ci, i < p.nc → j < p.P → ci ≤ p.ord → x ≠ p.idx j ci (p.len - 1 - i)) → prep p x = p.o.zero) := by
  have h := outer_inv p hord p.nc (init p) (Nat.le_refl _) (init_inv p)
  exact ⟨fun i j ci hi hj hci => h.tbl i j ci hi hj hci (Nat.zero_le _),
         fun x hx => h.rest x (fun i j ci hi hj hci _ => hx i j ci hi hj hci)⟩

end Soxr.Cr.CoefTable
