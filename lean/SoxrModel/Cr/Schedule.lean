import SoxrModel.Cr.DataPipe
/-!
# Schedule invariance at engine level

A freshly initialised engine (every stage FIFO holds its zero preload) satisfies the engine invariant, so the samples
delivered by ANY two runs over the same input stream are canonical streams of comparable inputs, hence prefix-comparable
(`runs_comparable`).  With `samples_in / samples_out` followed along a run (`stream_counters`, `drain_counters`), a complete
run — all of `xs` accepted, end-of-input, drained — is one run over `xs` that has delivered exactly what is owed
(`complete_run`).
-/
namespace Soxr.Cr

variable {α : Type}

def freshStage (z : α) (p : StageCfg × StageSt) : DStage α :=
  { cfg := p.1, st := p.2, fifo := List.replicate p.2.occ z }

/-- the engine as `_soxr_init` leaves it: every stage FIFO holds `preload` zeros (`occ` of the initial integers) -/
def DEng.fresh (z : α) (plan : Plan) : DEng α := { stages := plan.map (freshStage z) }

/-- every stage of the plan is well-formed (`StageWF`, the decidable predicate the driver evaluates) -/
def PlanWF (plan : Plan) : Prop := ∀ p ∈ plan, StageWF p.1 p.2
instance (plan : Plan) : Decidable (PlanWF plan) := by unfold PlanWF; exact inferInstance

theorem fresh_dinv (K : Kern α) (z : α) (c : StageCfg) (s0 : StageSt) (h : StageWF c s0) :
    DInv K c s0 (freshStage z (c, s0)) (List.replicate s0.occ z ++ []) 0 := by
  refine ⟨rfl, by simp [freshStage], ⟨0, by simp [freshStage], Nat.zero_le _, ?_⟩, ?_, h⟩
  · unfold ctlRel
    cases hk : c.kind <;> simp [freshStage, dctl]
  · intro u hu; omega

theorem fresh_pinv (K : Kern α) (z : α) : ∀ (plan : Plan), PlanWF plan → PInv K z plan (plan.map (freshStage z)) [] [] := by
  intro plan
  induction plan with
  | nil => intro _; exact PInv.nil []
  | cons p ps ih =>
    intro h
    obtain ⟨c, s0⟩ := p
    have h1 : StageWF c s0 := h (c, s0) (by simp)
    have h2 : PlanWF ps := fun q hq => h q (by simp [hq])
    exact PInv.cons c s0 _ 0 (ih h2) (fresh_dinv K z c s0 h1)

theorem fresh_einv (K : Kern α) (z : α) (plan : Plan) (h : PlanWF plan) : EInv K z plan (DEng.fresh z plan) [] [] :=
  ⟨[], [], IsPad.nil z _, by simpa [DEng.fresh] using fresh_pinv K z plan h, rfl⟩

/-- the run is over the stream `xs`: what was accepted is a prefix of `xs`, all of it once end-of-input was signalled -/
structure OverStream (xs fed : List α) (fl : Bool) : Prop where
  pre : fed <+: xs
  full : fl = true → fed = xs

theorem replicate_comparable (z : α) (k j : Nat) : Comparable (List.replicate k z) (List.replicate j z) := by
  rcases Nat.le_total k j with h | h
  · exact Or.inl ⟨List.replicate (j - k) z, by rw [List.replicate_append_replicate]; congr 1; omega⟩
  · exact Or.inr ⟨List.replicate (k - j) z, by rw [List.replicate_append_replicate]; congr 1; omega⟩

theorem over_comparable (z : α) {xs f1 f2 p1 p2 : List α} {fl1 fl2 : Bool} (o1 : OverStream xs f1 fl1)
    (o2 : OverStream xs f2 fl2) (h1 : IsPad z fl1 p1) (h2 : IsPad z fl2 p2) : Comparable (f1 ++ p1) (f2 ++ p2) := by
  cases fl1 <;> cases fl2
  · rw [h1.2 rfl, h2.2 rfl, List.append_nil, List.append_nil]
    exact List.prefix_or_prefix_of_prefix o1.pre o2.pre
  · rw [h1.2 rfl, List.append_nil, o2.full rfl]
    exact Or.inl (List.IsPrefix.trans o1.pre (List.prefix_append _ _))
  · rw [h2.2 rfl, List.append_nil, o1.full rfl]
    exact Or.inr (List.IsPrefix.trans o2.pre (List.prefix_append _ _))
  · rw [o1.full rfl, o2.full rfl]
    obtain ⟨⟨k, rfl⟩, _⟩ := h1
    obtain ⟨⟨j, rfl⟩, _⟩ := h2
    exact comparable_append_left _ (replicate_comparable z k j)

theorem comparable_of_prefixes {a b sa sb : List α} (ha : a <+: sa) (hb : b <+: sb) (h : Comparable sa sb) : Comparable a b := by
  rcases h with h | h
  · exact List.prefix_or_prefix_of_prefix (List.IsPrefix.trans ha h) hb
  · exact List.prefix_or_prefix_of_prefix ha (List.IsPrefix.trans hb h)

/-- what a run of the fresh engine has reached (`druns_inv` from `fresh_einv`) -/
theorem fresh_runs_einv {K : Kern α} {z : α} {owed : Nat → Nat} {plan : Plan} (hwf : PlanWF plan) {ops : List (DOp α)}
    {F D : List α} {e : DEng α} (r : DRuns K z owed (DEng.fresh z plan) ops F D e) : EInv K z plan e F D := by
  simpa using druns_inv K z owed plan ops _ _ _ _ _ _ (fresh_einv K z plan hwf) r

/-- while streaming, what a run has delivered plus what waits in its output FIFO is a canonical stream of what it accepted -/
theorem fresh_runs_streaming {K : Kern α} {z : α} {owed : Nat → Nat} {plan : Plan} (hwf : PlanWF plan) {ops : List (DOp α)}
    {F D : List α} {e : DEng α} (r : DRuns K z owed (DEng.fresh z plan) ops F D e) (hf : e.fl = false) :
    PInv K z plan e.stages F (D ++ e.out) := by
  obtain ⟨pad, src, hpad, hp, rfl⟩ := fresh_runs_einv hwf r
  rwa [hpad.2 hf, List.append_nil] at hp

/-- **Any two runs over the same stream deliver prefix-comparable samples**, whatever the block sizes, request sizes,
    number of calls and the point reached by either. -/
theorem runs_comparable (K : Kern α) (z : α) (owed : Nat → Nat) (plan : Plan) (hwf : PlanWF plan) (xs : List α)
    (ops1 ops2 : List (DOp α)) (F1 F2 D1 D2 : List α) (e1 e2 : DEng α)
    (r1 : DRuns K z owed (DEng.fresh z plan) ops1 F1 D1 e1) (r2 : DRuns K z owed (DEng.fresh z plan) ops2 F2 D2 e2)
    (o1 : OverStream xs F1 e1.fl) (o2 : OverStream xs F2 e2.fl) : Comparable D1 D2 := by
  obtain ⟨pad1, src1, hp1, hq1, hs1⟩ := fresh_runs_einv hwf r1
  obtain ⟨pad2, src2, hp2, hq2, hs2⟩ := fresh_runs_einv hwf r2
  have hc := PInv_comparable K z plan _ _ _ _ _ _ hq1 hq2 (over_comparable z o1 o2 hp1 hp2)
  exact comparable_of_prefixes ⟨_, hs1⟩ ⟨_, hs2⟩ hc

def NoFlush : List (DOp α) → Prop
  | [] => True
  | .flush :: _ => False
  | _ :: r => NoFlush r

theorem dprocLoop_counters (K : Kern α) (z : α) (fuel : Nat) : ∀ (k : Nat) (e : DEng α) (n : Int) (done : Bool) (e' : DEng α),
    dprocLoop K z fuel k e n done = some e' → e'.fl = e.fl ∧ e'.sin = e.sin ∧ e'.sout = e.sout := by
  intro k e n done e' h
  fun_induction dprocLoop K z fuel k e n done <;> simp_all

theorem DEng.input_counters (e : DEng α) (xs : List α) :
    (e.input xs).fl = e.fl ∧ (e.input xs).sout = e.sout ∧ (e.input xs).sin = e.sin + (if e.fl then [] else xs).length := by
  unfold DEng.input
  split
  · simp [*]
  · cases e.stages <;> simp [*]

/-- `_soxr_output` counts what it delivers: an `int` in C, the length of a list here; the two agree when the target is
    not negative -/
theorem DEng.output_sout (e : DEng α) (n0 : Nat) (h : 0 ≤ e.target n0) :
    (e.output n0).1.sout = e.sout + ((e.output n0).2.length : Int) := by
  simp only [DEng.output, List.length_take]; omega

/-- one `take`: `_soxr_process` leaves the counters alone, and the target of `_soxr_output` is not negative as long as
    `samples_out ≤ 0` once flushing -/
theorem take_counters {K : Kern α} {z : α} {e e1 : DEng α} {fuel n0 : Nat} (hp : e.process K z fuel n0 = some e1)
    (hs : e.fl = true → e.sout ≤ 0) :
    (e1.output n0).1.fl = e.fl ∧ (e1.output n0).1.sin = e.sin ∧
      (e1.output n0).1.sout = e.sout + ((e1.output n0).2.length : Int) ∧ (e.fl = true → (e1.output n0).1.sout ≤ 0) := by
  obtain ⟨c1, c2, c3⟩ := dprocLoop_counters K z fuel fuel e _ false e1 hp
  have ht : 0 ≤ e1.target n0 ∧ (e.fl = true → e1.target n0 ≤ -e.sout) := by
    unfold DEng.target
    rw [c1, c3]
    cases hfl : e.fl
    · exact ⟨Int.natCast_nonneg _, nofun⟩
    · have := hs hfl
      simp only [if_true]; omega
  refine ⟨c1, c2, by rw [e1.output_sout n0 ht.1, c3], fun hfl => ?_⟩
  have := ht.2 hfl
  simp only [DEng.output, c3]; omega

/-- while streaming `samples_in` counts what was accepted and `samples_out` what was delivered -/
theorem stream_counters (K : Kern α) (z : α) (owed : Nat → Nat) : ∀ (ops : List (DOp α)) (e e' : DEng α) (F D : List α),
    e.fl = false → NoFlush ops → DRuns K z owed e ops F D e' →
    e'.fl = false ∧ e'.sin = e.sin + F.length ∧ e'.sout = e.sout + D.length := by
  intro ops e e' F D hfl hnf hr
  induction hr with
  | nil => exact ⟨hfl, by simp, by simp⟩
  | feed e xs _ _ _ _ _ ih =>
    obtain ⟨i1, i2, i3⟩ := e.input_counters xs
    obtain ⟨g1, g2, g3⟩ := ih (i1.trans hfl) hnf
    exact ⟨g1, by rw [g2, i3, List.length_append, Nat.add_assoc], by rw [g3, i2]⟩
  | flush => exact absurd hnf (by simp [NoFlush])
  | take e n0 fuel e1 _ _ _ _ hp _ ih =>
    obtain ⟨t1, t2, t3, _⟩ := take_counters hp (by simp [hfl])
    obtain ⟨g1, g2, g3⟩ := ih (t1.trans hfl) hnf
    exact ⟨g1, by rw [g2, t2], by rw [g3, t3, List.length_append]; omega⟩

/-- after end-of-input: nothing more is accepted, `samples_out` counts up towards 0 and never passes it -/
theorem drain_counters {K : Kern α} {z : α} {owed : Nat → Nat} {ops : List (DOp α)} {e e' : DEng α} {F D : List α}
    (hfl : e.fl = true) (hs : e.sout ≤ 0) (hr : DRuns K z owed e ops F D e') :
    e'.fl = true ∧ F = [] ∧ e'.sout ≤ 0 ∧ e'.sout = e.sout + D.length := by
  induction hr with
  | nil => exact ⟨hfl, rfl, hs, by simp⟩
  | feed e xs _ _ _ _ _ ih =>
    obtain ⟨i1, i2, _⟩ := e.input_counters xs
    obtain ⟨g1, g2, g3, g4⟩ := ih (i1.trans hfl) (i2 ▸ hs)
    exact ⟨g1, by simp [hfl, g2], g3, by rw [g4, i2]⟩
  | flush e _ _ _ _ _ ih =>
    have hin : e.flush owed = e := by simp [DEng.flush, hfl]
    rw [hin] at ih
    exact ih hfl hs
  | take e n0 fuel e1 _ _ _ _ hp _ ih =>
    obtain ⟨t1, _, t3, t4⟩ := take_counters hp (fun _ => hs)
    obtain ⟨g1, g2, g3, g4⟩ := ih (t1.trans hfl) (t4 hfl)
    exact ⟨g1, g2, g3, by rw [g4, t3, List.length_append]; omega⟩

theorem druns_append (K : Kern α) (z : α) (owed : Nat → Nat) : ∀ (ops1 : List (DOp α)) (e e1 e2 : DEng α) (ops2 : List (DOp α))
    (F1 D1 F2 D2 : List α), DRuns K z owed e ops1 F1 D1 e1 → DRuns K z owed e1 ops2 F2 D2 e2 →
    DRuns K z owed e (ops1 ++ ops2) (F1 ++ F2) (D1 ++ D2) e2 := by
  intro ops1 e e1 e2 ops2 F1 D1 F2 D2 h1 h2
  induction h1 with
  | nil => exact h2
  | feed e xs _ _ _ _ _ ih => rw [List.append_assoc]; exact DRuns.feed e xs _ _ _ _ (ih h2)
  | flush e _ _ _ _ _ ih => exact DRuns.flush e _ _ _ _ (ih h2)
  | take e n0 fuel e1' _ _ _ _ hp _ ih => rw [List.append_assoc]; exact DRuns.take e n0 fuel e1' _ _ _ _ hp (ih h2)

/-- **A complete run is one run over `xs`.**  Stream all of `xs` through an arbitrary history `s` (any block sizes, any
    request sizes, zero included), never early, then signal end-of-input and make arbitrary further calls `t` until
    nothing is owed: a run of the fresh engine that has accepted `xs`, ended its input and delivered `owed |xs|` samples. -/
theorem complete_run {K : Kern α} {z : α} {owed : Nat → Nat} {plan : Plan} {xs : List α} {s t : List (DOp α)}
    {D F' D' : List α} {e e' : DEng α} (hn : NoFlush s) (hr : DRuns K z owed (DEng.fresh z plan) s xs D e)
    (hne : D.length ≤ owed xs.length) (hd : DRuns K z owed (e.flush owed) t F' D' e') (hc : e'.sout = 0) :
    DRuns K z owed (DEng.fresh z plan) (s ++ .flush :: t) xs (D ++ D') e' ∧ e'.fl = true ∧
      (D ++ D').length = owed xs.length := by
  obtain ⟨a1, a2, a3⟩ := stream_counters K z owed s _ _ _ _ rfl hn hr
  have hsin : e.sin = xs.length := a2.trans (Nat.zero_add _)
  have hsout : e.sout = D.length := a3.trans (Int.zero_add _)
  have hfe : e.flush owed = { e with sout := e.sout - owed e.sin, sin := 0, fl := true } := by
    simp [DEng.flush, a1]
  have hso : (e.flush owed).sout = (D.length : Int) - owed xs.length := by rw [hfe, ← hsout, ← hsin]
  obtain ⟨b1, rfl, _, b4⟩ := drain_counters (by rw [hfe]) (by rw [hso]; omega) hd
  refine ⟨List.append_nil xs ▸ druns_append K z owed s _ e _ _ _ _ _ _ hr (DRuns.flush e t _ D' e' hd), b1, ?_⟩
  rw [hc, hso] at b4
  rw [List.length_append]; omega

end Soxr.Cr
