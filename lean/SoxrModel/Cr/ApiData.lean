import SoxrModel.Cr.Schedule
/-!
# The API layer on samples: `soxr_process`, `soxr_output` (pull loop), `soxr_oneshot` are engine-operation sequences

`DApi` is `Api` of `Cr/Model.lean` with sample lists instead of counts (same control flow, line by line).  Every call —
`soxr_input`, `soxr_output_no_callback`, the `do … while` of `soxr_output` against an arbitrary script of answers,
`soxr_process` with or without `idone`, with or without an end-of-input request — is shown to be a `DRuns`: a sequence of
engine operations `feed / flush / take` whose feeds are exactly the samples the call accepted, in order.  Hence
everything proved for arbitrary `DOp` sequences (`prefix_consistency`, `schedule_invariance`, `delivered_is_canonical`)
holds for arbitrary sequences of API calls in either style.
-/
namespace Soxr.Cr

variable {α : Type}

structure DApi (α : Type) where
  eng : DEng α
  flushing : Bool := false
  error : Bool := false
  maxIlen : Nat := 0
  hasFn : Bool := false

/-- what a registered input function answers -/
inductive DSupply (α : Type) | data (xs : List α) | eof | fail

def DApi.outputNoCb (K : Kern α) (z : α) (owed : Nat → Nat) (fuel : Nat) (a : DApi α) (len : Nat) : Option (DApi α × List α) :=
  let e := if a.flushing then a.eng.flush owed else a.eng
  match e.process K z fuel len with
  | none => none
  | some e' => some ({ a with eng := (e'.output len).1 }, (e'.output len).2)

/-- `soxr_input`: an empty block means end-of-input -/
def DApi.input (a : DApi α) (xs : List α) : DApi α :=
  if a.error then a else
  if xs.length = 0 then { a with flushing := true } else { a with eng := a.eng.input xs }

def dpullLoop (K : Kern α) (z : α) (owed : Nat → Nat) (fuel : Nat) (len0 : Nat) :
    Nat → DApi α → Nat → List α → List (DSupply α) → Option (DApi α × List α × List (DSupply α))
  | 0, _, _, _, _ => none
  | k+1, a, olen, out0, script =>
    match a.outputNoCb K z owed fuel olen with
    | none => none
    | some (a1, out) =>
      let out0' := out0 ++ out
      if out0'.length = len0 || !a1.hasFn || a1.flushing then some (a1, out0', script)
      else
        match script with
        | [] => some (a1, out0', [])
        | r :: rest =>
          let was := a1.flushing
          match r with
          | .fail => some ({ a1 with error := true }, out0', rest)
          | _ =>
            let xs := match r with
              | .data xs => xs
              | _ => []
            let a2 := a1.input xs
            if out.length != 0 || xs.length != 0 || (!was && a2.flushing) then
              dpullLoop K z owed fuel len0 k a2 (olen - out.length) out0' rest
            else some (a2, out0', rest)

def DApi.output (K : Kern α) (z : α) (owed : Nat → Nat) (fuel : Nat) (a : DApi α) (len0 : Nat) (script : List (DSupply α)) :
    Option (DApi α × List α × List (DSupply α)) :=
  if a.error then some (a, [], script) else
  dpullLoop K z owed fuel len0 (script.length + 2) a len0 [] script

/-- `soxr_process` (generic path): `inp = none` is `in == NULL`; `xs` is the block after the `idone` clamp. -/
def DApi.process (K : Kern α) (z : α) (owed : Nat → Nat) (fuel : Nat) (a : DApi α) (inp : Option (List α)) (flushReq : Bool)
    (clamp : Option Nat) (olen : Nat) (script : List (DSupply α)) : Option (DApi α × Nat × List α × List (DSupply α)) :=
  let fr := inp.isNone || flushReq
  let xs0 := inp.getD []
  let xs := match clamp with
    | some n => xs0.take n          -- `ilen = min(soxr_i_for_o(olen), ilen0)` when `idone` is wanted
    | none => xs0
  let a := { a with flushing := a.flushing || (xs.length == xs0.length && fr) }
  let a1 := if xs.length != 0 then a.input xs else a
  let idone := if xs.length != 0 && !a.error then xs.length else 0
  match a1.output K z owed fuel olen script with
  | none => none
  | some (a2, out, rest) => some (a2, idone, out, rest)

/-- `soxr_process` with neither an input nor an output buffer: only latches end-of-input (see `Api.signalEnd`) -/
def DApi.signalEnd (owed : Nat → Nat) (a : DApi α) : DApi α :=
  { a with flushing := true, eng := if a.error then a.eng else a.eng.flush owed }

/-- samples a list of answers carries -/
def supplied : List (DSupply α) → List α
  | [] => []
  | .data xs :: r => xs ++ supplied r
  | _ :: r => supplied r

theorem supplied_append (a b : List (DSupply α)) : supplied (a ++ b) = supplied a ++ supplied b := by
  induction a with
  | nil => rfl
  | cons x r ih => cases x <;> simp [supplied, ih]

theorem supplied_cons (r : DSupply α) (t : List (DSupply α)) :
    supplied (r :: t) = (match r with | .data xs => xs | _ => []) ++ supplied t := by
  cases r <;> rfl

/-- the API object and its engine agree on end-of-input: the engine is flushing only if the API object is -/
def Sync (a : DApi α) : Prop := a.eng.fl = true → a.flushing = true

/-- some sequence of engine operations leads from `e` to `e'`, accepting `F` and delivering `D` -/
def Reach (K : Kern α) (z : α) (owed : Nat → Nat) (e : DEng α) (F D : List α) (e' : DEng α) : Prop :=
  ∃ ops, DRuns K z owed e ops F D e'

section reach
variable {K : Kern α} {z : α} {owed : Nat → Nat}

theorem Reach.refl (e : DEng α) : Reach K z owed e [] [] e := ⟨[], DRuns.nil e⟩

theorem Reach.trans {e e1 e2 : DEng α} {F1 D1 F2 D2 : List α} (h1 : Reach K z owed e F1 D1 e1)
    (h2 : Reach K z owed e1 F2 D2 e2) : Reach K z owed e (F1 ++ F2) (D1 ++ D2) e2 :=
  h1.elim fun ops1 r1 => h2.elim fun ops2 r2 => ⟨ops1 ++ ops2, druns_append K z owed _ _ _ _ _ _ _ _ _ r1 r2⟩

theorem Reach.feed (e : DEng α) (xs : List α) (h : e.fl = false) : Reach K z owed e xs [] (e.input xs) := by
  have := DRuns.feed (K := K) (z := z) (owed := owed) e xs [] [] [] _ (DRuns.nil _)
  rw [h, List.append_nil] at this
  exact ⟨_, this⟩

theorem Reach.flush (e : DEng α) : Reach K z owed e [] [] (e.flush owed) := ⟨_, DRuns.flush e _ _ _ _ (DRuns.nil _)⟩

theorem Reach.take {e e1 : DEng α} {fuel n0 : Nat} (hp : e.process K z fuel n0 = some e1) :
    Reach K z owed e [] (e1.output n0).2 (e1.output n0).1 := by
  have := DRuns.take (K := K) (z := z) (owed := owed) e n0 fuel e1 [] [] [] _ hp (DRuns.nil _)
  rw [List.append_nil] at this
  exact ⟨_, this⟩

theorem outputNoCb_reach {fuel len : Nat} {a a1 : DApi α} {out : List α}
    (h : a.outputNoCb K z owed fuel len = some (a1, out)) :
    Reach K z owed a.eng [] out a1.eng ∧ a1.error = a.error ∧ (Sync a → Sync a1) := by
  unfold DApi.outputNoCb at h
  generalize he : (if a.flushing = true then a.eng.flush owed else a.eng) = e at h
  have hre : Reach K z owed a.eng [] [] e ∧ (a.flushing = false → e = a.eng) := by
    rw [← he]; split
    · exact ⟨Reach.flush _, fun h => by simp_all⟩
    · exact ⟨Reach.refl _, fun _ => rfl⟩
  cases hp : e.process K z fuel len with
  | none => simp [hp] at h
  | some e' =>
    simp only [hp, Option.some.injEq, Prod.mk.injEq] at h
    obtain ⟨rfl, rfl⟩ := h
    refine ⟨hre.1.trans (Reach.take hp), rfl, fun hs hfl => ?_⟩
    -- the engine's flag is that of `e`, which is the engine of `a` unless `a` is flushing
    have c1 : e'.fl = e.fl := (dprocLoop_counters K z fuel fuel e _ false e' hp).1
    cases hf : a.flushing
    · rw [hre.2 hf] at c1
      exact (hs (c1 ▸ hfl)).symm.trans hf |>.symm
    · rfl

theorem input_reach (a : DApi α) (xs : List α) (herr : a.error = false) (hefl : a.eng.fl = false) :
    Reach K z owed a.eng xs [] (a.input xs).eng ∧ Sync (a.input xs) ∧ (a.input xs).error = false := by
  unfold DApi.input
  rw [herr]
  simp only [Bool.false_eq_true, if_false]
  split
  · rw [List.eq_nil_of_length_eq_zero ‹xs.length = 0›]
    exact ⟨Reach.refl _, fun _ => rfl, rfl⟩
  · refine ⟨Reach.feed _ xs hefl, fun hh => ?_, rfl⟩
    rw [show (a.eng.input xs).fl = false from (a.eng.input_counters xs).1.trans hefl] at hh; cases hh

theorem eng_fl_false_of_sync (a : DApi α) (hs : Sync a) (hnf : a.flushing = false) : a.eng.fl = false := by
  cases h : a.eng.fl
  · rfl
  · have := hs h; rw [hnf] at this; cases this

theorem or_right_false {p q : Bool} (h : ¬(p || q) = true) : q = false := by
  cases q
  · rfl
  · exact absurd (Bool.or_true p) h

/-- **One `soxr_output` call (the pull loop) is a run of engine operations** whose feeds are exactly the samples of
    the answers it consumed — all but those it was given after a failure or after end-of-input, which it never asks for. -/
theorem dpullLoop_reach {fuel len0 k olen : Nat} {a a' : DApi α} {out0 out' : List α} {script rest : List (DSupply α)}
    (h : dpullLoop K z owed fuel len0 k a olen out0 script = some (a', out', rest)) (herr : a.error = false)
    (hsync : Sync a) :
    ∃ used out, script = used ++ rest ∧ out' = out0 ++ out ∧ Reach K z owed a.eng (supplied used) out a'.eng ∧ Sync a' := by
  fun_induction dpullLoop K z owed fuel len0 k a olen out0 script generalizing a' out' rest
  case case1 | case2 => simp_all
  all_goals obtain ⟨r1, e1, s1⟩ := outputNoCb_reach ‹DApi.outputNoCb _ _ _ _ _ _ = _›
  case case3 | case4 => cases h; exact ⟨[], _, rfl, rfl, r1, s1 hsync⟩
  case case5 => cases h; exact ⟨[.fail], _, rfl, rfl, r1, s1 hsync⟩
  case case6 a1 out _ _ hcont r rest0 _ xs a2 hgo _ ih =>
    obtain ⟨r2, s2, e2⟩ := input_reach a1 xs (e1.trans herr) (eng_fl_false_of_sync a1 (s1 hsync) (or_right_false hcont))
    obtain ⟨used, o2, u1, u2, u3, u4⟩ := ih ((if_pos hgo).symm.trans h) e2 s2
    exact ⟨r :: used, out ++ o2, by rw [u1]; rfl, by rw [u2, List.append_assoc],
      by rw [supplied_cons]; exact r1.trans (r2.trans u3), u4⟩
  case case7 a1 out _ _ hcont r rest0 _ xs a2 hstop _ =>
    obtain ⟨r2, s2, _⟩ := input_reach a1 xs (e1.trans herr) (eng_fl_false_of_sync a1 (s1 hsync) (or_right_false hcont))
    cases (if_neg hstop).symm.trans h
    exact ⟨[r], out, rfl, rfl, by simpa [supplied_cons, supplied] using r1.trans r2, s2⟩

/-- **`soxr_output` is a run of engine operations** -/
theorem output_reach {fuel len0 : Nat} {a a' : DApi α} {script rest : List (DSupply α)} {out : List α}
    (h : a.output K z owed fuel len0 script = some (a', out, rest)) (hsync : Sync a) :
    ∃ used, script = used ++ rest ∧ Reach K z owed a.eng (supplied used) out a'.eng ∧ Sync a' := by
  unfold DApi.output at h
  split at h
  · cases h; exact ⟨[], rfl, Reach.refl _, hsync⟩
  · obtain ⟨used, o, u1, rfl, u3, u4⟩ := dpullLoop_reach h (by simpa using ‹¬ a.error = true›) hsync
    exact ⟨used, u1, u3, u4⟩

/-- the block `soxr_process` offers before it turns to output: accepted whole, or not at all in the error state -/
theorem offer_reach (b : DApi α) (xs : List α) (hs : Sync b) (hcon : b.eng.fl = true → xs.length = 0) :
    Reach K z owed b.eng (if (xs.length != 0 && !b.error) = true then xs else []) []
      (if (xs.length != 0) = true then b.input xs else b).eng ∧ Sync (if (xs.length != 0) = true then b.input xs else b) := by
  by_cases hx0 : xs.length = 0
  · simp only [hx0, bne_self_eq_false, Bool.false_and, Bool.false_eq_true, if_false]
    exact ⟨Reach.refl _, hs⟩
  · have hne : (xs.length != 0) = true := by simpa using hx0
    cases herr : b.error
    · obtain ⟨r, f, _⟩ := input_reach (K := K) (z := z) (owed := owed) b xs herr (by cases hh : b.eng.fl <;> simp_all)
      simp only [hne, Bool.not_false, Bool.and_true, if_true]
      exact ⟨r, f⟩
    · have : b.input xs = b := by simp [DApi.input, herr]
      simp only [hne, this, Bool.not_true, Bool.and_false, Bool.false_eq_true, if_false, if_true]
      exact ⟨Reach.refl _, hs⟩

/-- **`soxr_process` is a run of engine operations**: it accepts `idone` frames of the block it is offered — the clamped
    block, or nothing in the error state — then behaves as `soxr_output`.  Caller contract (soxr.h): no input once the
    engine has been told end-of-input. -/
theorem process_reach {fuel olen idone : Nat} {a a2 : DApi α} {inp : Option (List α)} {flushReq : Bool} {clamp : Option Nat}
    {script rest : List (DSupply α)} {out : List α}
    (h : a.process K z owed fuel inp flushReq clamp olen script = some (a2, idone, out, rest))
    (hsync : Sync a) (hcon : a.eng.fl = true → (inp.getD []).length = 0) :
    ∃ used, script = used ++ rest ∧ Reach K z owed a.eng ((inp.getD []).take idone ++ supplied used) out a2.eng ∧ Sync a2 := by
  unfold DApi.process at h
  simp only at h
  generalize inp.getD [] = xs0 at h hcon ⊢
  generalize hxs : (match clamp with | some n => List.take n xs0 | none => xs0) = xs at h
  have hpre : xs <+: xs0 := by
    rw [← hxs]; cases clamp
    · exact List.prefix_refl _
    · exact List.take_prefix _ _
  generalize hfl' : (a.flushing || (xs.length == xs0.length && (inp.isNone || flushReq))) = fl' at h
  obtain ⟨r, s⟩ := offer_reach (K := K) (z := z) (owed := owed) { a with flushing := fl' } xs
    (fun hh => by show fl' = true; rw [← hfl', hsync hh]; rfl)
    (fun hh => by have := hpre.length_le; have := hcon hh; omega)
  split at h
  · cases h
  · rename_i hout
    cases h
    obtain ⟨used, u1, u3, u4⟩ := output_reach hout s
    refine ⟨used, u1, ?_, u4⟩
    have e : xs0.take (if (xs.length != 0 && !a.error) = true then xs.length else 0) =
        if (xs.length != 0 && !a.error) = true then xs else [] := by
      split
      · exact (List.prefix_iff_eq_take.mp hpre).symm
      · rfl
    rw [e]; exact r.trans u3

end reach

inductive ACall (α : Type)
  | process (inp : Option (List α)) (flushReq : Bool) (clamp : Option Nat) (olen : Nat) (script : List (DSupply α))
  | output (len0 : Nat) (script : List (DSupply α))
  | signalEnd

/-- `ApiRuns a calls accepted delivered a'`: a sequence of `soxr_process` / `soxr_output` calls, in any mix.  What a call
    accepted is the `idone` frames it reports of the block it was offered, followed by the samples of the input-function
    answers it consumed.  Caller contract of soxr.h: no input is offered once the engine has been told end-of-input. -/
inductive ApiRuns (K : Kern α) (z : α) (owed : Nat → Nat) : DApi α → List (ACall α) → List α → List α → DApi α → Prop
  | nil (a : DApi α) : ApiRuns K z owed a [] [] [] a
  | process (a a2 a' : DApi α) (inp : Option (List α)) (flushReq : Bool) (clamp : Option Nat) (olen fuel idone : Nat)
      (script rest : List (DSupply α)) (out F D : List α) (calls : List (ACall α)) :
      a.process K z owed fuel inp flushReq clamp olen script = some (a2, idone, out, rest) →
      (a.eng.fl = true → (inp.getD []).length = 0) → ApiRuns K z owed a2 calls F D a' →
      ApiRuns K z owed a (.process inp flushReq clamp olen script :: calls)
        ((inp.getD []).take idone ++ supplied (script.take (script.length - rest.length)) ++ F) (out ++ D) a'
  | output (a a2 a' : DApi α) (len0 fuel : Nat) (script rest : List (DSupply α)) (out F D : List α) (calls : List (ACall α)) :
      a.output K z owed fuel len0 script = some (a2, out, rest) → ApiRuns K z owed a2 calls F D a' →
      ApiRuns K z owed a (.output len0 script :: calls) (supplied (script.take (script.length - rest.length)) ++ F) (out ++ D) a'
  | signal (a a' : DApi α) (F D : List α) (calls : List (ACall α)) :
      ApiRuns K z owed (a.signalEnd owed) calls F D a' → ApiRuns K z owed a (.signalEnd :: calls) F D a'

theorem take_of_append_right {β : Type} (used rest : List β) : (used ++ rest).take ((used ++ rest).length - rest.length) = used := by
  rw [List.length_append, Nat.add_sub_cancel, List.take_left']; rfl

/-- **Every sequence of API calls is a run of engine operations** accepting and delivering exactly the same samples. -/
theorem api_runs_engine (K : Kern α) (z : α) (owed : Nat → Nat) : ∀ (calls : List (ACall α)) (a a' : DApi α) (F D : List α),
    ApiRuns K z owed a calls F D a' → Sync a → ∃ ops, DRuns K z owed a.eng ops F D a'.eng ∧ Sync a' := by
  intro calls a a' F D h hs
  suffices Reach K z owed a.eng F D a'.eng ∧ Sync a' from this.1.elim fun ops r => ⟨ops, r, this.2⟩
  induction h with
  | nil => exact ⟨Reach.refl _, hs⟩
  | process a a2 _ inp flushReq clamp olen fuel idone script rest out _ _ _ hp hcon _ ih =>
    obtain ⟨used, u1, u2, u3⟩ := process_reach hp hs hcon
    rw [u1, take_of_append_right]
    exact ⟨u2.trans (ih u3).1, (ih u3).2⟩
  | output a a2 _ len0 fuel script rest out _ _ _ hp _ ih =>
    obtain ⟨used, u1, u2, u3⟩ := output_reach hp hs
    rw [u1, take_of_append_right]
    exact ⟨u2.trans (ih u3).1, (ih u3).2⟩
  | signal a _ _ _ _ _ ih =>
    obtain ⟨r, s⟩ := ih (fun _ => rfl)
    refine ⟨?_, s⟩
    cases he : a.error
    · have e : (a.signalEnd owed).eng = a.eng.flush owed := by simp [DApi.signalEnd, he]
      exact (Reach.flush _).trans (e ▸ r)
    · have e : (a.signalEnd owed).eng = a.eng := by simp [DApi.signalEnd, he]
      exact e ▸ r

/-! ## projection to the count-level API model (the one the correspondence check compares with the real code) -/

def DSupply.toSupply : DSupply α → Supply
  | .data xs => .data xs.length
  | .eof => .eof
  | .fail => .fail

def DApi.toApi (a : DApi α) : Api :=
  { eng := a.eng.toEng, flushing := a.flushing, error := a.error, maxIlen := a.maxIlen, hasFn := a.hasFn }

theorem signalEnd_proj (num : Num) (a : DApi α) : (a.signalEnd num.owed).toApi = a.toApi.signalEnd num := by
  unfold DApi.signalEnd Api.signalEnd DApi.toApi
  cases a.error
  · simp only [Bool.false_eq_true, if_false]; rw [DEng.flush_proj]
  · simp only [if_true]

theorem outputNoCb_proj (K : Kern α) (z : α) (num : Num) (fuel : Nat) (a : DApi α) (len : Nat) :
    (a.outputNoCb K z num.owed fuel len).map (fun r => (r.1.toApi, r.2.length)) = a.toApi.outputNoCb num fuel len := by
  unfold DApi.outputNoCb Api.outputNoCb
  have hfl : a.toApi.flushing = a.flushing := rfl
  simp only [hfl]
  have he : (if a.flushing = true then a.toApi.eng.flush num.owed else a.toApi.eng) =
      (if a.flushing = true then a.eng.flush num.owed else a.eng).toEng := by
    split
    · exact (DEng.flush_proj num.owed a.eng).symm
    · rfl
  rw [he]
  generalize (if a.flushing = true then a.eng.flush num.owed else a.eng) = e
  have hp := DEng.process_proj K z fuel e len
  cases hc : e.process K z fuel len with
  | none => rw [hc] at hp; simp only [Option.map_none] at hp; rw [← hp]; rfl
  | some e' =>
    rw [hc] at hp; simp only [Option.map_some] at hp; rw [← hp]
    simp only [Option.map_some]
    obtain ⟨o1, o2⟩ := DEng.output_proj e' len
    congr 1
    refine Prod.ext ?_ ?_
    · simp only [DApi.toApi, o1]
    · simp only
      omega

theorem input_proj (a : DApi α) (xs : List α) : (a.input xs).toApi = a.toApi.input xs.length := by
  unfold DApi.input Api.input
  have he : a.toApi.error = a.error := rfl
  rw [he]
  split
  · rfl
  · split
    · rfl
    · simp only [DApi.toApi, DEng.input_proj]

/-- the pull loop on samples projects to the pull loop on counts (request log aside) -/
theorem dpullLoop_proj (K : Kern α) (z : α) (num : Num) (fuel len0 ilen : Nat) : ∀ (k : Nat) (a : DApi α) (olen : Nat) (out0 : List α)
    (script : List (DSupply α)) (reqs : List Nat),
    (dpullLoop K z num.owed fuel len0 k a olen out0 script).map (fun r => (r.1.toApi, r.2.1.length, r.2.2.map DSupply.toSupply)) =
    (pullLoop num fuel len0 ilen k a.toApi olen out0.length (script.map DSupply.toSupply) reqs).map (fun r => (r.1, r.2.1, r.2.2.1)) := by
  intro k
  induction k with
  | zero => intro a olen out0 script reqs; simp [dpullLoop, pullLoop]
  | succ k ih =>
    intro a olen out0 script reqs
    unfold dpullLoop pullLoop
    have hp := outputNoCb_proj K z num fuel a olen
    cases hc : a.outputNoCb K z num.owed fuel olen with
    | none => rw [hc] at hp; simp only [Option.map_none] at hp; rw [← hp]; rfl
    | some v =>
      obtain ⟨a1, out⟩ := v
      rw [hc] at hp; simp only [Option.map_some] at hp; rw [← hp]
      simp only [List.length_append]
      have h1 : a1.toApi.hasFn = a1.hasFn := rfl
      have h2 : a1.toApi.flushing = a1.flushing := rfl
      rw [h1, h2]
      split
      · simp
      · cases script with
        | nil => simp
        | cons r rest =>
          -- an answer other than a failure hands its samples `xs` (none for `eof`) to `soxr_input`
          have turn (xs : List α) :
              (if (out.length != 0 || xs.length != 0 || !a1.flushing && (a1.input xs).flushing) = true then
                  dpullLoop K z num.owed fuel len0 k (a1.input xs) (olen - out.length) (out0 ++ out) rest
                else some (a1.input xs, out0 ++ out, rest)).map
                (fun r => (r.1.toApi, r.2.1.length, r.2.2.map DSupply.toSupply)) =
              (if (out.length != 0 || xs.length != 0 || !a1.flushing && (a1.toApi.input xs.length).flushing) = true then
                  pullLoop num fuel len0 ilen k (a1.toApi.input xs.length) (olen - out.length) (out0.length + out.length)
                    (rest.map DSupply.toSupply) (ilen :: reqs)
                else some (a1.toApi.input xs.length, out0.length + out.length, rest.map DSupply.toSupply, ilen :: reqs)).map
                (fun r => (r.1, r.2.1, r.2.2.1)) := by
            have h3 : (a1.input xs).toApi.flushing = (a1.input xs).flushing := rfl
            rw [← input_proj a1 xs, h3]
            split
            · have := ih (a1.input xs) (olen - out.length) (out0 ++ out) rest (ilen :: reqs)
              rw [List.length_append] at this; exact this
            · simp
          cases r with
          | fail => simp [DSupply.toSupply, DApi.toApi]
          | eof => exact turn []
          | data xs => exact turn xs

end Soxr.Cr
