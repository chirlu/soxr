import SoxrModel.Cr.DataPipe
import SoxrModel.Cr.Time
/-!
# How much input an output needs (natural-number part)

For each stage kind: if the windows of the first `m` units lie inside the history (`Stable`, part of the data-level
invariant of every reachable state), the history is at least so long.  For the block-clocked dft stage this needs the
closed forms of the block recurrences (`dctl`): with `bl = dft_length − (num_taps − 1)`,
`at₀ + L·consumed_b = b·bl + at_b` and `M·produced_b = b·bl + remM_b`.
-/
namespace Soxr.Cr

variable {α : Type}

/-- outputs of the first `m` blocks of a dft stage -/
def dftOuts (c : StageCfg) (s0 : StageSt) : Nat → Nat
  | 0 => 0
  | m+1 => dftOuts c s0 m + (dftProduced c (dctl c s0 m).2.2).1

/-- outputs of the first `m` units of a stage -/
def outCount (c : StageCfg) (s0 : StageSt) (m : Nat) : Nat :=
  match c.kind with
  | .dft => dftOuts c s0 m
  | _ => m

theorem G_length (K : Kern α) (c : StageCfg) (s0 : StageSt) (h : List α) : ∀ m, ((unitSem K c s0).G m h).length = outCount c s0 m := by
  intro m
  induction m with
  | zero => unfold outCount; cases c.kind <;> rfl
  | succ m ih =>
    simp only [UnitSem.G, List.length_append, ih]
    unfold outCount unitSem
    cases c.kind <;> simp [dftOuts]

structure DftInv (c : StageCfg) (s0 : StageSt) (b : Nat) : Prop where
  clk : (dctl c s0 b).2.1 < c.L
  ok : dftOutOK c (dctl c s0 b).2.2
  rem : (dctl c s0 b).2.2 < dftM c
  pos : s0.clk + c.L * (dctl c s0 b).1 = b * blockLen c + (dctl c s0 b).2.1
  outs : dftM c * dftOuts c s0 b = b * blockLen c + (dctl c s0 b).2.2

theorem dftM_pos (c : StageCfg) : 0 < dftM c := by
  unfold dftM; split
  · omega
  · exact Nat.two_pow_pos _

/-- the read position after one block: `at + L·quot = block_len + at'`.  A power-of-two `L` keeps `at` (then `L ∣ block_len`
    is what makes this true); otherwise `at' = L − 1 − rem`. -/
theorem dft_block_clock {L bl clk : Nat} (p : Bool) (hL : 0 < L) (hclk : clk < L) (hp : p = true → L ∣ bl) :
    (if p then clk else L - 1 - (bl + L - 1 - clk) % L) < L ∧
    clk + L * ((bl + L - 1 - clk) / L) = bl + (if p then clk else L - 1 - (bl + L - 1 - clk) % L) := by
  cases p
  · have := Nat.div_add_mod (bl + L - 1 - clk) L
    have := Nat.mod_lt (bl + L - 1 - clk) hL
    simp only [Bool.false_eq_true, if_false]
    omega
  · obtain ⟨k, rfl⟩ := hp rfl
    have e : L * k + L - 1 - clk = L * k + (L - 1 - clk) := by omega
    rw [e, Nat.mul_add_div hL, Nat.div_eq_of_lt (by omega), Nat.add_zero]
    exact ⟨hclk, Nat.add_comm _ _⟩

/-- the frequency-domain decimator by `P = 2^m`: of a block of `P·k` up-sampled frames it keeps `k` -/
theorem fdomain_keeps {P D ov k : Nat} (hP : 0 < P) (hov : ov ≤ D) (h : D - ov = P * k) : D - ((P - 1) * D + ov) / P = k := by
  have hk : k ≤ D := by have := Nat.le_mul_of_pos_left k hP; omega
  have e : (P - 1) * D + ov = P * (D - k) := by
    rw [Nat.sub_mul, Nat.mul_sub, ← h, Nat.one_mul]
    have := Nat.le_mul_of_pos_left D hP
    omega
  rw [e, Nat.mul_div_cancel_left _ hP]
  omega

/-- what one block yields: `M·produced + remM = block_len + remM'`, the new decimation phase again below `M` -/
theorem dftProduced_phase (c : StageCfg) (r : Nat) (hlen : c.numTaps ≤ c.dftLen) (hok : dftOutOK c r) (hr : r < dftM c)
    (hfd : c.M ≤ 0 → 2 ^ (-c.M).toNat ∣ blockLen c) :
    dftM c * (dftProduced c r).1 + r = blockLen c + (dftProduced c r).2 ∧ (dftProduced c r).2 < dftM c := by
  unfold dftM at hr ⊢
  unfold dftOutOK at hok
  unfold dftProduced blockLen at *
  by_cases hM : 0 < c.M
  · simp only [hM, if_true] at hr hok ⊢
    by_cases h1 : c.M = 1
    · simp only [h1, if_true, Int.toNat_one, Nat.one_mul] at hr ⊢
      exact ⟨trivial, hr⟩
    · simp only [h1, if_false, false_or] at hok ⊢
      obtain ⟨a, b, _⟩ := loopCount_spec (by omega : 0 < c.M.toNat) (by omega : r < c.dftLen - (c.numTaps - 1))
      rw [Nat.mul_comm]
      exact ⟨by omega, by omega⟩
  · simp only [hM, if_false] at hr ⊢
    obtain ⟨k, hk⟩ := hfd (by omega)
    rw [Nat.shiftRight_eq_div_pow, fdomain_keeps (Nat.two_pow_pos _) (by omega) hk, hk]
    exact ⟨by omega, hr⟩

theorem dft_inv (c : StageCfg) (s0 : StageSt) (hk : c.kind = .dft) (hwf : StageWF c s0) (hs : DftShapeOK c s0) :
    ∀ b, DftInv c s0 b := by
  simp only [StageWF, hk] at hwf
  obtain ⟨hL, hT, hlenT, hclk, hbl, _, hok⟩ := hwf
  obtain ⟨hr0, hp2, hfd⟩ := hs
  intro b
  induction b with
  | zero =>
    refine ⟨hclk, hok, ?_, ?_, ?_⟩
    · simpa only [dctl, hr0] using dftM_pos c
    · simp only [dctl, Nat.mul_zero, Nat.zero_mul, Nat.zero_add, Nat.add_zero]
    · simp only [dctl, dftOuts, hr0, Nat.mul_zero, Nat.zero_mul, Nat.add_zero]
  | succ b ih =>
    obtain ⟨hclk', hpos⟩ := dft_block_clock (isPow2 c.L || c.L == 1) hL ih.clk hp2
    obtain ⟨hprod, hrem⟩ := dftProduced_phase c _ hlenT ih.ok ih.rem hfd
    refine ⟨hclk', (dftProduced_spec c _ hT hlenT (by omega) ih.ok).2.2, hrem, ?_, ?_⟩
    · have := ih.pos
      unfold blockLen at hpos this ⊢
      simp only [dctl, Nat.mul_add, Nat.add_mul, Nat.one_mul]
      omega
    · have := ih.outs
      simp only [dctl, dftOuts, Nat.mul_add, Nat.add_mul, Nat.one_mul]
      omega

theorem half_need (K : Kern α) (c : StageCfg) (s0 : StageSt) (hk : c.kind = .half) (hist : List α) (m : Nat) (hm : 1 ≤ m)
    (h : (unitSem K c s0).Stable m hist) : 2 * m + c.prePost ≤ hist.length + 2 := by
  have := h (m - 1) (by omega)
  simp only [unitSem, hk] at this
  omega

theorem clocked_need (K : Kern α) (c : StageCfg) (s0 : StageSt) (hk : c.kind = .clocked) (hden : 0 < c.den) (hist : List α)
    (m : Nat) (hm : 1 ≤ m) (h : (unitSem K c s0).Stable m hist) :
    c.prePost + 1 ≤ hist.length ∧ s0.clk + (m - 1) * c.step < c.den * (hist.length - c.prePost) := by
  have := h (m - 1) (by omega)
  simp only [unitSem, hk] at this
  rw [Nat.mul_comm c.den, ← Nat.div_lt_iff_lt_mul hden]
  generalize (s0.clk + (m - 1) * c.step) / c.den = q at this ⊢
  omega

theorem dft_need (K : Kern α) (c : StageCfg) (s0 : StageSt) (hk : c.kind = .dft) (hwf : StageWF c s0) (hs : DftShapeOK c s0)
    (hist : List α) (m : Nat) (hm : 1 ≤ m) (h : (unitSem K c s0).Stable m hist) :
    dftM c * dftOuts c s0 m + c.numTaps ≤ c.L * hist.length + s0.clk + dftM c := by
  obtain ⟨b, rfl⟩ : ∃ b, m = b + 1 := ⟨m - 1, by omega⟩
  have ib := dft_inv c s0 hk hwf hs b
  have im := dft_inv c s0 hk hwf hs (b + 1)
  -- block `b` reads `⌈(dft_length − at_b)/L⌉` frames from position `consumed_b`
  have hst := h b (by omega)
  simp only [unitSem, hk] at hst
  simp only [StageWF, hk] at hwf
  have hceil := le_ceilDiv_mul (a := c.dftLen - (dctl c s0 b).2.1) hwf.1
  unfold ceilDiv at hceil
  generalize (c.dftLen - (dctl c s0 b).2.1 + c.L - 1) / c.L = isz at *
  have h1 : c.L * ((dctl c s0 b).1 + isz) ≤ c.L * hist.length := Nat.mul_le_mul_left _ hst
  have hpos := ib.pos
  have hclk := ib.clk
  have houts := im.outs
  have hrem := im.rem
  rw [Nat.add_mul, Nat.one_mul] at houts
  rw [Nat.mul_add, Nat.mul_comm c.L isz] at h1
  unfold blockLen at hpos houts
  omega

end Soxr.Cr
