import SoxrModel.Cr.Progress
/-!
# Engine level: the loop of `_soxr_process`

Two rules about the loop carry everything: `procLoop_inv` (what every turn keeps holds of every call that returned:
counters, well-formedness, bounded latency) and `procLoop_total` (if every turn's `stage_process` returns and a turn
that reports "not done" lowers a measure, the loop ends).  The measure is `n − occupancy` of the output FIFO while
flushing, where moreover the request is filled, and the potential of `Cr/Progress.lean` while streaming.
-/
namespace Soxr.Cr

/-- what no part of `_soxr_process` touches -/
structure SameCounters (e e' : Eng) : Prop where
  sin : e'.sin = e.sin
  sout : e'.sout = e.sout
  fl : e'.fl = e.fl
  len : e'.stages.length = e.stages.length

theorem SameCounters.refl (e : Eng) : SameCounters e e := ⟨rfl, rfl, rfl, rfl⟩
theorem SameCounters.trans {a b c : Eng} (h1 : SameCounters a b) (h2 : SameCounters b c) : SameCounters a c :=
  ⟨h2.sin.trans h1.sin, h2.sout.trans h1.sout, h2.fl.trans h1.fl, h2.len.trans h1.len⟩

section
variable {fuel k : Nat} {e e' : Eng} {n : Int} {done : Bool}

theorem procLoop_stop (hc : (!done && decide ((e.outOcc : Int) < n)) = false) :
    procLoop fuel (k + 1) e n done = some e := by
  simp [procLoop, hc]

theorem procLoop_nil (hc : (!done && decide ((e.outOcc : Int) < n)) = true) (hs : e.stages = []) :
    procLoop fuel (k + 1) e n done = procLoop fuel k e n true := by
  rw [procLoop, if_pos hc, hs]

theorem procLoop_step {d : Bool} {st' : List Stage} {p : Nat} (hc : (!done && decide ((e.outOcc : Int) < n)) = true)
    (hne : e.stages ≠ []) (h : sp e.fl fuel e.stages false = some (st', p, d)) :
    procLoop fuel (k + 1) e n done = procLoop fuel k { e with stages := st', outOcc := e.outOcc + p } n d := by
  rw [procLoop, if_pos hc]
  split
  · rename_i hs; exact absurd hs hne
  · rw [h]

theorem procLoop_mono (h : procLoop fuel k e n done = some e') (f' k' : Nat) :
    procLoop (fuel + f') (k + k') e n done = some e' := by
  fun_induction procLoop fuel k e n done with
  | case1 => cases h
  | case2 k e n done hc hs ih =>
    rw [Nat.succ_add, procLoop_nil hc hs]; exact ih h
  | case3 => cases h
  | case4 k e n done hc y rest hs b' p d hcal ih =>
    rw [Nat.succ_add, procLoop_step hc (by simp [hs]) (sp_mono hcal f')]; exact ih h
  | case5 k e n done hc => rw [Nat.succ_add, procLoop_stop (by simpa using hc)]; exact h

/-- Loop-invariant rule: a property `P engine done` kept by every turn of the loop holds when the loop has ended, and
    then the loop test is false. -/
theorem procLoop_inv (P : Eng → Bool → Prop)
    (hnil : ∀ e, e.stages = [] → P e false → P e true)
    (hstep : ∀ e st' p d, sp e.fl fuel e.stages false = some (st', p, d) → P e false →
      P { e with stages := st', outOcc := e.outOcc + p } d)
    (h : procLoop fuel k e n done = some e') (h0 : P e done) :
    ∃ done', P e' done' ∧ (!done' && decide ((e'.outOcc : Int) < n)) = false := by
  fun_induction procLoop fuel k e n done with
  | case1 => cases h
  | case2 k e n done hc hs ih =>
    obtain ⟨rfl, _⟩ : done = false ∧ (e.outOcc : Int) < n := by simpa using hc
    exact ih h (hnil e hs h0)
  | case3 => cases h
  | case4 k e n done hc y rest hs b' p d hcal ih =>
    obtain ⟨rfl, _⟩ : done = false ∧ (e.outOcc : Int) < n := by simpa using hc
    exact ih h (hstep e b' p d hcal h0)
  | case5 k e n done hc => cases h; exact ⟨done, h0, by simpa using hc⟩

theorem procLoop_same (h : procLoop fuel k e n done = some e') : SameCounters e e' :=
  let ⟨_, hP, _⟩ := procLoop_inv (fun e1 _ => SameCounters e e1) (fun _ _ h => h)
    (fun _ _ _ _ hsp h => ⟨h.sin, h.sout, h.fl, (sp_len hsp).trans h.len⟩) h (SameCounters.refl e)
  hP

theorem procLoop_wf (h : procLoop fuel k e n done = some e') (hwf : PipeWF e.stages) : PipeWF e'.stages :=
  let ⟨_, hP, _⟩ := procLoop_inv (fun e1 _ => PipeWF e1.stages) (fun _ _ h => h) (fun _ _ _ _ hsp h => sp_wf hsp h) h hwf
  hP

/-- bounded latency: if the loop ends with fewer frames than asked for, every stage FIFO is below its `input_size` -/
theorem procLoop_starved (h : procLoop fuel k e n done = some e')
    (hdone : done = true → AllShort e.stages) (hlt : (e'.outOcc : Int) < n) : AllShort e'.stages := by
  obtain ⟨done', hP, hex⟩ := procLoop_inv (fun e1 d => d = true → AllShort e1.stages)
    (fun e1 hs _ _ => by rw [hs]; exact fun _ hz => nomatch hz)
    (fun _ _ _ _ hsp _ hd => sp_done_short hsp hd (fun hh => nomatch hh)) h hdone
  exact hP (by simpa [hlt] using hex)

end

/-- Termination rule.  `I engine done` is kept by every turn, each turn's `stage_process` returns, and a turn that
    reports "not done" lowers `μ`: then the loop ends within `μ + 2` iterations, in a state satisfying `I` and the
    negated loop test.  (`+ 2`: the turn that reports "done", and the final test.) -/
theorem procLoop_total (n : Int) (I : Eng → Bool → Prop) (μ : Eng → Nat)
    (hstep : ∀ e, I e false → (e.outOcc : Int) < n → ∃ f st' p d, e.stages ≠ [] ∧
      sp e.fl f e.stages false = some (st', p, d) ∧ I { e with stages := st', outOcc := e.outOcc + p } d ∧
      (d = false → μ { e with stages := st', outOcc := e.outOcc + p } < μ e))
    (e : Eng) (done : Bool) (hI : I e done) :
    ∃ F e' done', (∀ fuel k, F ≤ fuel → μ e + 2 ≤ k → procLoop fuel k e n done = some e') ∧ I e' done' ∧
      (!done' && decide ((e'.outOcc : Int) < n)) = false := by
  generalize hm : μ e = m
  induction m using Nat.strongRecOn generalizing e done with
  | _ m ih =>
    by_cases hc : (!done && decide ((e.outOcc : Int) < n)) = true
    · obtain ⟨rfl, hlt⟩ : done = false ∧ (e.outOcc : Int) < n := by simpa using hc
      obtain ⟨f, st', p, d, hne, hsp, hI1, hμ⟩ := hstep e hI hlt
      cases d with
      | true =>
        refine ⟨f, _, true, fun fuel k hF hk => ?_, hI1, rfl⟩
        obtain ⟨k, rfl⟩ : ∃ k', k = k' + 2 := ⟨k - 2, by omega⟩
        rw [procLoop_step hc hne (sp_mono_le hsp hF), procLoop_stop rfl]
      | false =>
        obtain ⟨F2, e', done', h2, hI2⟩ := ih _ (hm ▸ hμ rfl) _ false hI1 rfl
        refine ⟨max f F2, e', done', fun fuel k hF hk => ?_, hI2⟩
        obtain ⟨k, rfl⟩ : ∃ k', k = k' + 1 := ⟨k - 1, by omega⟩
        rw [procLoop_step hc hne (sp_mono_le hsp (by omega))]
        have := hμ rfl
        exact h2 fuel k (by omega) (by omega)
    · have hc' : (!done && decide ((e.outOcc : Int) < n)) = false := by simpa using hc
      refine ⟨0, e, done, fun fuel k _ hk => ?_, hI, hc'⟩
      obtain ⟨k, rfl⟩ : ∃ k', k = k' + 1 := ⟨k - 1, by omega⟩
      exact procLoop_stop hc'

/-- what `_soxr_process` needs in order to terminate, and what every engine operation keeps -/
structure Eng.OK (e : Eng) : Prop where
  ne : e.stages ≠ []
  wf : PipeWF e.stages

/-- flushing: every turn brings ≥ 1 frame and never reports "done", so the loop ends with the request filled -/
theorem procLoop_flush (n : Int) (e : Eng) (hfl : e.fl = true) (h : e.OK) :
    ∃ F e', (∀ fuel k, F ≤ fuel → (n - e.outOcc).toNat + 2 ≤ k → procLoop fuel k e n false = some e') ∧
      n ≤ e'.outOcc := by
  obtain ⟨F, e', done', h, ⟨_, _, rfl⟩, hex⟩ := procLoop_total n
    (fun e d => e.fl = true ∧ e.OK ∧ d = false) (fun e => (n - e.outOcc).toNat)
    (fun e ⟨hfl, ok, _⟩ hlt => by
      obtain ⟨f, st', p, hsp, hp⟩ := sp_flush_total e.stages ok.ne ok.wf
      exact ⟨f, st', p, false, ok.ne, hfl ▸ hsp, ⟨hfl, ⟨sp_ne_nil hsp ok.ne, sp_wf hsp ok.wf⟩, rfl⟩,
        fun _ => by simp only; omega⟩)
    e false ⟨hfl, h, rfl⟩
  exact ⟨F, e', h, by simpa using hex⟩

/-- streaming: a turn that reports "not done" has lowered the potential -/
theorem procLoop_stream (n : Int) (e : Eng) (done : Bool) (hfl : e.fl = false) (h : e.OK) :
    ∃ F e', ∀ fuel k, F ≤ fuel → phi 0 e.stages + 2 ≤ k → procLoop fuel k e n done = some e' := by
  obtain ⟨F, e', _, h, _⟩ := procLoop_total n (fun e _ => e.fl = false ∧ e.OK) (fun e => phi 0 e.stages)
    (fun e ⟨hfl, ok⟩ _ => by
      obtain ⟨f, ⟨st', p, d⟩, hsp, hpost⟩ := sp_stream_total _ e.stages false 0 ok.ne ok.wf (Nat.le_refl _)
      exact ⟨f, st', p, d, ok.ne, hfl ▸ hsp, ⟨hfl, sp_ne_nil hsp ok.ne, sp_wf hsp ok.wf⟩, fun hd => hpost.2 hd⟩)
    e done ⟨hfl, h⟩
  exact ⟨F, e', h⟩

theorem process_mono {e e' : Eng} {olen f : Nat} (h : e.process f olen = some e') (d : Nat) :
    e.process (f + d) olen = some e' :=
  procLoop_mono h d d

/-- the result of `_soxr_process` does not depend on the fuel -/
theorem process_det (e : Eng) (olen : Nat) (f1 f2 : Nat) (r1 r2 : Eng)
    (h1 : e.process f1 olen = some r1) (h2 : e.process f2 olen = some r2) : r1 = r2 := by
  have a := process_mono h1 f2
  rw [Nat.add_comm, process_mono h2 f1] at a
  exact (Option.some.inj a).symm

theorem process_same {e e' : Eng} {olen fuel : Nat} (h : e.process fuel olen = some e') : SameCounters e e' :=
  procLoop_same h

theorem process_starved (e : Eng) (olen fuel : Nat) (e' : Eng) (h : e.process fuel olen = some e')
    (hlt : (e'.outOcc : Int) < e.target olen) : AllShort e'.stages :=
  procLoop_starved h (fun hh => nomatch hh) hlt

theorem process_of_procLoop {e e' : Eng} {olen F b : Nat}
    (h : ∀ fuel k, F ≤ fuel → b ≤ k → procLoop fuel k e (e.target olen) false = some e') :
    e.process (max F b) olen = some e' :=
  h _ _ (Nat.le_max_left _ _) (Nat.le_max_right _ _)

/-- **Flushing `_soxr_process` terminates and fills the request.** -/
theorem process_flush_total (e : Eng) (olen : Nat) (hfl : e.fl = true) (ok : e.OK) :
    ∃ fuel e', e.process fuel olen = some e' ∧ e.target olen ≤ e'.outOcc ∧ SameCounters e e' ∧ PipeWF e'.stages := by
  obtain ⟨F, e', h, hocc⟩ := procLoop_flush (e.target olen) e hfl ok
  have hp := process_of_procLoop h
  exact ⟨_, e', hp, hocc, procLoop_same hp, procLoop_wf hp ok.wf⟩

/-- **`_soxr_process` terminates** for every well-formed state and every request, streaming or flushing. -/
theorem process_total (e : Eng) (olen : Nat) (h : e.OK) : ∃ fuel e', e.process fuel olen = some e' := by
  cases hfl : e.fl
  · obtain ⟨F, e', h⟩ := procLoop_stream (e.target olen) e false hfl h
    exact ⟨_, e', process_of_procLoop h⟩
  · obtain ⟨fuel, e', h, _⟩ := process_flush_total e olen hfl h
    exact ⟨fuel, e', h⟩

theorem Eng.OK.process {e e' : Eng} {olen fuel : Nat} (h : e.OK) (hp : e.process fuel olen = some e') : e'.OK :=
  ⟨fun h0 => h.ne (List.eq_nil_of_length_eq_zero (by rw [← (process_same hp).len, h0]; rfl)), procLoop_wf hp h.wf⟩

theorem pipeWF_addFirst (l : List Stage) (n : Nat) (h : PipeWF l) : PipeWF (addFirst l n) := by
  fun_induction addFirst l n with
  | case1 => exact h
  | case2 x n => exact pipeWF_cons.mpr ⟨Stage.wf_addOcc (pipeWF_cons.mp h).1 n, pipeWF_nil⟩
  | case3 x y r n ih => exact pipeWF_cons.mpr ⟨(pipeWF_cons.mp h).1, ih (pipeWF_cons.mp h).2⟩

theorem addFirst_ne_nil (l : List Stage) (n : Nat) (h : l ≠ []) : addFirst l n ≠ [] := by
  fun_cases addFirst l n <;> simp_all

theorem Eng.OK.input {e : Eng} (h : e.OK) (n : Nat) : (e.input n).OK := by
  unfold Eng.input
  split
  · exact h
  · split
    · rename_i hs; exact absurd hs h.ne
    · exact ⟨addFirst_ne_nil _ n h.ne, pipeWF_addFirst _ n h.wf⟩

theorem Eng.OK.flush {e : Eng} (h : e.OK) (owed : Nat → Nat) : (e.flush owed).OK := by
  unfold Eng.flush; split <;> exact ⟨h.ne, h.wf⟩

theorem Eng.OK.output {e : Eng} (h : e.OK) (n0 : Nat) : (e.output n0).1.OK := by
  unfold Eng.output; exact ⟨h.ne, h.wf⟩

/-- a pipeline without stages (`io_ratio = 1`, unit gain): `_soxr_process` does nothing -/
theorem process_nil (e : Eng) (olen : Nat) (h : e.stages = []) (fuel : Nat) (hf : 2 ≤ fuel) :
    e.process fuel olen = some e := by
  obtain ⟨k, rfl⟩ : ∃ k, fuel = k + 2 := ⟨fuel - 2, by omega⟩
  unfold Eng.process
  by_cases hc : (!false && decide ((e.outOcc : Int) < e.target olen)) = true
  · rw [procLoop_nil hc h, procLoop_stop rfl]
  · exact procLoop_stop (by simpa using hc)

end Soxr.Cr
