import SoxrModel.Cr.Data
/-!
# Data level of the whole engine: `stage_process`, `_soxr_process/_input/_output/_flush` on sample lists

Same control flow as the count model (`Cr/Model.lean`) — the projection lemmas `dsp_proj`, `dprocLoop_proj`,
`DEng.*_proj` show that forgetting the samples gives exactly `sp`, `procLoop`, `Eng.input/output/flush`, so the per-call
correspondence that ties the count model to `/repo` ties this one too — with an **arbitrary** kernel `K` and an
arbitrary sample type.

`PInv` is the pipeline invariant: stage `i`'s input history is its zero preload followed by everything stage `i-1`
has produced so far, and each stage satisfies `DInv`.  The canonical stream `src` the pipeline has produced is then
a function of the bottom input history alone (`PInv_comparable`).
-/
namespace Soxr.Cr

variable {α : Type}

/-- a plan: every stage's configuration and *initial* integers, output side first -/
abbrev Plan := List (StageCfg × StageSt)

def DStage.toStage (x : DStage α) : Stage := { cfg := x.cfg, st := x.st }
def DStage.short (x : DStage α) : Bool := x.st.occ < x.st.isz

/-- `stage_process` on samples (`z` is the zero sample that flushing pads with) -/
def dsp (K : Kern α) (z : α) (flushing : Bool) : Nat → List (DStage α) → Bool → Option (List (DStage α) × List α × Bool)
  | 0, _, _ => none
  | _, [], _ => none
  | fuel+1, x :: below, done =>
    if !done && x.short then
      match below with
      | [] =>
        if flushing then dsp K z flushing fuel [x.feed (List.replicate (x.st.isz - x.st.occ) z)] false
        else dsp K z flushing fuel [x] true
      | _ :: _ =>
        match dsp K z flushing fuel below false with
        | none => none
        | some (below', prod, d) => dsp K z flushing fuel (x.feed prod :: below') d
    else
      let r := x.run K
      some (r.1 :: below, r.2, done && r.1.short)

def projRes (r : List (DStage α) × List α × Bool) : List Stage × Nat × Bool :=
  (r.1.map DStage.toStage, r.2.1.length, r.2.2)

theorem DStage.feed_toStage (x : DStage α) (xs : List α) : (x.feed xs).toStage = x.toStage.addOcc xs.length := rfl

theorem DStage.run_toStage (K : Kern α) (x : DStage α) :
    (x.run K).1.toStage = x.toStage.run.1 ∧ (x.run K).2.length = x.toStage.run.2 :=
  ⟨rfl, List.length_map _ |>.trans List.length_range⟩

theorem DStage.short_toStage (x : DStage α) : x.toStage.short = x.short := rfl
theorem DStage.toStage_st (x : DStage α) : x.toStage.st = x.st := rfl

/-- **forgetting the samples gives the count model's `stage_process`**: the same recursion on both sides, and
    `toStage` commutes with `feed`, `run` and `short` -/
theorem dsp_proj (K : Kern α) (z : α) (fl : Bool) : ∀ (fuel : Nat) (l : List (DStage α)) (done : Bool),
    (dsp K z fl fuel l done).map projRes = sp fl fuel (l.map DStage.toStage) done := by
  intro fuel l done
  symm
  fun_induction dsp K z fl fuel l done
  case case7 fuel x below done h r =>
    simp only [List.map_cons, sp, DStage.short_toStage, Option.map_some, projRes, r, h, (DStage.run_toStage K x).2]; rfl
  all_goals simp_all [sp, projRes, DStage.short_toStage, DStage.toStage_st, DStage.feed_toStage]

inductive PInv (K : Kern α) (z : α) : Plan → List (DStage α) → List α → List α → Prop
  | nil (inp : List α) : PInv K z [] [] inp inp
  | cons {ps : Plan} {below : List (DStage α)} {inp s : List α} (c : StageCfg) (s0 : StageSt) (x : DStage α) (m : Nat) :
      PInv K z ps below inp s → DInv K c s0 x (List.replicate s0.occ z ++ s) m →
      PInv K z ((c, s0) :: ps) (x :: below) inp ((unitSem K c s0).G m (List.replicate s0.occ z ++ s))

/-- zero padding appended by flushing (none while streaming) -/
def IsPad (z : α) (fl : Bool) (pad : List α) : Prop := (∃ k, pad = List.replicate k z) ∧ (fl = false → pad = [])

theorem IsPad.nil (z : α) (fl : Bool) : IsPad z fl [] := ⟨⟨0, rfl⟩, fun _ => rfl⟩

theorem IsPad.append {z : α} {fl : Bool} {p q : List α} (hp : IsPad z fl p) (hq : IsPad z fl q) : IsPad z fl (p ++ q) := by
  obtain ⟨⟨k, rfl⟩, hp0⟩ := hp
  obtain ⟨⟨j, rfl⟩, hq0⟩ := hq
  exact ⟨⟨k + j, List.replicate_append_replicate⟩, fun h => by rw [hp0 h, hq0 h]; rfl⟩

/-- the stateless part of the pipeline invariant: `src` is a canonical stream of the plan for bottom input `inp` -/
inductive CInv (K : Kern α) (z : α) : Plan → List α → List α → Prop
  | nil (inp : List α) : CInv K z [] inp inp
  | cons {ps : Plan} {inp s : List α} (c : StageCfg) (s0 : StageSt) (m : Nat) :
      CInv K z ps inp s → (unitSem K c s0).Stable m (List.replicate s0.occ z ++ s) →
      CInv K z ((c, s0) :: ps) inp ((unitSem K c s0).G m (List.replicate s0.occ z ++ s))

theorem PInv.toCInv {K : Kern α} {z : α} {plan : Plan} {l : List (DStage α)} {inp src : List α} (h : PInv K z plan l inp src) :
    CInv K z plan inp src := by
  induction h with
  | nil inp => exact CInv.nil inp
  | cons c s0 x m _ hx ih => exact CInv.cons c s0 m ih hx.stable

/-- **The canonical stream is a function of the bottom history**: canonical streams of the same plan for
    prefix-comparable inputs are prefix-comparable — whatever numbers of units each stage has run. -/
theorem CInv_comparable (K : Kern α) (z : α) : ∀ (plan : Plan) (i1 i2 s1 s2 : List α),
    CInv K z plan i1 s1 → CInv K z plan i2 s2 → Comparable i1 i2 → Comparable s1 s2 := by
  intro plan i1 i2 s1 s2 h1
  induction h1 generalizing i2 s2 with
  | nil inp => intro h2 hc; cases h2; exact hc
  | cons c s0 m _ hst ih =>
    intro h2 hc
    cases h2 with
    | cons _ _ m2 hb2 hst2 =>
      exact UnitSem.G_comparable _ (comparable_append_left _ (ih _ _ hb2 hc)) hst hst2

theorem PInv_comparable (K : Kern α) (z : α) (plan : Plan) (l1 l2 : List (DStage α)) (i1 i2 s1 s2 : List α)
    (h1 : PInv K z plan l1 i1 s1) (h2 : PInv K z plan l2 i2 s2) : Comparable i1 i2 → Comparable s1 s2 :=
  CInv_comparable K z plan i1 i2 s1 s2 h1.toCInv h2.toCInv

/-- a stage fed what the pipeline below has just produced: the invariant holds again, with the same canonical output
    (the windows of the units run so far lie in the old history) -/
theorem PInv.cons_feed {K : Kern α} {z : α} {ps : Plan} {below : List (DStage α)} {inp s xs : List α} {c : StageCfg}
    {s0 : StageSt} {x : DStage α} {m : Nat} (hb : PInv K z ps below inp (s ++ xs))
    (hx : DInv K c s0 x (List.replicate s0.occ z ++ s) m) :
    PInv K z ((c, s0) :: ps) (x.feed xs :: below) inp ((unitSem K c s0).G m (List.replicate s0.occ z ++ s)) := by
  have := PInv.cons c s0 _ m hb (by rw [← List.append_assoc]; exact hx.feed xs)
  rwa [← List.append_assoc, UnitSem.G_append _ m _ xs hx.stable] at this

/-- **`stage_process` preserves the pipeline invariant** and returns exactly the next piece of the canonical stream;
    when flushing the bottom history may have been extended by zeros. -/
theorem dsp_inv (K : Kern α) (z : α) (fl : Bool) : ∀ (fuel : Nat) (plan : Plan) (l : List (DStage α)) (done : Bool)
    (inp src : List α) (l' : List (DStage α)) (outs : List α) (d : Bool),
    PInv K z plan l inp src → dsp K z fl fuel l done = some (l', outs, d) →
    ∃ pad, IsPad z fl pad ∧ PInv K z plan l' (inp ++ pad) (src ++ outs) := by
  intro fuel plan l done inp src l' outs d hinv h
  fun_induction dsp K z fl fuel l done generalizing plan inp src l' outs d
  case case1 | case2 | case5 => simp_all
  case case3 fuel x done _ hfl ih =>
    -- the bottom stage is short and the engine is flushing: pad its FIFO with zeros
    cases hinv with | cons c s0 _ m hb hx =>
    cases hb
    obtain ⟨pad, hpad, hfin⟩ := ih _ _ _ _ _ _ (PInv.cons_feed (PInv.nil _) hx) h
    exact ⟨_ ++ pad, IsPad.append ⟨⟨_, rfl⟩, fun h => by simp [hfl] at h⟩ hpad, by rwa [← List.append_assoc]⟩
  case case4 ih => exact ih _ _ _ _ _ _ hinv h
  case case6 hcal ihb ihx =>
    -- a stage short of input: run the pipeline below, feed what it yields, try again
    cases hinv with | cons c s0 _ m hb hx =>
    obtain ⟨pad1, hpad1, hb'⟩ := ihb _ _ _ _ _ _ hb hcal
    obtain ⟨pad2, hpad2, hfin⟩ := ihx _ _ _ _ _ _ (PInv.cons_feed hb' hx) (by rwa [hcal] at h)
    exact ⟨pad1 ++ pad2, hpad1.append hpad2, by rwa [← List.append_assoc]⟩
  case case7 fuel x below done _ r =>
    cases hinv with | cons c s0 _ m hb hx =>
    cases h
    obtain ⟨m', _, hx', hG⟩ := hx.run
    exact ⟨[], IsPad.nil z fl, by rw [List.append_nil, ← hG]; exact PInv.cons c s0 _ m' hb hx'⟩

structure DEng (α : Type) where
  stages : List (DStage α)
  out : List α := []          -- contents of the FIFO after the last stage
  sin : Nat := 0
  sout : Int := 0
  fl : Bool := false

def DEng.toEng (e : DEng α) : Eng :=
  { stages := e.stages.map DStage.toStage, outOcc := e.out.length, sin := e.sin, sout := e.sout, fl := e.fl }

/-- loop of `_soxr_process` on samples -/
def dprocLoop (K : Kern α) (z : α) (fuel : Nat) : Nat → DEng α → Int → Bool → Option (DEng α)
  | 0, _, _, _ => none
  | k+1, e, n, done =>
    if !done && (e.out.length : Int) < n then
      match e.stages with
      | [] => dprocLoop K z fuel k e n true
      | _ :: _ =>
        match dsp K z e.fl fuel e.stages false with
        | none => none
        | some (st', prod, d) => dprocLoop K z fuel k { e with stages := st', out := e.out ++ prod } n d
    else some e

def DEng.target (e : DEng α) (olen : Nat) : Int := if e.fl then min (-e.sout) olen else olen

def DEng.process (K : Kern α) (z : α) (fuel : Nat) (e : DEng α) (olen : Nat) : Option (DEng α) :=
  dprocLoop K z fuel fuel e (e.target olen) false

def dAddFirst : List (DStage α) → List α → List (DStage α)
  | [], _ => []
  | [x], xs => [x.feed xs]
  | x :: y :: r, xs => x :: dAddFirst (y :: r) xs

def DEng.input (e : DEng α) (xs : List α) : DEng α :=
  if e.fl then e else
  match e.stages with
  | [] => { e with sin := e.sin + xs.length, out := e.out ++ xs }
  | _ => { e with sin := e.sin + xs.length, stages := dAddFirst e.stages xs }

def DEng.output (e : DEng α) (n0 : Nat) : DEng α × List α :=
  let n := min (e.target n0) e.out.length
  ({ e with sout := e.sout + n, out := e.out.drop n.toNat }, e.out.take n.toNat)

def DEng.flush (owed : Nat → Nat) (e : DEng α) : DEng α :=
  if e.fl then e else { e with sout := e.sout - owed e.sin, sin := 0, fl := true }

theorem dprocLoop_proj (K : Kern α) (z : α) (fuel : Nat) : ∀ (k : Nat) (e : DEng α) (n : Int) (done : Bool),
    (dprocLoop K z fuel k e n done).map DEng.toEng = procLoop fuel k e.toEng n done := by
  intro k e n done
  symm
  fun_induction dprocLoop K z fuel k e n done
  case case3 e _ _ _ _ _ _ _ | case4 e _ _ _ _ _ _ _ _ _ _ _ =>
    have hp := (dsp_proj K z e.fl fuel e.stages false).symm
    simp_all [procLoop, DEng.toEng, projRes]
  case case5 h => simp only [procLoop, DEng.toEng]; exact if_neg h
  all_goals simp_all [procLoop, DEng.toEng]

theorem DEng.process_proj (K : Kern α) (z : α) (fuel : Nat) (e : DEng α) (olen : Nat) :
    (e.process K z fuel olen).map DEng.toEng = e.toEng.process fuel olen :=
  dprocLoop_proj K z fuel fuel e _ false

theorem dAddFirst_proj (l : List (DStage α)) (xs : List α) :
    (dAddFirst l xs).map DStage.toStage = addFirst (l.map DStage.toStage) xs.length := by
  fun_induction dAddFirst l xs <;> simp_all [addFirst, DStage.feed_toStage]

theorem DEng.input_proj (e : DEng α) (xs : List α) : (e.input xs).toEng = e.toEng.input xs.length := by
  unfold DEng.input Eng.input
  show _ = if e.fl = true then _ else _
  split
  · rfl
  · cases hs : e.stages with
    | nil => simp [DEng.toEng, hs]
    | cons y r => simp only [DEng.toEng, hs, dAddFirst_proj, List.map_cons]

theorem DEng.flush_proj (owed : Nat → Nat) (e : DEng α) : (e.flush owed).toEng = e.toEng.flush owed := by
  unfold DEng.flush Eng.flush
  show _ = if e.fl = true then _ else _
  split <;> rfl

theorem DEng.output_proj (e : DEng α) (n0 : Nat) :
    (e.output n0).1.toEng = (e.toEng.output n0).1 ∧ ((e.output n0).2.length : Int) = max 0 (e.toEng.output n0).2 := by
  have ht : e.toEng.target n0 = e.target n0 := rfl
  have ho : e.toEng.outOcc = e.out.length := rfl
  unfold DEng.output Eng.output
  simp only [ht, ho]
  generalize hn : min (e.target n0) (e.out.length : Int) = n
  have hle : n.toNat ≤ e.out.length := by omega
  refine ⟨?_, ?_⟩
  · simp only [DEng.toEng, List.length_drop, fifoRead_of_le hle]
  · simp only [List.length_take]; omega

inductive DOp (α : Type) | feed (xs : List α) | flush | take (n0 : Nat)

/-- `DRuns e ops fed delivered e'`: running `ops` from `e` accepts the samples `fed` (input offered after
    end-of-input is ignored, as in the engine), delivers `delivered`, ends in `e'` -/
inductive DRuns (K : Kern α) (z : α) (owed : Nat → Nat) : DEng α → List (DOp α) → List α → List α → DEng α → Prop
  | nil (e : DEng α) : DRuns K z owed e [] [] [] e
  | feed (e : DEng α) (xs : List α) (ops : List (DOp α)) (F D : List α) (e' : DEng α) :
      DRuns K z owed (e.input xs) ops F D e' →
      DRuns K z owed e (.feed xs :: ops) ((if e.fl then [] else xs) ++ F) D e'
  | flush (e : DEng α) (ops : List (DOp α)) (F D : List α) (e' : DEng α) :
      DRuns K z owed (e.flush owed) ops F D e' → DRuns K z owed e (.flush :: ops) F D e'
  | take (e : DEng α) (n0 fuel : Nat) (e1 : DEng α) (ops : List (DOp α)) (F D : List α) (e' : DEng α) :
      e.process K z fuel n0 = some e1 → DRuns K z owed (e1.output n0).1 ops F D e' →
      DRuns K z owed e (.take n0 :: ops) F ((e1.output n0).2 ++ D) e'

/-- the engine invariant: what has been delivered plus what waits in the output FIFO is the canonical stream of the
    input accepted so far (followed by zeros once flushing) -/
def EInv (K : Kern α) (z : α) (plan : Plan) (e : DEng α) (fed delivered : List α) : Prop :=
  ∃ pad src, IsPad z e.fl pad ∧ PInv K z plan e.stages (fed ++ pad) src ∧ delivered ++ e.out = src

theorem PInv.feedBottom {K : Kern α} {z : α} : ∀ {plan : Plan} {l : List (DStage α)} {inp src : List α} (xs : List α),
    PInv K z plan l inp src → l ≠ [] → PInv K z plan (dAddFirst l xs) (inp ++ xs) src := by
  intro plan l inp src xs h
  induction h with
  | nil inp => intro hne; exact absurd rfl hne
  | cons c s0 x m hb hx ih =>
    intro _
    cases hb with
    | nil => exact PInv.cons_feed (PInv.nil _) hx
    | cons => exact PInv.cons c s0 x m (ih (List.cons_ne_nil _ _)) hx

theorem einv_input {K : Kern α} {z : α} {plan : Plan} {e : DEng α} {fed del : List α} (h : EInv K z plan e fed del)
    (xs : List α) : EInv K z plan (e.input xs) (fed ++ (if e.fl then [] else xs)) del := by
  obtain ⟨pad, src, hpad, hp, hsrc⟩ := h
  unfold DEng.input
  cases hfl : e.fl
  · obtain rfl : pad = [] := hpad.2 hfl
    rw [List.append_nil] at hp
    simp only [Bool.false_eq_true, if_false]
    cases hs : e.stages with
    | nil =>
      rw [hs] at hp; cases hp
      exact ⟨[], _, IsPad.nil z _, by rw [List.append_nil]; exact PInv.nil _, by rw [← List.append_assoc, hsrc]⟩
    | cons y r =>
      refine ⟨[], src, IsPad.nil z _, ?_, hsrc⟩
      have := PInv.feedBottom xs hp (by rw [hs]; exact List.cons_ne_nil _ _)
      rw [hs] at this
      rwa [List.append_nil]
  · simp only [if_true, List.append_nil]
    exact ⟨pad, src, hfl ▸ hpad, hp, hsrc⟩

theorem einv_flush {K : Kern α} {z : α} {plan : Plan} {e : DEng α} {fed del : List α} (h : EInv K z plan e fed del)
    (owed : Nat → Nat) : EInv K z plan (e.flush owed) fed del := by
  obtain ⟨pad, src, hpad, hp, hsrc⟩ := h
  unfold DEng.flush
  split
  · exact ⟨pad, src, hpad, hp, hsrc⟩
  · obtain rfl : pad = [] := hpad.2 (by simpa using ‹¬ e.fl = true›)
    exact ⟨[], src, IsPad.nil z _, hp, hsrc⟩

theorem einv_procLoop {K : Kern α} {z : α} {plan : Plan} {fuel k : Nat} {e e' : DEng α} {n : Int} {done : Bool}
    {fed del : List α} (hinv : EInv K z plan e fed del) (h : dprocLoop K z fuel k e n done = some e') :
    EInv K z plan e' fed del := by
  fun_induction dprocLoop K z fuel k e n done
  case case1 | case3 => simp_all
  case case2 ih => exact ih hinv h
  case case4 k e n done _ y r hs st' prod d hcal ih =>
    obtain ⟨pad, src, hpad, hp, hsrc⟩ := hinv
    obtain ⟨pad2, hpad2, hp2⟩ := dsp_inv K z e.fl fuel plan _ _ _ _ _ _ _ hp hcal
    exact ih ⟨pad ++ pad2, src ++ prod, hpad.append hpad2, by rwa [← List.append_assoc],
      by simp only [← List.append_assoc, hsrc]⟩ h
  case case5 => cases h; exact hinv

theorem einv_output {K : Kern α} {z : α} {plan : Plan} {e : DEng α} {fed del : List α} (h : EInv K z plan e fed del)
    (n0 : Nat) : EInv K z plan (e.output n0).1 fed (del ++ (e.output n0).2) := by
  obtain ⟨pad, src, hpad, hp, hsrc⟩ := h
  refine ⟨pad, src, hpad, hp, ?_⟩
  simp only [DEng.output, List.append_assoc, List.take_append_drop]
  exact hsrc

/-- the engine invariant `EInv` holds along every run (prefix consistency, `runs_comparable`, is read off it) -/
theorem druns_inv (K : Kern α) (z : α) (owed : Nat → Nat) (plan : Plan) : ∀ (ops : List (DOp α)) (e e' : DEng α)
    (fed del F D : List α), EInv K z plan e fed del → DRuns K z owed e ops F D e' → EInv K z plan e' (fed ++ F) (del ++ D) := by
  intro ops e e' fed del F D h hr
  induction hr generalizing fed del with
  | nil => simpa using h
  | feed e xs _ _ _ _ _ ih => rw [← List.append_assoc]; exact ih _ _ (einv_input h xs)
  | flush e _ _ _ _ _ ih => exact ih _ _ (einv_flush h owed)
  | take e n0 fuel e1 _ _ _ _ hp _ ih =>
    rw [← List.append_assoc]
    exact ih _ _ (einv_output (einv_procLoop h hp) n0)

end Soxr.Cr
