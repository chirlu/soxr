import SoxrModel.Cr.Shift
/-!
# Locality: which input frames an output frame depends on

Output frame `j` of a stage is produced by the unit `u` with `outCount u ≤ j < outCount (u+1)`, which reads the window
`[pos u, pos u + len u)` of the stage's input history (zero preload first, then the stream below).  `coneI` walks an
interval of output frames down the plan — units of its end points, smallest window start and largest window end over
the units in between, minus the preload — and returns an interval `[a, b]` of INPUT frame indices (or the empty
interval when everything read lies in preloads).  `coneI_sound`: two canonical streams of the plan whose inputs agree
on `[a, b]` agree on the output interval — for every kernel whatever, every number of units run on either side.  So an
output frame depends on finitely many input frames, none later than `b` (causality with the latency of the plan) and
none earlier than `a` (finite memory).  The compiled driver evaluates `coneI` (`cr.cone`), and the check perturbs single
input frames of the REAL engine and requires every output frame that changes to have the perturbed frame inside its cone.
-/
namespace Soxr.Cr

variable {α : Type}

theorem outCount_zero (c : StageCfg) (s0 : StageSt) : outCount c s0 0 = 0 := by
  unfold outCount; cases c.kind <;> rfl

theorem outCount_mono (c : StageCfg) (s0 : StageSt) {u v : Nat} (h : u ≤ v) : outCount c s0 u ≤ outCount c s0 v :=
  mono_of_le_succ (f := outCount c s0) (fun u => by unfold outCount; cases c.kind <;> simp [dftOuts]) h

/-- unit `u` yields output frame `j` -/
def UnitAt (c : StageCfg) (s0 : StageSt) (j u : Nat) : Prop := outCount c s0 u ≤ j ∧ j < outCount c s0 (u + 1)

theorem UnitAt.lt {c : StageCfg} {s0 : StageSt} {j u m : Nat} (h : UnitAt c s0 j u) (hm : j < outCount c s0 m) : u < m :=
  Nat.lt_of_not_le fun hle => Nat.lt_irrefl j (Nat.lt_of_lt_of_le hm (Nat.le_trans (outCount_mono c s0 hle) h.1))

theorem UnitAt.le_of_le {c : StageCfg} {s0 : StageSt} {j j' u u' : Nat} (h : UnitAt c s0 j u) (h' : UnitAt c s0 j' u')
    (hj : j ≤ j') : u ≤ u' :=
  Nat.le_of_lt_succ (h.lt (Nat.lt_of_le_of_lt hj h'.2))

theorem unit_exists (c : StageCfg) (s0 : StageSt) (j : Nat) : ∀ m, j < outCount c s0 m → ∃ u, UnitAt c s0 j u := by
  intro m
  induction m with
  | zero => intro h; rw [outCount_zero] at h; omega
  | succ m ih =>
    intro h
    by_cases hm : j < outCount c s0 m
    · exact ih hm
    · exact ⟨m, by omega, h⟩

/-- the unit that yields output frame `j`: the first `u ≥ u0` with `j < outCount (u+1)` -/
def unitOf (c : StageCfg) (s0 : StageSt) (j : Nat) : Nat → Nat → Option Nat
  | 0, _ => none
  | fuel+1, u => if j < outCount c s0 (u + 1) then some u else unitOf c s0 j fuel (u + 1)

theorem unitOf_spec {c : StageCfg} {s0 : StageSt} {j fuel u0 u : Nat} (h : unitOf c s0 j fuel u0 = some u)
    (h0 : outCount c s0 u0 ≤ j) : UnitAt c s0 j u := by
  fun_induction unitOf c s0 j fuel u0
  case case1 => cases h
  case case2 hlt => cases h; exact ⟨h0, hlt⟩
  case case3 hge ih => exact ih h (Nat.le_of_not_lt hge)

/-- smallest window start and largest window end over the units `ulo … ulo + n` -/
def winBounds (c : StageCfg) (s0 : StageSt) (ulo : Nat) : Nat → Nat × Nat
  | 0 => (upos c s0 ulo, upos c s0 ulo + ulen c s0 ulo)
  | n+1 =>
    let r := winBounds c s0 ulo n
    (min r.1 (upos c s0 (ulo + n + 1)), max r.2 (upos c s0 (ulo + n + 1) + ulen c s0 (ulo + n + 1)))

theorem winBounds_spec (c : StageCfg) (s0 : StageSt) (ulo : Nat) {n u : Nat} (h1 : ulo ≤ u) (h2 : u ≤ ulo + n) :
    (winBounds c s0 ulo n).1 ≤ upos c s0 u ∧ upos c s0 u + ulen c s0 u ≤ (winBounds c s0 ulo n).2 := by
  induction n with
  | zero =>
    obtain rfl : u = ulo := by omega
    exact ⟨Nat.le_refl _, Nat.le_refl _⟩
  | succ n ih =>
    rcases Nat.lt_or_ge u (ulo + n + 1) with hlt | hge
    · exact ⟨Nat.le_trans (Nat.min_le_left _ _) (ih (by omega)).1, Nat.le_trans (ih (by omega)).2 (Nat.le_max_left _ _)⟩
    · obtain rfl : u = ulo + n + 1 := by omega
      exact ⟨Nat.min_le_right _ _, Nat.le_max_right _ _⟩

/-- the cone of the output interval `[lo, hi]`: an interval of input indices, `(1, 0)` (empty) when nothing but preload
    is read; `none` when the unit search ran out of fuel -/
def coneI (fuel : Nat) : Plan → Nat → Nat → Option (Nat × Nat)
  | [], lo, hi => some (lo, hi)
  | (c, s0) :: ps, lo, hi =>
    if hi < lo then some (1, 0) else
    match unitOf c s0 lo fuel 0, unitOf c s0 hi fuel 0 with
    | some ulo, some uhi =>
      let w := winBounds c s0 ulo (uhi - ulo)
      if w.2 ≤ s0.occ then some (1, 0)
      else coneI fuel ps (w.1 - s0.occ) (w.2 - s0.occ - 1)
    | _, _ => none

/-- output frame `j` of a stage lies in the output of the unit that `outCount` points at -/
theorem G_getElem (K : Kern α) (c : StageCfg) (s0 : StageSt) (h : List α) {m j u : Nat} (hu : UnitAt c s0 j u)
    (hm : j < outCount c s0 m) :
    ((unitSem K c s0).G m h)[j]? =
      ((unitSem K c s0).out u ((unitSem K c s0).window u h))[j - outCount c s0 u]? := by
  obtain ⟨r, rfl⟩ := Nat.exists_eq_add_of_le (hu.lt hm)
  rw [UnitSem.G_add, List.getElem?_append_left (by rw [G_length]; exact hu.2)]
  show ((unitSem K c s0).G u h ++ _)[j]? = _
  rw [List.getElem?_append_right (by rw [G_length]; exact hu.1), G_length]

/-- the unit of a frame of `[lo, hi]` lies between the units of the end points, so it reads inside `winBounds` -/
theorem cone_unit {c : StageCfg} {s0 : StageSt} {fuel lo hi ulo uhi j m : Nat} (hul : unitOf c s0 lo fuel 0 = some ulo)
    (huh : unitOf c s0 hi fuel 0 = some uhi) (hlo : lo ≤ j) (hhi : j ≤ hi) (hj : j < outCount c s0 m) :
    ∃ u, UnitAt c s0 j u ∧ (winBounds c s0 ulo (uhi - ulo)).1 ≤ upos c s0 u ∧
      upos c s0 u + ulen c s0 u ≤ (winBounds c s0 ulo (uhi - ulo)).2 := by
  obtain ⟨u, hu⟩ := unit_exists c s0 j m hj
  have h0 : outCount c s0 0 ≤ lo := by rw [outCount_zero]; exact Nat.zero_le _
  have h1 := (unitOf_spec hul h0).le_of_le hu hlo
  have h2 := hu.le_of_le (unitOf_spec huh (Nat.le_trans h0 (Nat.le_trans hlo hhi))) hhi
  exact ⟨u, hu, winBounds_spec c s0 ulo h1 (by omega)⟩

/-- frame `p + k` of a window `[p, p + n)` inside `[w1, w2)` and beyond a preload of `occ` frames is frame `p + k - occ` of
    the stream below, inside the cone `[w1 - occ, w2 - occ - 1]` -/
theorem cone_index {occ p k n w1 w2 len : Nat} (hk : k < n) (hw1 : w1 ≤ p) (hw2 : p + n ≤ w2) (hs : p + n ≤ occ + len)
    (hpre : occ ≤ p + k) : w1 - occ ≤ p + k - occ ∧ p + k - occ ≤ w2 - occ - 1 ∧ p + k - occ < len := by
  omega

/-- **Locality.**  Canonical streams of the plan for inputs that agree on the cone agree on the output interval. -/
theorem coneI_sound (K : Kern α) (z : α) (fuel : Nat) : ∀ (plan : Plan) (lo hi a b : Nat), coneI fuel plan lo hi = some (a, b) →
    ∀ (x x' s s' : List α), CInv K z plan x s → CInv K z plan x' s' → (∀ i, a ≤ i → i ≤ b → x[i]? = x'[i]?) →
    ∀ j, lo ≤ j → j ≤ hi → j < s.length → j < s'.length → s[j]? = s'[j]? := by
  intro plan
  induction plan with
  | nil =>
    intro lo hi a b hc x x' s s' h1 h2 hag j hlo hhi _ _
    obtain ⟨rfl, rfl⟩ : lo = a ∧ hi = b := by simpa [coneI] using hc
    cases h1; cases h2
    exact hag j hlo hhi
  | cons p ps ih =>
    obtain ⟨c, s0⟩ := p
    intro lo hi a b hc x x' s s' h1 h2 hag j hlo hhi hjs hjs'
    cases h1 with | @cons _ _ t _ _ m hb hst =>
    cases h2 with | @cons _ _ t' _ _ m' hb' hst' =>
    rw [G_length] at hjs hjs'
    simp only [coneI, if_neg (by omega : ¬ hi < lo)] at hc
    split at hc
    · rename_i ulo uhi hul huh
      obtain ⟨u, hu, w1, w2⟩ := cone_unit hul huh hlo hhi hjs
      have hs := hst u (hu.lt hjs)
      have hs' := hst' u (hu.lt hjs')
      rw [G_getElem K c s0 _ hu hjs, G_getElem K c s0 _ hu hjs']
      congr 2
      apply UnitSem.window_congr
      intro k hk
      rw [unitSem_pos, unitSem_len, List.length_append, List.length_replicate] at hs hs'
      rw [unitSem_len] at hk
      simp only [unitSem_pos, List.getElem?_append, List.length_replicate]
      -- a frame of the window lies in the zero preload, the same on both sides, or in the stream below, inside its cone
      split
      · rfl
      · rename_i hpre
        obtain ⟨g1, g2, g3⟩ := cone_index hk w1 w2 hs (Nat.le_of_not_lt hpre)
        split at hc
        · omega
        · exact ih _ _ a b hc x x' t t' hb hb' hag _ g1 g2 g3 (cone_index hk w1 w2 hs' (Nat.le_of_not_lt hpre)).2.2
    · simp at hc

/-! ## constants: the DC clause on the engine -/

/-- like `coneI`, but `none` as soon as a window reaches into a stage's zero preload (start-up) -/
def coneS (fuel : Nat) : Plan → Nat → Nat → Option (Nat × Nat)
  | [], lo, hi => some (lo, hi)
  | (c, s0) :: ps, lo, hi =>
    if hi < lo then none else
    match unitOf c s0 lo fuel 0, unitOf c s0 hi fuel 0 with
    | some ulo, some uhi =>
      let w := winBounds c s0 ulo (uhi - ulo)
      if w.1 < s0.occ ∨ w.2 ≤ w.1 then none
      else coneS fuel ps (w.1 - s0.occ) (w.2 - s0.occ - 1)
    | _, _ => none

/-- unit `u` maps the constant window of value `v` to outputs of value `v` -/
def UFix (U : UnitSem α) (v : α) : Prop := ∀ u, ∀ y ∈ U.out u (List.replicate (U.len u) v), y = v

/-- every stage of the plan reproduces the constant `v` -/
def PlanFix (K : Kern α) (v : α) : Plan → Prop
  | [] => True
  | (c, s0) :: ps => UFix (unitSem K c s0) v ∧ PlanFix K v ps

/-- **DC on the engine.**  Beyond start-up (`coneS` defined: no window of the cone touches a preload), an input that is
    the constant `v` on the cone gives the output `v` — for every plan whose stages each reproduce `v` (unit row sums). -/
theorem coneS_const (K : Kern α) (z v : α) (fuel : Nat) : ∀ (plan : Plan) (lo hi a b : Nat), coneS fuel plan lo hi = some (a, b) →
    PlanFix K v plan → ∀ (x s : List α), CInv K z plan x s → (∀ i, a ≤ i → i ≤ b → x[i]? = some v) →
    ∀ j, lo ≤ j → j ≤ hi → j < s.length → s[j]? = some v := by
  intro plan
  induction plan with
  | nil =>
    intro lo hi a b hc _ x s h1 hag j hlo hhi _
    obtain ⟨rfl, rfl⟩ : lo = a ∧ hi = b := by simpa [coneS] using hc
    cases h1
    exact hag j hlo hhi
  | cons p ps ih =>
    obtain ⟨c, s0⟩ := p
    intro lo hi a b hc hfix x s h1 hag j hlo hhi hjs
    cases h1 with | @cons _ _ t _ _ m hb hst =>
    rw [G_length] at hjs
    simp only [coneS, if_neg (by omega : ¬ hi < lo)] at hc
    split at hc
    · rename_i ulo uhi hul huh
      obtain ⟨u, hu, w1, w2⟩ := cone_unit hul huh hlo hhi hjs
      have hs := hst u (hu.lt hjs)
      rw [unitSem_pos, unitSem_len, List.length_append, List.length_replicate] at hs
      split at hc
      · simp at hc
      · -- the window lies in the stream below, inside its cone: it is the constant window
        have hwin : (unitSem K c s0).window u (List.replicate s0.occ z ++ t) = List.replicate ((unitSem K c s0).len u) v := by
          apply List.ext_getElem?
          intro k
          simp only [UnitSem.window, List.getElem?_take, List.getElem?_drop, List.getElem?_replicate, unitSem_pos, unitSem_len]
          split
          · rename_i hnot hk
            have hpre : s0.occ ≤ upos c s0 u + k := by omega
            obtain ⟨g1, g2, g3⟩ := cone_index hk w1 w2 hs hpre
            rw [List.getElem?_append_right (by rwa [List.length_replicate]), List.length_replicate]
            exact ih _ _ a b hc hfix.2 x t hb hag _ g1 g2 g3
          · rfl
        have e := G_length K c s0 (List.replicate s0.occ z ++ t) (u + 1)
        rw [show (unitSem K c s0).G (u + 1) _ = (unitSem K c s0).G u _ ++ _ from rfl, List.length_append, G_length, hwin] at e
        have hlt : j - outCount c s0 u < ((unitSem K c s0).out u (List.replicate ((unitSem K c s0).len u) v)).length := by
          have := hu.1; have := hu.2; omega
        rw [G_getElem K c s0 _ hu hjs, hwin, List.getElem?_eq_getElem hlt]
        exact congrArg some (hfix.1 u _ (List.getElem_mem hlt))
    · simp at hc

end Soxr.Cr
