import SoxrModel.Cr.PullCount
/-!
# The pull loop of `soxr_output` against an arbitrary input function

The input function is an arbitrary finite script of answers (`data n | eof | fail`); the lemmas hold for every script,
every state and every request — i.e. for every supply pattern and end-of-input or failure at every call index.
-/
namespace Soxr.Cr

theorem input_flags (a : Api) (n : Nat) : (a.input n).error = a.error ∧ (a.input n).hasFn = a.hasFn ∧
    (a.input n).maxIlen = a.maxIlen ∧ (a.flushing = true → (a.input n).flushing = true) ∧
    (0 < n → (a.input n).flushing = a.flushing) ∧ (a.error = false → n = 0 → (a.input n).flushing = true) := by
  unfold Api.input
  split
  · exact ⟨rfl, rfl, rfl, fun h => h, fun _ => rfl, fun h => by simp_all⟩
  · split
    · rename_i h0
      exact ⟨rfl, rfl, rfl, fun _ => rfl, fun h => by omega, fun _ _ => rfl⟩
    · rename_i h0
      exact ⟨rfl, rfl, rfl, fun h => h, fun _ => rfl, fun _ h => absurd h h0⟩

/-- an answer that ends the stream: `eof`, or a zero-length supply -/
def Supply.isEnd : Supply → Bool
  | .eof => true
  | .data 0 => true
  | _ => false

/-- a proper supply -/
def Supply.isData : Supply → Bool
  | .data (_ + 1) => true
  | _ => false

theorem Supply.isEnd_of_len {r : Supply} (hr : r ≠ .fail) (h : r.len = 0) : r.isEnd = true := by
  cases r with
  | data n => cases h; rfl
  | eof => rfl
  | fail => exact absurd rfl hr

theorem Supply.isData_of_len {r : Supply} (h : 0 < r.len) : r.isData = true ∧ r.isEnd = false := by
  cases r with
  | data n => cases n with
    | zero => cases h
    | succ n => exact ⟨rfl, rfl⟩
  | eof => cases h
  | fail => cases h

/-- One turn of the `do … while` of `soxr_output` once `soxr_output_no_callback` has returned `(a1, odone)`. -/
theorem pullLoop_succ {num : Num} {fuel len0 ilen k : Nat} {a a1 : Api} {olen odone odone0 : Nat} {script : List Supply}
    {reqs : List Nat} (hcb : a.outputNoCb num fuel olen = some (a1, odone)) :
    pullLoop num fuel len0 ilen (k + 1) a olen odone0 script reqs =
      if odone0 + odone = len0 || !a1.hasFn || a1.flushing then some (a1, odone0 + odone, script, reqs) else
      match script with
      | [] => some (a1, odone0 + odone, [], reqs)
      | .fail :: rest => some ({ a1 with error := true }, odone0 + odone, rest, ilen :: reqs)
      | r :: rest =>
        if odone != 0 || r.len != 0 || (!a1.flushing && (a1.input r.len).flushing) then
          pullLoop num fuel len0 ilen k (a1.input r.len) (olen - odone) (odone0 + odone) rest (ilen :: reqs)
        else some (a1.input r.len, odone0 + odone, rest, ilen :: reqs) := by
  rw [pullLoop, hcb]
  dsimp only
  split
  · rfl
  · rcases script with _ | ⟨_ | _ | _, rest⟩ <;> rfl

/-- What one `soxr_output` call does with the input function, for every script. -/
structure PullSpec (ilen : Nat) (a a' : Api) (script rest : List Supply) (reqs reqs' : List Nat) : Prop where
  /-- the answers consumed are a prefix of the script … -/
  used : ∃ used, script = used ++ rest ∧ reqs' = List.replicate used.length ilen ++ reqs ∧
    /- … every one but the last is a proper supply … -/
    (∀ s ∈ used.dropLast, s.isData = true) ∧
    /- … the resampler is in the error state exactly when the last answer was a failure … -/
    (a'.error = true ↔ used.getLast? = some Supply.fail) ∧
    /- … nothing is asked when already flushing or when no function is registered … -/
    ((a.flushing = true ∨ a.hasFn = false) → used = []) ∧
    /- … end-of-input is latched exactly by an end answer … -/
    (a.flushing = false → (a'.flushing = true ↔ ∃ s, used.getLast? = some s ∧ s.isEnd = true)) ∧
    /- … and unless it is latched, the engine has been handed exactly the frames of those answers. -/
    (a.eng.fl = false → a'.flushing = false → a'.eng.sin = a.eng.sin + dataSum used ∧ a'.eng.fl = false)
  hasFn : a'.hasFn = a.hasFn
  maxIlen : a'.maxIlen = a.maxIlen
  fl_mono : a.flushing = true → a'.flushing = true

/-- a call that asks nothing: the flags are as they were -/
theorem PullSpec.nothing {ilen : Nat} {a b : Api} {script : List Supply} {reqs : List Nat} (herr : b.error = false)
    (hfl : b.flushing = a.flushing) (hfn : b.hasFn = a.hasFn) (hm : b.maxIlen = a.maxIlen)
    (hsin : a.flushing = false → b.eng.sin = a.eng.sin ∧ b.eng.fl = a.eng.fl) : PullSpec ilen a b script script reqs reqs :=
  ⟨⟨[], rfl, rfl, (fun _ hs => nomatch hs), by simp [herr], fun _ => rfl, fun hf => by simp [hfl, hf],
    fun he hf => by simpa [dataSum, he] using hsin (hfl ▸ hf)⟩, hfn, hm, fun hf => hfl ▸ hf⟩

theorem pullLoop_spec (num : Num) (fuel len0 ilen : Nat) : ∀ (k : Nat) (a : Api) (olen odone0 : Nat) (script : List Supply)
    (reqs : List Nat) (a' : Api) (od : Nat) (rest : List Supply) (reqs' : List Nat),
    pullLoop num fuel len0 ilen k a olen odone0 script reqs = some (a', od, rest, reqs') → a.error = false →
    PullSpec ilen a a' script rest reqs reqs' := by
  intro k
  induction k with
  | zero => intro a olen odone0 script reqs a' od rest reqs' h; cases h
  | succ k ih =>
    intro a olen odone0 script reqs a' od rest reqs' h herr
    cases hcb : a.outputNoCb num fuel olen with
    | none => rw [pullLoop, hcb] at h; cases h
    | some v =>
      obtain ⟨a1, odone⟩ := v
      obtain ⟨f1, f2, f3, f4⟩ := outputNoCb_flags num fuel a olen a1 odone hcb
      rw [pullLoop_succ hcb] at h
      have herr1 : a1.error = false := f2.trans herr
      have hsin := fun hf : a.flushing = false => outputNoCb_sin hcb fun ht => nomatch hf.symm.trans ht
      have stop : PullSpec ilen a a1 script script reqs reqs := PullSpec.nothing herr1 f1 f3 f4 hsin
      split at h
      · cases h; exact stop
      · rename_i hcont
        obtain ⟨⟨_, hfn⟩, hnf⟩ : (¬odone0 + odone = len0 ∧ a1.hasFn = true) ∧ a1.flushing = false := by
          simpa using hcont
        have hafl : a.flushing = false := f1 ▸ hnf
        have hq : ¬(a.flushing = true ∨ a.hasFn = false) := by simp [hafl, f3 ▸ hfn]
        have hsin1 := hsin hafl
        split at h
        · cases h; exact stop
        · cases h
          exact ⟨⟨[.fail], rfl, rfl, (fun _ hs => nomatch hs), by simp, fun hh => absurd hh hq,
            fun _ => by simp [hnf, Supply.isEnd], fun hfl _ => by simpa [dataSum, hfl] using hsin1⟩,
            f3, f4, fun hh => absurd hh (by simp [hafl])⟩
        · next r rest0 hr =>
          have hr : r ≠ .fail := hr
          obtain ⟨i1, i2, i3, _, i5, i6⟩ := input_flags a1 r.len
          have herr2 : (a1.input r.len).error = false := i1.trans herr1
          -- the rest of the loop, or none of it if the loop ends here for lack of progress
          have hspec : PullSpec ilen (a1.input r.len) a' rest0 rest (ilen :: reqs) reqs' := by
            split at h
            · exact ih _ _ _ _ _ _ _ _ _ h herr2
            · cases h; exact PullSpec.nothing herr2 rfl rfl rfl (fun _ => ⟨rfl, rfl⟩)
          obtain ⟨⟨used, u1, u2, u3, u4, u5, u6, u7⟩, s1, s2, s3⟩ := hspec
          have key : (∀ s ∈ (r :: used).dropLast, s.isData = true) ∧
              (a'.error = true ↔ (r :: used).getLast? = some .fail) ∧
              (a'.flushing = true ↔ ∃ s, (r :: used).getLast? = some s ∧ s.isEnd = true) ∧
              (a.eng.fl = false → a'.flushing = false →
                a'.eng.sin = a1.eng.sin + (r.len + dataSum used) ∧ a'.eng.fl = false) := by
            rcases Nat.eq_zero_or_pos r.len with h0 | hpos
            · -- an end answer latches end-of-input; the loop then asks nothing more
              have hfl2 := i6 herr1 h0
              obtain rfl : used = [] := u5 (Or.inl hfl2)
              have hend := Supply.isEnd_of_len hr h0
              exact ⟨(fun _ hs => nomatch hs), by simpa [hr] using u4, by simp [s3 hfl2, hend],
                fun _ hf => absurd (s3 hfl2) (by simp [hf])⟩
            · have hfl2 : (a1.input r.len).flushing = false := (i5 hpos).trans hnf
              obtain ⟨hdata, hend⟩ := Supply.isData_of_len hpos
              refine ⟨?_, ?_, ?_, fun hfl hf => ?_⟩
              · cases used with
                | nil => exact fun _ hs => nomatch hs
                | cons y t =>
                  intro s hs
                  rcases List.mem_cons.mp hs with rfl | hs
                  · exact hdata
                  · exact u3 s hs
              · rw [u4, List.getLast?_cons]; cases used.getLast? <;> simp [hr]
              · rw [u6 hfl2, List.getLast?_cons]; cases used.getLast? <;> simp [hend]
              · obtain ⟨j1, j2⟩ := input_sin herr1 hpos (hsin1.2.trans hfl)
                rw [← Nat.add_assoc, ← j1]; exact u7 j2 hf
          exact ⟨⟨r :: used, by rw [u1]; rfl, by rw [u2]; simp [List.replicate_succ'], key.1, key.2.1,
            fun hh => absurd hh hq, fun _ => key.2.2.1, fun hfl hf => by rw [dataSum_cons, ← hsin1.1]; exact key.2.2.2 hfl hf⟩,
            by rw [s1, i2, f3], by rw [s2, i3, f4], fun hh => absurd hh (by simp [hafl])⟩

/-- `soxr_output` on a resampler that is not in the error state: its pull loop, the request log put in call order -/
theorem output_eq {num : Num} {fuel : Nat} {a : Api} {len0 : Nat} {script : List Supply} (herr : a.error = false) :
    a.output num fuel len0 script =
      (pullLoop num fuel len0 (min a.maxIlen (num.iForO len0)) (script.length + 2) a len0 0 script []).map
        fun r => (r.1, r.2.1, r.2.2.1, r.2.2.2.reverse) := by
  simp only [Api.output, herr, Bool.false_eq_true, if_false]
  split <;> simp [*]

/-- … and on one that is: no call, no output, state unchanged -/
theorem output_of_error {num : Num} {fuel : Nat} {a : Api} {len0 : Nat} {script : List Supply} (herr : a.error = true) :
    a.output num fuel len0 script = some (a, 0, script, []) := by
  rw [Api.output, if_pos herr]

theorem output_spec {num : Num} {fuel : Nat} {a a' : Api} {len0 od : Nat} {script rest : List Supply} {reqs : List Nat}
    (herr : a.error = false) (h : a.output num fuel len0 script = some (a', od, rest, reqs)) :
    ∃ reqs', reqs = reqs'.reverse ∧ PullSpec (min a.maxIlen (num.iForO len0)) a a' script rest [] reqs' := by
  rw [output_eq herr, Option.map_eq_some_iff] at h
  obtain ⟨⟨_, _, _, reqs'⟩, hp, he⟩ := h
  cases he
  exact ⟨reqs', rfl, pullLoop_spec num fuel len0 _ _ a len0 0 script [] _ _ _ reqs' hp herr⟩

end Soxr.Cr
