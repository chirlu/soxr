import SoxrModel.Cr.ApiLemmas
/-!
# Streaming histories at engine level: any interleaving of `_soxr_input(n)` and `_soxr_process + _soxr_output(n0)`
-/
namespace Soxr.Cr

inductive StreamOp | feed (n : Nat) | take (n0 : Nat)
  deriving Repr

/-- `Streams e ops fed delivered e'`: running `ops` from `e` accepts `fed` frames, delivers `delivered`, ends in `e'` -/
inductive Streams : Eng → List StreamOp → Nat → Nat → Eng → Prop
  | nil (e : Eng) : Streams e [] 0 0 e
  | feed (e : Eng) (n : Nat) (ops : List StreamOp) (F D : Nat) (e' : Eng) :
      Streams (e.input n) ops F D e' → Streams e (.feed n :: ops) (n + F) D e'
  | take (e : Eng) (n0 fuel : Nat) (e1 : Eng) (ops : List StreamOp) (F D : Nat) (e' : Eng) :
      e.process fuel n0 = some e1 → Streams (e1.output n0).1 ops F D e' →
      Streams e (.take n0 :: ops) F ((e1.output n0).2.toNat + D) e'

structure Streaming (e : Eng) : Prop where
  fl : e.fl = false
  wf : PipeWF e.stages
  ne : e.stages ≠ []

theorem Streaming.ok {e : Eng} (h : Streaming e) : e.OK := ⟨h.ne, h.wf⟩

theorem streaming_input {e : Eng} (h : Streaming e) (n : Nat) :
    Streaming (e.input n) ∧ (e.input n).sin = e.sin + n ∧ (e.input n).sout = e.sout ∧ (e.input n).outOcc = e.outOcc := by
  have ok := h.ok.input n
  have hc : (e.input n).fl = false ∧ (e.input n).sin = e.sin + n ∧ (e.input n).sout = e.sout ∧
      (e.input n).outOcc = e.outOcc := by
    unfold Eng.input
    rw [if_neg (by simp [h.fl])]
    cases hs : e.stages with
    | nil => exact absurd hs h.ne
    | cons x r => exact ⟨h.fl, rfl, rfl, rfl⟩
  exact ⟨⟨hc.1, ok.wf, ok.ne⟩, hc.2⟩

theorem target_streaming {e : Eng} (h : e.fl = false) (n0 : Nat) : e.target n0 = n0 := by
  unfold Eng.target; simp [h]

theorem streaming_output {e : Eng} (h : Streaming e) (n0 : Nat) :
    Streaming (e.output n0).1 ∧ (e.output n0).1.sin = e.sin ∧ 0 ≤ (e.output n0).2 ∧
    (e.output n0).1.sout = e.sout + (e.output n0).2 ∧ (e.output n0).2 ≤ n0 := by
  unfold Eng.output
  rw [target_streaming h.fl]
  refine ⟨⟨h.fl, h.wf, h.ne⟩, rfl, ?_, rfl, ?_⟩
  · show (0 : Int) ≤ min (n0 : Int) (e.outOcc : Int); omega
  · show min (n0 : Int) (e.outOcc : Int) ≤ n0; omega

theorem streaming_process {e e1 : Eng} (h : Streaming e) (olen fuel : Nat) (hp : e.process fuel olen = some e1) :
    Streaming e1 ∧ e1.sin = e.sin ∧ e1.sout = e.sout :=
  have hs := process_same hp
  have ok := h.ok.process hp
  ⟨⟨hs.fl.trans h.fl, ok.wf, ok.ne⟩, hs.sin, hs.sout⟩

/-- counters along a streaming history: `samples_in` is what was accepted, `samples_out` what was delivered -/
theorem streams_counters : ∀ (ops : List StreamOp) (e : Eng) (F D : Nat) (e' : Eng), Streaming e → Streams e ops F D e' →
    Streaming e' ∧ e'.sin = e.sin + F ∧ e'.sout = e.sout + D := by
  intro ops
  induction ops with
  | nil => intro e F D e' h hs; cases hs; exact ⟨h, by simp, by simp⟩
  | cons op ops ih =>
    intro e F D e' h hs
    cases hs with
    | feed _ n _ F' _ _ hr =>
      obtain ⟨h1, hsin, hsout, _⟩ := streaming_input h n
      obtain ⟨g1, g2, g3⟩ := ih _ _ _ _ h1 hr
      exact ⟨g1, by rw [g2, hsin]; omega, by rw [g3, hsout]⟩
    | take _ n0 fuel e1 _ _ D' _ hp hr =>
      obtain ⟨h1, psin, psout⟩ := streaming_process h n0 fuel hp
      obtain ⟨h2, osin, onn, osout, _⟩ := streaming_output h1 n0
      obtain ⟨g1, g2, g3⟩ := ih _ _ _ _ h2 hr
      refine ⟨g1, by rw [g2, osin, psin], ?_⟩
      rw [g3, osout, psout]
      have : (((e1.output n0).2.toNat : Nat) : Int) = (e1.output n0).2 := Int.toNat_of_nonneg onn
      omega

/-- every streaming history can be run: each call terminates -/
theorem streams_total : ∀ (ops : List StreamOp) (e : Eng), Streaming e → ∃ F D e', Streams e ops F D e' := by
  intro ops
  induction ops with
  | nil => intro e _; exact ⟨0, 0, e, Streams.nil e⟩
  | cons op ops ih =>
    intro e h
    cases op with
    | feed n =>
      obtain ⟨F, D, e', hr⟩ := ih _ (streaming_input h n).1
      exact ⟨n + F, D, e', Streams.feed e n ops F D e' hr⟩
    | take n0 =>
      obtain ⟨fuel, e1, hp⟩ := process_total e n0 h.ok
      obtain ⟨F, D, e', hr⟩ := ih _ (streaming_output (streaming_process h n0 fuel hp).1 n0).1
      exact ⟨F, _, e', Streams.take e n0 fuel e1 ops F D e' hp hr⟩

end Soxr.Cr
