import SoxrModel.Cr.Stream
/-!
# End of input after a streaming history

A fresh engine is streamed through any history, `_soxr_flush` runs, any requests follow.  If nothing was handed out early
(`D ≤ owed N`) the drain is the one of `calls_draining` with `owed N − D` frames to come, `samples_in` stays 0 and
`−samples_out` counts down what is still owed (`drain_after_stream`): C03's total and C15's delay after end-of-input both read
their claim off this.
-/
namespace Soxr.Cr

theorem calls_draining_sin (num : Num) : ∀ (reqs : List Nat) (a : Api) (ods : List Nat) (a2 : Api), a.flushing = true → Draining a.eng →
    Calls num a reqs ods a2 → a2.eng.sin = a.eng.sin
  | [], a, _, _, _, _, .nil _ => rfl
  | n :: r, a, _, a2, hfl, hd, .cons _ a1 _ _ od _ ods fuel hcall hrest => by
    obtain ⟨f2, a1', hcall', hfl1, hd1, -⟩ := outputNoCb_draining num a n hfl hd
    obtain ⟨rfl, -⟩ := Prod.mk.inj (outputNoCb_det num a n fuel f2 _ _ hcall hcall')
    exact (calls_draining_sin num r a1 ods a2 hfl1 hd1 hrest).trans (outputNoCb_sin hcall fun _ => hd.fl).1

/-- **What the drain delivers and what the counters say.**  `a1` is any API object that is flushing and whose engine is the
    streamed one after `_soxr_flush`. -/
theorem drain_after_stream (num : Num) (e e' : Eng) (ops : List StreamOp) (N D : Nat) (hsin : e.sin = 0) (hsout : e.sout = 0)
    (hstr : Streaming e) (hs : Streams e ops N D e') (hearly : D ≤ num.owed N)
    (a1 : Api) (ha : a1.eng = e'.flush num.owed) (hfl : a1.flushing = true) (reqs ods : List Nat) (a2 : Api)
    (hc : Calls num a1 reqs ods a2) :
    ods = drainSpec (num.owed N - D) reqs ∧ a2.eng.sin = 0 ∧ a2.eng.sout ≤ 0 ∧
      a2.eng.sout = (D : Int) + ods.sum - num.owed N := by
  obtain ⟨hst', h2, h3⟩ := streams_counters ops e N D e' hstr hs
  have hfle : a1.eng = { e' with sout := (D : Int) - num.owed N, sin := 0, fl := true } := by
    rw [ha, Eng.flush, if_neg (by simp [hst'.fl]), h2, h3, hsin, hsout, Nat.zero_add, Int.zero_add]
  have hd : Draining a1.eng := by
    rw [hfle]; exact ⟨rfl, by show (D : Int) - num.owed N ≤ 0; omega, hst'.wf, hst'.ne⟩
  have ho : a1.eng.owedLeft = num.owed N - D := by
    rw [hfle]; show (-((D : Int) - num.owed N)).toNat = _; omega
  obtain ⟨a', hc', _, hd', ho'⟩ := calls_draining num reqs a1 hfl hd
  obtain ⟨rfl, rfl⟩ := calls_det num reqs a1 _ _ _ _ hc hc'
  have hsum := drainSpec_sum a1.eng.owedLeft reqs
  refine ⟨by rw [ho], ?_, hd'.sout, ?_⟩
  · rw [calls_draining_sin num reqs a1 _ _ hfl hd hc, hfle]
  · have := hd'.sout
    have : a2.eng.owedLeft = (-a2.eng.sout).toNat := rfl
    omega

end Soxr.Cr
