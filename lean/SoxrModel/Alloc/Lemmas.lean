import SoxrModel.Alloc.Model

/-!
# C20 — specifications of the model's functions (total correctness: no fault, and what is live afterwards)

`h.live.Perm (blocks ++ F)` is the ownership statement used throughout: the live blocks are *exactly* (as a multiset)
the blocks reachable from the object plus a frame `F` of foreign blocks that no operation touches.  Multiset equality
makes double frees impossible to hide: a block that is freed twice would have to be live twice.

Three judgements carry the proofs, each with one rule for `>>=`:
* `Spec m X a Y` for code that makes no allocation call (`soxr_delete0`, `fatal_error`, `soxr_delete`): from `X` live
  it returns `a` and leaves `Y` live;
* `Run fail c ss r ok err` for code that allocates: `r` is what the first failing call among the sites `ss` dictates
  (`classify`), so a statement about one oracle, `failAt k`, and a statement about all oracles are both read off it;
* `Safe fail c r Q` for whole operations and jobs under any oracle: `r` is a return with `Q` or the dereference of a
  failed allocation's NULL, never a double free or a use after free.
-/

namespace Soxr.Alloc
open List

@[simp] theorem pure_apply {α} (a : α) (h : Heap) : (Pure.pure a : M α) h = Res.ok a h := rfl

@[simp] theorem bind_apply {α β} (m : M α) (f : α → M β) (h : Heap) :
    (m >>= f) h = match m h with
      | .ok a h' => f a h'
      | .fault e => .fault e := rfl

/-- One step of symbolic execution.  A recursive function of the model is opened for it by
`show … ((m >>= _) h) …`, not by `rw [f]`: rewriting with `f` would make Lean derive `f`'s unfolding lemma in this
module, which is slow. -/
theorem bind_ok {α β} {m : M α} {f : α → M β} {h h' : Heap} {a : α} (e : m h = .ok a h') : (m >>= f) h = f a h' := by
  rw [bind_apply, e]

@[simp] theorem tick_apply (fail : Nat → Bool) (h : Heap) :
    tick fail h = .ok (if fail h.count then none else some h.count) { h with count := h.count + 1 } := rfl

@[simp] theorem addLive_apply (b : Blk) (h : Heap) : addLive b h = .ok () { h with live := b :: h.live } := rfl

@[simp] theorem addCache_apply (b : Blk) (h : Heap) : addCache b h = .ok () { h with cache := b :: h.cache } := rfl

@[simp] theorem free_none (h : Heap) : free none h = .ok () h := rfl

theorem free_some {b : Blk} {h : Heap} (hb : b ∈ h.live) :
    free (some b) h = .ok () { h with live := h.live.erase b } := by
  simp [free, hb]

theorem derefLive_ok {b : Blk} {h : Heap} (hb : b ∈ h.live) : derefLive b h = .ok () h := by
  simp [derefLive, hb]

@[simp] theorem derefNull_apply {α} (s : String) (h : Heap) : (derefNull s : M α) h = .fault (.derefNull s) := rfl

@[simp] theorem liveCount_apply (h : Heap) : liveCount h = .ok h.live.length h := rfl

theorem calloc_cases (fail : Nat → Bool) (h : Heap) :
    ∃ p, calloc fail h = .ok p { h with count := h.count + 1, live := p.toList ++ h.live } ∧
      (fail h.count = true ∧ p = none ∨ fail h.count = false ∧ p = some h.count) := by
  cases hf : fail h.count <;> simp [calloc, hf]

@[simp] theorem chansBlocks_nil : chansBlocks [] = [] := rfl
@[simp] theorem chansBlocks_none (cs : List (Option Chan)) : chansBlocks (none :: cs) = chansBlocks cs := rfl
@[simp] theorem chansBlocks_some (c : Chan) (cs : List (Option Chan)) :
    chansBlocks (some c :: cs) = c.blk :: (c.own ++ chansBlocks cs) := rfl

@[simp] theorem chansBlocks_append : ∀ (a b : List (Option Chan)), chansBlocks (a ++ b) = chansBlocks a ++ chansBlocks b
  | [], b => rfl
  | none :: a, b => by simpa using chansBlocks_append a b
  | some c :: a, b => by simp [chansBlocks_append a b]

@[simp] theorem chansBlocks_map_none {α} : ∀ (l : List α), chansBlocks (l.map (fun _ => none)) = []
  | [] => rfl
  | _ :: l => by simpa using chansBlocks_map_none l

/-- Closes `l₁ ~ l₂` for two lists put together from the same pieces by `++`, `::` and `chansBlocks`: every block
occurs equally often on both sides. -/
macro "perm_count" : tactic =>
  `(tactic| (simp only [perm_iff_count, count_append, count_cons, count_nil, Option.toList_some, Option.toList_none,
               chansBlocks_nil, chansBlocks_none, chansBlocks_some, chansBlocks_append, chansBlocks_map_none]
             omega))

/-- Well-formedness of an object: what `soxr_delete0`'s `if (p->resamplers)` skips must be empty, and blocks hang off
`*shared` only when some channel exists to close them. -/
def WF (o : Obj) : Prop :=
  (o.resamplers = none → chansBlocks o.chans = [] ∧ o.sharedOwn = []) ∧
  (o.sharedOwn ≠ [] → ∃ c, some c ∈ o.chans)

/-- the object owns exactly `o.blocks`; `F` is everything else that is live -/
def Owns (o : Obj) (h : Heap) (F : List Blk) : Prop := h.live.Perm (o.blocks ++ F)

theorem Owns.self_mem {o : Obj} {h : Heap} {F : List Blk} (own : Owns o h F) : o.self ∈ h.live :=
  own.mem_iff.mpr (by simp [Obj.blocks])

/-- ownership sees the channels' blocks, not where the NULL entries of the array are -/
theorem Owns.congr_chans {o : Obj} {h : Heap} {F : List Blk} {cs : List (Option Chan)} (own : Owns o h F)
    (hcs : chansBlocks cs = chansBlocks o.chans) : Owns { o with chans := cs } h F := by
  simpa [Owns, Obj.blocks, hcs] using own

/-- every reachable object: well-formed, and either wholly initialised or wholly not -/
def Good (o : Obj) : Prop :=
  WF o ∧ (o.channelPtrs = none → o.shared = none ∧ o.resamplers = none ∧ o.sharedOwn = [])

/-- an object on which `initialise` may run: no error, nothing allocated yet -/
def Fresh (o : Obj) : Prop :=
  o.error = false ∧ o.channelPtrs = none ∧ o.shared = none ∧ o.resamplers = none ∧ o.sharedOwn = []

theorem wf_zero (o : Obj) : WF o.zero := by simp [WF, Obj.zero]
theorem wf_errState (o : Obj) : WF o.errState := by simp [WF, Obj.errState]
@[simp] theorem blocks_zero (o : Obj) : o.zero.blocks = [o.self] := by simp [Obj.blocks, Obj.zero]
@[simp] theorem blocks_errState (o : Obj) : o.errState.blocks = [o.self] := by simp [Obj.blocks, Obj.errState]
theorem good_errState (o : Obj) : Good o.errState := by simp [Good, WF, Obj.errState]
theorem good_zero (o : Obj) (n : Nat) : Good { o.zero with numChannels := n } := by simp [Good, WF, Obj.zero]

/-- Run with `X` live, `m` returns `a` without a fault and leaves `Y` live; it makes no allocation call.

A sequence is verified by a chain of `Spec.bind`s in which every rule frees from the *front* of its list
(`Spec.free`, `Spec.freeAll`), so that unification, from the last link backwards, finds the list the whole chain
starts from; that this list is a rearrangement of what is live (`Spec.perm`) is the one thing left to check. -/
def Spec {α} (m : M α) (X : List Blk) (a : α) (Y : List Blk) : Prop :=
  ∀ h : Heap, h.live ~ X → ∃ L, m h = .ok a { h with live := L } ∧ L ~ Y

section
variable {α β : Type} {m : M α} {f : α → M β} {a : α} {b : β} {X X' Y Z : List Blk}

theorem Spec.pure : Spec (Pure.pure a) X a X := fun h hp => ⟨h.live, rfl, hp⟩

theorem Spec.bind (hm : Spec m X a Y) (hf : Spec (f a) Y b Z) : Spec (m >>= f) X b Z := fun h hp =>
  let ⟨L, e, p⟩ := hm h hp
  let ⟨L', e', p'⟩ := hf { h with live := L } p
  ⟨L', by rw [bind_ok e, e'], p'⟩

theorem Spec.perm (hX : X' ~ X) (hm : Spec m X a Y) : Spec m X' a Y := fun h hp => hm h (hp.trans hX)

end

theorem Spec.derefLive {b : Blk} {X : List Blk} (hb : b ∈ X) : Spec (derefLive b) X () X := fun h hp =>
  ⟨h.live, derefLive_ok (hp.mem_iff.mpr hb), hp⟩

theorem Spec.free {p : Option Blk} {Y : List Blk} : Spec (free p) (p.toList ++ Y) () Y := fun h hp => by
  cases p with
  | none => exact ⟨h.live, rfl, hp⟩
  | some b => exact ⟨_, free_some (hp.mem_iff.mpr (by simp)), by simpa using hp.erase b⟩

theorem Spec.freeAll : ∀ {bs Y : List Blk}, Spec (freeAll bs) (bs ++ Y) () Y
  | [], _ => Spec.pure
  | _ :: _, _ => Spec.free.bind Spec.freeAll

/-- `rs` is read in every round, so it must be in the frame; the first `close` frees `sh`, so some channel must exist
when `sh` is not empty.  The order in which a channel's blocks are freed is not the order of `chansBlocks`: one
rearrangement per round. -/
theorem delChans_spec {rs : Blk} {R : List Blk} (hrs : rs ∈ R) : ∀ (cs : List (Option Chan)) (sh : List Blk),
    (sh ≠ [] → ∃ c, some c ∈ cs) → Spec (delChans rs cs sh) (chansBlocks cs ++ sh ++ R) () R
  | [], [], _ => Spec.pure
  | [], _ :: _, hsh => by simpa using hsh (by simp)
  | none :: cs, sh, hsh => (Spec.derefLive (by simp [hrs])).bind <| Spec.free.bind <|
      delChans_spec hrs cs sh fun h0 => (hsh h0).imp fun c hc => by simpa using hc
  | some c :: cs, sh, _ => Spec.perm (by perm_count) <| (Spec.derefLive (by simp [hrs])).bind <|
      (Spec.derefLive (by simp)).bind <| Spec.freeAll.bind <| Spec.freeAll.bind <| Spec.free.bind <|
      delChans_spec hrs cs [] (by simp)

theorem delete0_spec (o : Obj) (F : List Blk) (wf : WF o) : Spec (delete0 o) (o.blocks ++ F) o.zero (o.self :: F) := by
  obtain ⟨self, n, e, cp, sh, rs, cs, so⟩ := o
  cases rs with
  | none =>
    obtain ⟨hc, rfl⟩ := wf.1 rfl
    exact Spec.perm (by simp only [Obj.blocks, hc]; perm_count) <| (Spec.derefLive (by simp)).bind <|
      Spec.free.bind <| Spec.free.bind <| Spec.free.bind Spec.pure
  | some rs =>
    exact Spec.perm (by simp only [Obj.blocks]; perm_count) <| (Spec.derefLive (by simp)).bind <|
      (delChans_spec (by simp) cs so wf.2).bind <| Spec.free.bind <| Spec.free.bind <| Spec.free.bind Spec.pure

theorem fatalError_spec (o : Obj) (F : List Blk) (wf : WF o) :
    Spec (fatalError o) (o.blocks ++ F) o.errState (o.self :: F) :=
  (delete0_spec o F wf).bind <| (Spec.derefLive (by simp [Obj.zero])).bind Spec.pure

theorem delete_spec (o : Obj) (F : List Blk) (wf : WF o) : Spec (delete o) (o.blocks ++ F) () F :=
  (delete0_spec o F wf).bind Spec.free

theorem delete_errState (self : Blk) (F : List Blk) :
    Spec (delete { self := self, numChannels := 0, error := true }) (self :: F) () F :=
  delete_spec _ F (wf_errState { self := self, numChannels := 0 })

/-- `soxr_delete0` on an object that `fatal_error` has just torn down frees nothing at all: the heap is untouched. -/
theorem delete0_errState (o : Obj) (h : Heap) (hself : o.self ∈ h.live) :
    delete0 o.errState h = .ok o.zero h := by
  simp [delete0, Obj.errState, Obj.zero, derefLive_ok hself]

def NoFail (fail : Nat → Bool) (a b : Nat) : Prop := ∀ k, a ≤ k → k < b → fail k = false

theorem NoFail.cons {fail : Nat → Bool} {c b : Nat} (hf : fail c = false) (h : NoFail fail (c + 1) b) : NoFail fail c b :=
  fun k h1 h2 => if hk : k = c then hk ▸ hf else h k (by omega) h2

theorem NoFail.trans {fail : Nat → Bool} {a b c : Nat} (h1 : NoFail fail a b) (h2 : NoFail fail b c) : NoFail fail a c :=
  fun k ha hc => if hb : k < b then h1 k ha hb else h2 k (by omega) hc

@[simp] theorem classify_nil (fail : Nat → Bool) (c : Nat) : classify fail c [] = .allOk := rfl

theorem classify_cons (fail : Nat → Bool) (c : Nat) (s : Site) (ss : List Site) :
    classify fail c (s :: ss) =
      if fail c then (match s.kind with | .checked => .errAt c s | .unchecked => .crashAt c s)
      else classify fail (c + 1) ss := rfl

theorem classify_append (fail : Nat → Bool) : ∀ (a b : List Site) (c : Nat),
    classify fail c (a ++ b) = match classify fail c a with
      | .allOk => classify fail (c + a.length) b
      | r => r
  | [], b, c => rfl
  | s :: a, b, c => by
      cases hf : fail c
      · simpa [classify_cons, hf, Nat.add_assoc, Nat.add_comm 1] using classify_append fail a b (c + 1)
      · cases hk : s.kind <;> simp [classify_cons, hf, hk]

/-- call `k` is the first of the calls numbered from `c` to fail, and `s` is its site -/
def FirstFail (fail : Nat → Bool) (c : Nat) (ss : List Site) (k : Nat) (s : Site) : Prop :=
  fail k = true ∧ c ≤ k ∧ ss[k - c]? = some s ∧ NoFail fail c k

/-- what each outcome says about the oracle -/
theorem classify_first (fail : Nat → Bool) : ∀ (ss : List Site) (c : Nat),
    match classify fail c ss with
    | .allOk => NoFail fail c (c + ss.length)
    | .errAt k s => s.kind = .checked ∧ FirstFail fail c ss k s
    | .crashAt k s => s.kind = .unchecked ∧ FirstFail fail c ss k s
  | [], c => fun k h1 h2 => by simp at h2; omega
  | t :: ss, c => by
      cases hf : fail c
      · have ih := classify_first fail ss (c + 1)
        have next : ∀ k s, FirstFail fail (c + 1) ss k s → FirstFail fail c (t :: ss) k s :=
          fun k s ⟨f1, f2, f3, f4⟩ =>
            ⟨f1, by omega, by rw [show k - c = k - (c + 1) + 1 by omega]; simpa using f3, f4.cons hf⟩
        simp only [classify_cons, hf, Bool.false_eq_true, if_false]
        cases hcl : classify fail (c + 1) ss <;> rw [hcl] at ih
        · exact (Nat.add_right_comm c 1 _ ▸ ih : NoFail fail (c + 1) _).cons hf
        · exact ⟨ih.1, next _ _ ih.2⟩
        · exact ⟨ih.1, next _ _ ih.2⟩
      · have here : FirstFail fail c (t :: ss) c t := ⟨hf, Nat.le_refl c, by simp, fun k h1 h2 => by omega⟩
        cases hk : t.kind <;> simpa [classify_cons, hf, hk] using here

theorem classify_errAt (fail : Nat → Bool) : ∀ (ss : List Site) (c k : Nat) (s : Site),
    classify fail c ss = .errAt k s →
      s.kind = .checked ∧ fail k = true ∧ c ≤ k ∧ ss[k - c]? = some s ∧ NoFail fail c k :=
  fun ss c k s hcl => by have := classify_first fail ss c; rwa [hcl] at this

theorem classify_failAt : ∀ (ss : List Site) (c k : Nat),
    classify (failAt (c + k)) c ss =
      match ss[k]? with
      | none => .allOk
      | some s => match s.kind with
        | .checked => .errAt (c + k) s
        | .unchecked => .crashAt (c + k) s
  | [], c, k => by simp
  | s :: ss, c, 0 => by
      cases hk : s.kind <;> simp [classify_cons, failAt, hk]
  | s :: ss, c, k + 1 => by
      have hne : failAt (c + (k + 1)) c = false := by simp [failAt]
      simpa [classify_cons, hne, Nat.add_assoc, Nat.add_comm 1] using classify_failAt ss (c + 1) k

/-- `r` is a return without fault whose value and heap satisfy `Q` -/
def Res.sat {α} (r : Res α) (Q : α → Heap → Prop) : Prop := ∃ a h, r = .ok a h ∧ Q a h

/-- `r` is the run of a computation whose allocation calls, numbered from `c`, are made at the sites `ss` in this
order, and it ended as the first failing call dictates: none fails, all calls were made and `ok` holds; it is at a
checked site, `err` holds; it is at an unchecked site, the NULL it returned was dereferenced. -/
def Run {α} (fail : Nat → Bool) (c : Nat) (ss : List Site) (r : Res α) (ok err : α → Heap → Prop) : Prop :=
  match classify fail c ss with
  | .allOk => r.sat fun a h => h.count = c + ss.length ∧ ok a h
  | .errAt _ _ => r.sat err
  | .crashAt _ s => r = .fault (.derefNull s.name)

section
variable {α β : Type} {fail : Nat → Bool} {c k : Nat} {s : Site} {ss ss₂ : List Site} {r : Res α}
  {m : M α} {f : α → M β} {h : Heap} {ok ok₁ err err₁ : α → Heap → Prop} {ok₂ err₂ : β → Heap → Prop}

theorem Run.nil (hr : r.sat fun a h => h.count = c ∧ ok a h) : Run fail c [] r ok err := hr

theorem Run.cons_err (hf : fail c = true) (hk : s.kind = .checked) (hr : r.sat err) : Run fail c (s :: ss) r ok err := by
  simpa [Run, classify_cons, hf, hk] using hr

theorem Run.cons_crash (hf : fail c = true) (hk : s.kind = .unchecked) (hr : r = .fault (.derefNull s.name)) :
    Run fail c (s :: ss) r ok err := by
  simpa [Run, classify_cons, hf, hk] using hr

theorem Run.cons_ok (hf : fail c = false) (hr : Run fail (c + 1) ss r ok err) : Run fail c (s :: ss) r ok err := by
  simpa [Run, classify_cons, hf, Nat.add_assoc, Nat.add_comm 1] using hr

/-- the calls of `m >>= f` are those of `m` followed by those of `f`; after an error in `m` the rest (`fatal_error`,
`soxr_delete`) must get through without another -/
theorem Run.bind (hm : Run fail c ss (m h) ok₁ err₁)
    (hok : ∀ a h', h'.count = c + ss.length → ok₁ a h' → Run fail h'.count ss₂ (f a h') ok₂ err₂)
    (herr : ∀ a h', err₁ a h' → (f a h').sat err₂) : Run fail c (ss ++ ss₂) ((m >>= f) h) ok₂ err₂ := by
  unfold Run at hm ⊢
  rw [classify_append]
  cases hcl : classify fail c ss <;> rw [hcl] at hm
  · obtain ⟨a, h', e, hc, ho⟩ := hm
    have := hok a h' hc ho
    rw [hc] at this
    rw [bind_ok e]
    simpa [Run, Nat.add_assoc] using this
  · obtain ⟨a, h', e, he⟩ := hm
    exact bind_ok e ▸ herr a h' he
  · simp [hm]

theorem Run.map (hm : Run fail c ss (m h) ok₁ err₁)
    (hok : ∀ a h', ok₁ a h' → (f a h').sat fun b h'' => h''.count = h'.count ∧ ok₂ b h'')
    (herr : ∀ a h', err₁ a h' → (f a h').sat err₂) : Run fail c ss ((m >>= f) h) ok₂ err₂ :=
  ss.append_nil ▸ Run.bind hm (fun a h' _ ho => Run.nil (hok a h' ho)) herr

/-- every oracle: no call failed, or an error was handled, or an unchecked site dereferenced its NULL -/
theorem Run.elim (hr : Run fail c ss r ok err) :
    (r.sat fun a h => ok a h ∧ c ≤ h.count ∧ NoFail fail c h.count) ∨ r.sat err ∨
    ∃ s k, r = .fault (.derefNull s.name) ∧ s.kind = .unchecked ∧ s ∈ ss ∧ c ≤ k ∧ fail k = true := by
  have hf := classify_first fail ss c
  unfold Run at hr
  cases hcl : classify fail c ss <;> rw [hcl] at hr hf
  · obtain ⟨a, h, e, hc, ho⟩ := hr
    exact .inl ⟨a, h, e, ho, by omega, hc ▸ hf⟩
  · exact .inr (.inl hr)
  · exact .inr (.inr ⟨_, _, hr, hf.1, mem_of_getElem? hf.2.2.2.1, hf.2.2.1, hf.2.1⟩)

/-- the single-failure oracle: the site at the failing index decides -/
theorem Run.of_failAt (hr : Run (failAt (c + k)) c ss r ok err) (hk : ss[k]? = some s) :
    (s.kind = .checked → r.sat err) ∧ (s.kind = .unchecked → r = .fault (.derefNull s.name)) := by
  rw [Run, classify_failAt, hk] at hr
  cases hs : s.kind <;> simpa [hs] using hr

end

def engBlocks (st : EngSt) : List Blk := st.temps ++ st.own ++ st.sh

/-- `engCreate` returned `err` and the engine holds exactly its blocks: all of them left for `close` after an error -/
def EngPost (R : List Blk) (err : Bool) (r : Bool × EngSt) (h : Heap) : Prop :=
  r.1 = err ∧ h.live ~ engBlocks r.2 ++ R

theorem engCreate_spec (fail : Nat → Bool) (R : List Blk) : ∀ (ss : List Site) (st : EngSt) (h : Heap),
    h.live ~ engBlocks st ++ R →
    Run fail h.count ss (engCreate fail ss st h) (EngPost R false) (EngPost R true)
  | [], st, h, hp => by
      have sp : Spec (engCreate fail [] st) _ _ _ := (Spec.freeAll (Y := st.own ++ st.sh ++ R)).bind Spec.pure
      obtain ⟨L, e, p⟩ := sp h (by simpa [engBlocks] using hp)
      exact Run.nil ⟨_, _, e, rfl, rfl, p⟩
  | s :: ss, st, h, hp => by
      show Run _ _ _ ((tick fail >>= _) h) _ _
      rw [bind_ok (tick_apply fail h)]
      cases hf : fail h.count
      · refine Run.cons_ok hf ?_
        cases hl : s.life
        case static | grow => exact engCreate_spec fail R ss st ⟨_, _, _⟩ hp
        all_goals exact engCreate_spec fail R ss _ ⟨_, _, _⟩ ((hp.cons _).trans (by simp only [engBlocks]; perm_count))
      · cases hk : s.kind
        · exact Run.cons_err hf hk ⟨(true, st), _, rfl, rfl, hp⟩
        · exact Run.cons_crash hf hk rfl

/-- `initialise` succeeded: a fully built object stands in `o`'s place -/
def InitOk (F : List Blk) (r : Bool × Obj) (h : Heap) : Prop :=
  r.1 = false ∧ Good r.2 ∧ Owns r.2 h F ∧ r.2.error = false

/-- `initialise` failed and `fatal_error` has run: the object is zeroed and in error state, only its handle `self` is
left -/
def InitErr (self : Blk) (F : List Blk) (r : Bool × Obj) (h : Heap) : Prop :=
  r = (true, { self := self, numChannels := 0, error := true }) ∧ h.live ~ self :: F

theorem fatal_path {o : Obj} {h : Heap} {F : List Blk} (wf : WF o) (own : Owns o h F) :
    ((do let o' ← fatalError o; pure (true, o')) h).sat (InitErr o.self F) := by
  have sp : Spec (fatalError o >>= fun o' => pure (true, o')) _ _ _ := (fatalError_spec o F wf).bind Spec.pure
  obtain ⟨L, e, p⟩ := sp h own
  exact ⟨_, _, e, rfl, p⟩

theorem exists_some_mem {done : List Chan} (h : done ≠ []) (rest : List (Option Chan)) :
    ∃ c, some c ∈ done.map some ++ rest := by
  obtain ⟨c, l, rfl⟩ := exists_cons_of_ne_nil h
  exact ⟨c, by simp⟩

theorem initLoop_spec (fail : Nat → Bool) (rs sh cp : Blk) (F : List Blk) :
    ∀ (todo : List (List Site)) (done : List Chan) (o : Obj) (h : Heap),
    o.channelPtrs = some cp → o.shared = some sh → o.resamplers = some rs → o.error = false →
    Owns { o with chans := done.map some } h F → (o.sharedOwn ≠ [] → done ≠ []) →
    Run fail h.count (loopSeq todo) (initLoop fail rs sh o done todo h) (InitOk F) (InitErr o.self F)
  | [], done, o, h, hcp, hsh, hrs, herr, own, hso =>
      Run.nil ⟨_, _, rfl, rfl, rfl, ⟨⟨by simp [hrs], fun h0 => by simpa using exists_some_mem (hso h0) []⟩,
        by simp [hcp]⟩, own, herr⟩
  | e :: todo, done, o, h, hcp, hsh, hrs, herr, own, hso => by
      have hp : h.live ~ _ := own
      simp only [Obj.blocks, hcp, hsh, hrs] at hp
      show Run _ _ _ ((derefLive rs >>= _) h) _ _
      rw [bind_ok (derefLive_ok (hp.mem_iff.mpr (by simp)))]
      obtain ⟨p, ec, ⟨hf, rfl⟩ | ⟨hf, rfl⟩⟩ := calloc_cases fail h
      · -- the channel's `calloc` fails: `fatal_error` closes the channels built so far
        rw [bind_ok ec]
        exact Run.cons_err hf rfl (fatal_path ⟨by simp [hrs], fun h0 => exists_some_mem (hso h0) _⟩
          (own.congr_chans (by simp)))
      · -- the channel exists; `resampler_create` runs with everything else as its frame, and whatever it returns the
        -- object with this channel entered owns what is live
        simp only [bind_ok ec]
        rw [bind_ok (derefLive_ok mem_cons_self), bind_ok (derefLive_ok (mem_cons_of_mem _ (hp.mem_iff.mpr (by simp))))]
        let R := h.count :: o.self :: (chansBlocks (done.map some) ++ rs :: cp :: sh :: F)
        have entered : ∀ (st : EngSt) (h' : Heap), h'.live ~ engBlocks st ++ R →
            Owns { o with sharedOwn := st.sh, chans := (done ++ [Chan.mk h.count (st.temps ++ st.own)]).map some } h' F :=
          fun st h' hp' => hp'.trans (by
            simp only [R, Obj.blocks, engBlocks, hcp, hsh, hrs, map_append, map_cons, map_nil]; perm_count)
        refine Run.cons_ok hf (Run.bind (engCreate_spec fail R e ⟨[], [], o.sharedOwn⟩ ⟨_, _, _⟩
          ((hp.cons _).trans (by simp only [R, engBlocks]; perm_count))) ?_ ?_)
        · rintro ⟨_, st⟩ h' - ⟨rfl, hp'⟩
          exact initLoop_spec fail rs sh cp F todo _ { o with sharedOwn := st.sh } h' hcp hsh hrs herr
            (entered st h' hp') (by simp)
        · -- the engine returned an error string: `fatal_error` closes this channel too
          rintro ⟨_, st⟩ h' ⟨rfl, hp'⟩
          exact fatal_path ⟨by simp [hrs], fun _ => ⟨⟨h.count, st.temps ++ st.own⟩, by simp⟩⟩
            ((entered st h' hp').congr_chans (by simp))

section
variable (fail : Nat → Bool) (o : Obj) (engs : List (List Site)) (h : Heap) (F : List Blk)

theorem initialise_spec (fr : Fresh o) (hp : h.live ~ o.self :: F) :
    Run fail h.count (initSeq engs) (initialise fail o engs h) (InitOk F) (InitErr o.self F) := by
  obtain ⟨herr, -, -, -, hso⟩ := fr
  -- the three allocations are made unconditionally
  obtain ⟨cp, e1, hcp⟩ := calloc_cases fail h
  obtain ⟨sh, e2, hsh⟩ := calloc_cases fail ⟨h.count + 1, cp.toList ++ h.live, h.cache⟩
  obtain ⟨rs, e3, hrs⟩ := calloc_cases fail ⟨h.count + 2, sh.toList ++ (cp.toList ++ h.live), h.cache⟩
  rw [initialise, bind_ok (derefLive_ok (hp.mem_iff.mpr mem_cons_self)), bind_ok e1, bind_ok e2, bind_ok e3]
  let o1 : Obj := { o with channelPtrs := cp, shared := sh, resamplers := rs, chans := engs.map fun _ => none }
  have own1 : Owns o1 ⟨h.count + 3, rs.toList ++ (sh.toList ++ (cp.toList ++ h.live)), h.cache⟩ F :=
    (((hp.append_left _).append_left _).append_left _).trans (by simp only [Obj.blocks, o1, hso]; perm_count)
  -- then tested together: unless all three succeeded, `fatal_error`
  have fatal := fatal_path (o := o1) ⟨fun _ => by simp [o1, hso], fun hne => absurd hso hne⟩ own1
  obtain ⟨h0, rfl⟩ | ⟨h0, rfl⟩ := hcp
  · exact Run.cons_err h0 rfl fatal
  obtain ⟨h1, rfl⟩ | ⟨h1, rfl⟩ := hsh
  · exact Run.cons_ok h0 (Run.cons_err h1 rfl fatal)
  obtain ⟨h2, rfl⟩ | ⟨h2, rfl⟩ := hrs
  · exact Run.cons_ok h0 (Run.cons_ok h1 (Run.cons_err h2 rfl fatal))
  · exact Run.cons_ok h0 (Run.cons_ok h1 (Run.cons_ok h2 (initLoop_spec fail _ _ _ F engs [] o1 ⟨_, _, _⟩
      rfl rfl rfl herr (own1.congr_chans (by simp [o1])) (absurd hso))))

/-- on a fresh object with channels `soxr_set_io_ratio` is `initialise` -/
theorem setIoRatio_spec (fr : Fresh o) (hn : o.numChannels ≠ 0) (hp : h.live ~ o.self :: F) :
    Run fail h.count (initSeq engs) (setIoRatio fail o engs h) (InitOk F) (InitErr o.self F) := by
  have : setIoRatio fail o engs h = initialise fail o engs h := by
    simp [setIoRatio, derefLive_ok (hp.mem_iff.mpr mem_cons_self), fr.1, fr.2.1, hn]
  exact this ▸ initialise_spec fail o engs h F fr hp

theorem clear_spec (g : Good o) (own : Owns o h F) (hn : o.numChannels ≠ 0) :
    Run fail h.count (initSeq engs) (clear fail o true engs h) (InitOk F) (InitErr o.self F) := by
  obtain ⟨L, e, p⟩ := delete0_spec o F g.1 h own
  rw [clear, bind_ok (derefLive_ok own.self_mem), bind_ok e]
  exact setIoRatio_spec fail { o.zero with numChannels := o.numChannels } engs { h with live := L } F
    (by simp [Fresh, Obj.zero]) hn p

end

theorem create_spec (fail : Nat → Bool) (engs : List (List Site)) (init : Bool) (h : Heap) :
    Run fail h.count (createSeq engs init) (create fail engs init h)
      (fun r h' => ∃ o, r = some o ∧ Good o ∧ Owns o h' h.live ∧ o.error = false)
      (fun r h' => r = none ∧ h'.live ~ h.live) := by
  obtain ⟨p, e, ⟨hf, rfl⟩ | ⟨hf, rfl⟩⟩ := calloc_cases fail h
  · rw [create, bind_ok e]
    exact Run.cons_err hf rfl ⟨none, _, rfl, rfl, .refl _⟩
  · have hb : h.count ∈ h.count :: h.live := mem_cons_self
    simp only [create, bind_ok e]
    rw [bind_ok (derefLive_ok hb)]
    refine Run.cons_ok hf ?_
    by_cases hi : engs.length ≠ 0 ∧ init = true
    · rw [if_pos hi, if_pos hi]
      refine Run.map (setIoRatio_spec fail _ engs ⟨_, _, _⟩ h.live (by simp [Fresh]) hi.1 (.refl _)) ?_ ?_
      · rintro ⟨_, o⟩ h' ⟨rfl, g, own, he⟩
        exact ⟨_, _, rfl, rfl, o, rfl, g, own, he⟩
      · -- `fatal_error` has run; `soxr_delete` frees the handle
        rintro _ h' ⟨rfl, p⟩
        obtain ⟨L, e, pL⟩ := delete_errState _ h.live h' p
        exact ⟨none, { h' with live := L }, by simp [e], rfl, pL⟩
    · rw [if_neg hi, if_neg hi]
      exact Run.nil ⟨_, _, rfl, rfl, _, rfl, by simp [Good, WF], by simp [Owns, Obj.blocks], rfl⟩

/-- while it processes an engine has no checked site: `err` is empty -/
theorem engRun_spec (fail : Nat → Bool) : ∀ (ss : List Site) (h : Heap),
    Run fail h.count (ss.map uncheck) (engRun fail ss h) (fun _ h' => h'.live = h.live) (fun _ _ => False)
  | [], h => Run.nil ⟨(), h, rfl, rfl, rfl⟩
  | s :: ss, h => by
      show Run _ _ _ ((tick fail >>= _) h) _ _
      rw [bind_ok (tick_apply fail h)]
      cases hf : fail h.count
      · refine Run.cons_ok hf ?_
        cases hl : s.life <;> exact engRun_spec fail ss ⟨_, _, _⟩
      · exact Run.cons_crash hf rfl rfl

theorem process_spec (fail : Nat → Bool) (o : Obj) (ss : List Site) (h : Heap) (hs : o.self ∈ h.live)
    (he : o.error = false) :
    Run fail h.count (ss.map uncheck) (process fail o ss h) (fun r h' => r = (false, o) ∧ h'.live = h.live)
      (fun _ _ => False) := by
  rw [process, bind_ok (derefLive_ok hs), he]
  exact Run.map (engRun_spec fail ss h) (fun _ h' hl => ⟨_, _, rfl, rfl, rfl, hl⟩) nofun

theorem process_nil (fail : Nat → Bool) {o : Obj} {h : Heap} (hs : o.self ∈ h.live) :
    process fail o [] h = .ok (o.error, o) h := by
  rw [process, bind_ok (derefLive_ok hs)]
  cases o.error <;> rfl

/-- `r` involves no double free and no use after free: it is a return with `Q`, or the dereference of the NULL of an
allocation call, not before call `c`, that failed. -/
def Safe {α} (fail : Nat → Bool) (c : Nat) (r : Res α) (Q : α → Heap → Prop) : Prop :=
  match r with
  | .ok a h => Q a h
  | .fault (.derefNull _) => ∃ k, c ≤ k ∧ fail k = true
  | .fault _ => False

section
variable {α β : Type} {fail : Nat → Bool} {c c' : Nat} {ss : List Site} {r : Res α} {m : M α} {f : α → M β}
  {h : Heap} {Q Q' ok err : α → Heap → Prop} {Q₂ : β → Heap → Prop}

theorem Safe.mono (hr : Safe fail c' r Q) (hc : c ≤ c') (hQ : ∀ a h, Q a h → Q' a h) : Safe fail c r Q' :=
  match r, hr with
  | .ok a h, hr => hQ a h hr
  | .fault (.derefNull _), ⟨k, hk, hf⟩ => ⟨k, Nat.le_trans hc hk, hf⟩

theorem Safe.bind (hm : Safe fail c (m h) Q) (hf : ∀ a h', Q a h' → Safe fail c (f a h') Q₂) :
    Safe fail c ((m >>= f) h) Q₂ := by
  rw [bind_apply]
  match m h, hm with
  | .ok a h', hm => exact hf a h' hm
  | .fault (.derefNull _), hm => exact hm

theorem Run.safe (hr : Run fail c ss r ok err) :
    Safe fail c r fun a h => ok a h ∧ c ≤ h.count ∧ NoFail fail c h.count ∨ err a h := by
  obtain ⟨a, h, rfl, ho⟩ | ⟨a, h, rfl, he⟩ | ⟨s, k, rfl, -, -, hk⟩ := hr.elim
  · exact .inl ho
  · exact .inr he
  · exact ⟨k, hk⟩

end

/-- What an API call started in `h` leaves behind: a good, exactly owned object, and, unless it reported an error,
no allocation call has failed. -/
def Kept (fail : Nat → Bool) (F : List Blk) (h : Heap) (err : Bool) (o : Obj) (h' : Heap) : Prop :=
  Good o ∧ Owns o h' F ∧ (err = false → h.count ≤ h'.count ∧ NoFail fail h.count h'.count)

/-- What any API call of the model may do, whatever the oracle: keep the object good and exactly owned (reporting an
error or not — and if not, no allocation call failed), or dereference the NULL of a failed allocation.  Never a double
free, never a use after free. -/
def OpPost (fail : Nat → Bool) (F : List Blk) (h : Heap) (r : Res (Bool × Obj)) : Prop :=
  Safe fail h.count r fun a h' => Kept fail F h a.1 a.2 h'

section
variable {fail : Nat → Bool} {F : List Blk} {o o' o'' : Obj} {h h' h'' : Heap} {e : Bool}

theorem Kept.same (g : Good o) (own : Owns o h F) (e : Bool) : Kept fail F h e o h :=
  ⟨g, own, fun _ => ⟨Nat.le_refl _, fun k h1 h2 => by omega⟩⟩

theorem Kept.trans (h1 : Kept fail F h false o' h') (h2 : Kept fail F h' e o'' h'') : Kept fail F h e o'' h'' :=
  ⟨h2.1, h2.2.1, fun he => ⟨Nat.le_trans (h1.2.2 rfl).1 (h2.2.2 he).1, (h1.2.2 rfl).2.trans (h2.2.2 he).2⟩⟩

theorem Run.opPost {ss : List Site} {r : Res (Bool × Obj)} {self : Blk}
    (hr : Run fail h.count ss r (InitOk F) (InitErr self F)) : OpPost fail F h r :=
  hr.safe.mono (Nat.le_refl _) fun a h' hq => by
    obtain ⟨⟨-, g, own, -⟩, hc⟩ | ⟨rfl, p⟩ := hq
    · exact ⟨g, own, fun _ => hc⟩
    · exact ⟨good_errState { self := self, numChannels := 0 }, by simpa [Owns, Obj.blocks] using p, nofun⟩

end

section
variable (fail : Nat → Bool) (o : Obj) (engs : List (List Site)) (h : Heap) (F : List Blk) (g : Good o) (own : Owns o h F)
include g own

theorem setIoRatio_post : OpPost fail F h (setIoRatio fail o engs h) := by
  rw [setIoRatio, bind_ok (derefLive_ok own.self_mem)]
  split
  · exact Kept.same g own true
  rename_i herr
  split
  · exact Kept.same g own true
  cases hcp : o.channelPtrs
  · obtain ⟨h1, h2, h3⟩ := g.2 hcp
    exact (initialise_spec fail o engs h F ⟨by simpa using herr, hcp, h1, h2, h3⟩
      (by simpa [Owns, Obj.blocks, hcp, h1, h2, h3, (g.1.1 h2).1] using own)).opPost
  · exact Kept.same g own false

theorem setNumChannels_post : OpPost fail F h (setNumChannels fail o engs h) := by
  rw [setNumChannels, bind_ok (derefLive_ok own.self_mem)]
  split
  · exact Kept.same g own _
  split
  · exact Kept.same g own true
  split
  · exact Kept.same g own true
  · exact setIoRatio_post fail { o with numChannels := engs.length } engs h F g own

theorem clear_post (reset : Bool) : OpPost fail F h (clear fail o reset engs h) := by
  obtain ⟨L, e, p⟩ := delete0_spec o F g.1 h own
  have own1 : Owns { o.zero with numChannels := o.numChannels } { h with live := L } F := by
    simpa [Owns, Obj.blocks, Obj.zero] using p
  rw [clear, bind_ok (derefLive_ok own.self_mem), bind_ok e]
  cases reset
  · exact Kept.same (good_zero o _) own1 false
  · exact setIoRatio_post fail _ engs { h with live := L } F (good_zero o _) own1

theorem process_post (ss : List Site) : OpPost fail F h (process fail o ss h) := by
  cases herr : o.error
  · exact (process_spec fail o ss h own.self_mem herr).safe.mono (Nat.le_refl _) fun a h' hq => by
      obtain ⟨⟨rfl, hl⟩, hc⟩ | hq := hq
      · exact ⟨g, by rwa [Owns, hl], fun _ => hc⟩
      · exact hq.elim
  · rw [process, bind_ok (derefLive_ok own.self_mem), herr]
    exact Kept.same g own true

theorem runOp_post (op : Op) : OpPost fail F h (runOp fail o op h) := by
  cases op with
  | process ss => exact process_post fail o h F g own ss
  | clear r e => exact clear_post fail o e h F g own r
  | setRatio e => exact setIoRatio_post fail o e h F g own
  | setChannels e => exact setNumChannels_post fail o e h F g own

end

theorem runOps_post (fail : Nat → Bool) (F : List Blk) : ∀ (ops : List Op) (o : Obj) (i : Nat) (h : Heap),
    Good o → Owns o h F →
    Safe fail h.count (runOps fail o ops i h) fun a h' => Kept fail F h a.2.isSome a.1 h'
  | [], o, i, h, g, own => Kept.same g own _
  | op :: ops, o, i, h, g, own => by
      refine (runOp_post fail o h F g own op).bind fun ⟨err, o'⟩ h' hk => ?_
      cases err
      · exact (runOps_post fail F ops o' (i + 1) h' hk.1 hk.2.1).mono (hk.2.2 rfl).1 fun _ _ => hk.trans
      · exact ⟨hk.1, hk.2.1, nofun⟩

/-- The whole job, any oracle: either the NULL of a failed allocation is dereferenced (an unchecked site), or the job
ends with exactly the blocks live that were live before it started — and if no call reported an error, no allocation
call failed. -/
theorem runJob_post (fail : Nat → Bool) (j : Job) (h : Heap) :
    Safe fail h.count (runJob fail j h) fun v h' => h'.live ~ h.live ∧
      match v with
      | .completed m => m = h.live.length ∧ NoFail fail h.count h'.count
      | .createFailed n => n = h.live.length
      | .opFailed _ _ m => m = h.live.length := by
  rw [runJob]
  refine (create_spec fail j.engs j.init h).safe.bind fun r h1 hq => ?_
  obtain ⟨⟨o, rfl, g, own, -⟩, hc1⟩ | ⟨rfl, p⟩ := hq
  · refine ((runOps_post fail h.live j.ops o 0 h1 g own).mono hc1.1 fun _ _ hk => hk).bind fun ⟨o', x⟩ h2 hk => ?_
    obtain ⟨L, e, pL⟩ := delete_spec o' h.live hk.1.1 h2 hk.2.1
    cases x with
    | none =>
      simp only [bind_ok e]
      exact ⟨pL, pL.length_eq, hc1.2.trans (hk.2.2 rfl).2⟩
    | some x =>
      -- the object in error state is poked once more, then deleted
      simp only [bind_ok (process_nil fail hk.2.1.self_mem), bind_ok e]
      exact ⟨pL, pL.length_eq⟩
  · exact ⟨p, p.length_eq⟩

/-- the sites of `soxr.c` itself are all checked: an unchecked site of a job is a site of some channel's engine -/
theorem engine_of_unchecked_loop {s : Site} (hu : s.kind = .unchecked) :
    ∀ {engs : List (List Site)}, s ∈ loopSeq engs → ∃ e ∈ engs, s ∈ e
  | [], hs => nomatch hs
  | e :: es, hs => by
      replace hs : s ∈ siteChan :: (e ++ loopSeq es) := hs
      simp only [mem_cons, mem_append] at hs
      obtain rfl | h | h := hs
      · exact nomatch hu
      · exact ⟨e, by simp, h⟩
      · exact (engine_of_unchecked_loop hu h).imp fun _ ⟨he, hs⟩ => ⟨by simp [he], hs⟩

theorem engine_of_unchecked {engs : List (List Site)} {init : Bool} {s : Site} (hs : s ∈ createSeq engs init)
    (hu : s.kind = .unchecked) : ∃ e ∈ engs, s ∈ e := by
  have : s ∈ siteCreate :: siteChannelPtrs :: siteShared :: siteResamplers :: loopSeq engs := by
    unfold createSeq at hs; split at hs <;> simp_all [initSeq]
  simp only [mem_cons] at this
  obtain rfl | rfl | rfl | rfl | h := this
  iterate 4 exact nomatch hu
  exact engine_of_unchecked_loop hu h

end Soxr.Alloc
