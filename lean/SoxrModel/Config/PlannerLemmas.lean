import SoxrModel.Config.Planner
/-!
# The planner's rate decomposition: termination of the loops, structural bounds

Every definition a pass is made of gets one case lemma; the invariant `PInv` and the measure of the outer loop are then
case analyses over those, about an arbitrary `Core`.
-/
namespace Soxr.Config
open Dbl

theorem b2n_le (b : Bool) : b2n b ≤ 1 := by cases b <;> decide

/-- more fuel than bits changes nothing: `i >>= 1` reaches 0 within `f` rounds when `0 <= i < 2^f` -/
theorem halve_fuel (f : Nat) : ∀ (g : Nat) (i : Int) (a : Dbl) (s : Nat) (ok : Bool), 0 ≤ i → i < 2 ^ f →
    halve (f + g) i a s ok = halve f i a s ok := by
  induction f with
  | zero =>
    intro g i a s ok h0 h1
    have : i = 0 := by omega
    subst this
    cases g <;> rfl
  | succ f ih =>
    intro g i a s ok h0 h1
    rw [Nat.add_right_comm f 1 g]
    simp only [halve]
    split
    · rfl
    · exact ih g (i / 2) _ _ _ (by omega) (by omega)

theorem halve_shr_le (f : Nat) : ∀ (i : Int) (a : Dbl) (s : Nat) (ok : Bool), (halve f i a s ok).2.1 ≤ s + f := by
  induction f with
  | zero => intro i a s ok; exact Nat.le_refl _
  | succ f ih =>
    intro i a s ok
    simp only [halve]
    split
    · exact Nat.le_add_right _ _
    · exact Nat.le_trans (ih _ _ _ _) (by omega)

/-- `(int)x` lies in the range of `int` -/
theorem truncInt_range (x : Dbl) : -(2 ^ 31) ≤ x.truncInt ∧ x.truncInt < 2 ^ 31 := by
  unfold truncInt
  cases x with
  | fin s m e => simp only []; split <;> omega
  | inf s => simp
  | nan => simp

theorem search_range (frac eps : Dbl) (f : Nat) : ∀ (i0 : Nat) (i : Nat) (t : Int), search frac eps f i0 = some (i, t) →
    i0 ≤ i ∧ i < i0 + f ∧ t = (add (mul frac (ofNat i)) half).truncInt ∧
    le (abs (sub (div (ofInt t) (mul frac (ofNat i))) one)) eps = true := by
  induction f with
  | zero => intro i0 i t h; cases h
  | succ f ih =>
    intro i0 i t h
    simp only [search] at h
    split at h
    · next hc =>
      cases h
      exact ⟨Nat.le_refl _, by omega, rfl, hc⟩
    · obtain ⟨a, b, c, d⟩ := ih (i0 + 1) i t h
      exact ⟨by omega, by omega, c, d⟩

/-- `postL` of a split-off post stage is a power of two between 4 and 256 -/
theorem postLLoop_pow2 (f : Nat) : ∀ (i : Int) (a : Nat), a ≤ 8 → ∃ b, a ≤ b ∧ b ≤ 8 ∧ postLLoop f i (2 ^ a) = 2 ^ b := by
  induction f with
  | zero => intro i a ha; exact ⟨a, Nat.le_refl _, ha, rfl⟩
  | succ f ih =>
    intro i a ha
    simp only [postLLoop]
    split
    · next hc =>
      have ha7 : a < 8 := (Nat.pow_lt_pow_iff_right (by decide)).1 hc.2
      obtain ⟨b, h1, h2, h3⟩ := ih (i / 2) (a + 1) ha7
      exact ⟨b, by omega, h2, by rw [← h3, Nat.pow_succ]⟩
    · exact ⟨a, Nat.le_refl _, ha, rfl⟩

/-- `preM` is 0 or 1; `postM` is 1 or 2 and `arbM /= postM` halves exactly; `preL` is 1 or 2 and `arbM *= preL` doubles exactly -/
theorem preFactors_spec (u m : Bool) (a1 : Dbl) :
    let p := preFactors u m a1
    p.1 ≤ 1 ∧ (p.2.1 = 1 ∧ p.2.2.2.1 = a1 ∨ p.2.1 = 2 ∧ p.2.2.2.1 = scale2 a1 (-1)) ∧
    (p.2.2.1 = 1 ∧ p.2.2.2.2 = p.2.2.2.1 ∨ p.2.2.1 = 2 ∧ p.2.2.2.2 = scale2 p.2.2.2.1 1) := by
  simp only [preFactors]
  generalize hx : (u || (gt a1 c1p5 && lt a1 two)) = x
  refine ⟨b2n_le _, ?_, ?_⟩
  · cases (gt a1 one && b2n x == 1)
    · exact Or.inl ⟨rfl, rfl⟩
    · exact Or.inr ⟨rfl, rfl⟩
  · generalize (if (1 + b2n (gt a1 one && b2n x == 1) == 2) = true then scale2 a1 (-1) else a1) = a2
    -- up-sampling forces `preM = 1`, so the two increments of `preL` exclude each other
    cases u
    · cases (b2n x == 0 && lt a2 two)
      · exact Or.inl ⟨rfl, rfl⟩
      · exact Or.inr ⟨rfl, rfl⟩
    · subst hx
      cases m
      · exact Or.inl ⟨rfl, rfl⟩
      · exact Or.inr ⟨rfl, rfl⟩

/-- what the snap returns: nothing found — nothing changes; `try == i` — `arbM` is rounded up to a whole number (and
    halved once more if that is above 3); else `arbM` becomes the numerator over the denominator `i` -/
theorem snap_cases (a3 : Dbl) (arbL0 shr maxL : Nat) :
    snap a3 arbL0 shr maxL = (none, a3, arbL0, shr, eq (fracPart a3) zero) ∨
    ∃ i t, 1 ≤ i ∧ i ≤ maxL ∧
      ((t = (i : Int) ∧ snap a3 arbL0 shr maxL =
          (some (i, t), (if b2n (gt (ceilD a3) (ofBits Gen.lit_3)) == 1 then scale2 (ceilD a3) (-1) else ceilD a3), arbL0,
            shr + b2n (gt (ceilD a3) (ofBits Gen.lit_3)), true)) ∨
       (t ≠ (i : Int) ∧ snap a3 arbL0 shr maxL = (some (i, t), ofInt ((i : Int) * a3.truncInt + t), i, shr, true))) := by
  unfold snap
  simp only []
  generalize hf : (if eq (fracPart a3) zero = true then none else search (fracPart a3) (epsOf (fracPart a3)) maxL 1) = found
  cases found with
  | none => exact Or.inl rfl
  | some p =>
    obtain ⟨i, t⟩ := p
    have hr : 1 ≤ i ∧ i < 1 + maxL := by
      by_cases hz : eq (fracPart a3) zero = true
      · rw [if_pos hz] at hf; cases hf
      · rw [if_neg hz] at hf
        exact ⟨(search_range _ _ _ _ _ _ hf).1, (search_range _ _ _ _ _ _ hf).2.1⟩
    refine Or.inr ⟨i, t, hr.1, by omega, ?_⟩
    by_cases ht : t = (i : Int)
    · exact Or.inl ⟨ht, by simp only [if_pos ht]⟩
    · exact Or.inr ⟨ht, by simp only [if_neg ht]⟩

/-- `L = preL * arbL, M = (int)(arbM * postM)`, both halved while both are even: `L` stays positive, the quotient is unchanged -/
theorem reduceLM_spec (preL arbL postM : Nat) (a4 : Dbl) (h : 1 ≤ preL * arbL) :
    1 ≤ (reduceLM preL arbL postM a4).1 ∧
    (reduceLM preL arbL postM a4).1 * (if postM == 2 then scale2 a4 1 else a4).truncNat =
      (reduceLM preL arbL postM a4).2 * (preL * arbL) := by
  unfold reduceLM
  simp only []
  generalize (if postM == 2 then scale2 a4 1 else a4).truncNat = M0
  generalize preL * arbL = L0 at h
  by_cases hc : L0 % 2 = 1 ∨ M0 % 2 = 1
  · rw [if_pos hc]; exact ⟨h, Nat.mul_comm _ _⟩
  · rw [if_neg hc]
    obtain ⟨a, rfl⟩ : 2 ∣ L0 := by omega
    obtain ⟨b, rfl⟩ : 2 ∣ M0 := by omega
    simp only [Nat.mul_div_cancel_left _ (by decide : 0 < 2)]
    exact ⟨by omega, by ac_rfl⟩

/-- `core` in terms of its three steps — halving, pre/post factors, the snap — and the reduction of `L/M` -/
theorem core_eq (k : Knobs) (st : PSt) :
    let hv := halve 64 (mul half st.arbM).truncInt st.arbM 0 st.faithful
    let pf := preFactors (lt st.arbM one) (st.mode != 0) hv.1
    let sn := snap pf.2.2.2.2 st.arbL hv.2.1 (maxLOf k st.mode)
    let lm := reduceLM pf.2.2.1 sn.2.2.1 pf.2.1 sn.2.1
    ∃ frac eps upsample d ok, core k st =
      { a3 := pf.2.2.2.2, frac := frac, eps := eps, found := sn.1, a4 := sn.2.1, shr := hv.2.1, shr4 := sn.2.2.2.1,
        preL := pf.2.2.1, preM := pf.1, arbL := sn.2.2.1, postM := pf.2.1, rational := sn.2.2.2.2, upsample := upsample,
        L := lm.1, M := lm.2, d := d, ok := ok } := ⟨_, _, _, _, _, rfl⟩

/-- **Bounds of one pass**: `preM <= 1`, `postM` is 1 or 2, `preL >= 1`, the denominator of the arbitrary-ratio stage is
    the old one — always, if no fraction was found — or at most `maxL`, at most 64 halvings plus one. -/
theorem core_bounds (k : Knobs) (st : PSt) :
    (core k st).preM ≤ 1 ∧ ((core k st).postM = 1 ∨ (core k st).postM = 2) ∧ 1 ≤ (core k st).preL ∧
    ((core k st).arbL = st.arbL ∨ (1 ≤ (core k st).arbL ∧ (core k st).arbL ≤ maxLOf k st.mode)) ∧
    (core k st).shr4 ≤ 65 ∧ ((core k st).rational = false → (core k st).arbL = st.arbL) := by
  obtain ⟨_, _, _, _, _, e⟩ := core_eq k st
  rw [e]
  dsimp only
  generalize hhv : halve 64 (mul half st.arbM).truncInt st.arbM 0 st.faithful = hv
  have hh : hv.2.1 ≤ 64 := by
    rw [← hhv]; exact Nat.le_trans (halve_shr_le 64 _ _ 0 _) (Nat.le_of_eq (Nat.zero_add _))
  obtain ⟨p1, p2, p3⟩ := preFactors_spec (lt st.arbM one) (st.mode != 0) hv.1
  refine ⟨p1, p2.imp And.left And.left, by omega, ?_⟩
  rcases snap_cases (preFactors (lt st.arbM one) (st.mode != 0) hv.1).2.2.2.2 st.arbL hv.2.1 (maxLOf k st.mode) with
    h | ⟨i, t, h1, h2, ⟨_, h⟩ | ⟨_, h⟩⟩ <;> rw [h]
  · exact ⟨Or.inl rfl, Nat.le_succ_of_le hh, fun _ => rfl⟩
  · exact ⟨Or.inl rfl, Nat.add_le_add hh (b2n_le _), fun _ => rfl⟩
  · exact ⟨Or.inr ⟨h1, h2⟩, Nat.le_succ_of_le hh, fun hf => (by cases hf)⟩

theorem core_preM_le (k : Knobs) (st : PSt) : (core k st).preM ≤ 1 := (core_bounds k st).1

theorem core_preL_pos (k : Knobs) (st : PSt) : 1 ≤ (core k st).preL := (core_bounds k st).2.2.1

theorem core_arbL_pos (k : Knobs) (st : PSt) (h : 1 ≤ st.arbL) : 1 ≤ (core k st).arbL :=
  (core_bounds k st).2.2.2.1.elim (fun e => Nat.le_trans h (Nat.le_of_eq e.symm)) (·.1)

theorem core_LM (k : Knobs) (st : PSt) (h : 1 ≤ st.arbL) :
    1 ≤ (core k st).L ∧
    (core k st).L * (if (core k st).postM == 2 then scale2 (core k st).a4 1 else (core k st).a4).truncNat =
      (core k st).M * ((core k st).preL * (core k st).arbL) := by
  have hp := Nat.mul_pos (core_preL_pos k st) (core_arbL_pos k st h)
  obtain ⟨_, _, _, _, _, e⟩ := core_eq k st
  rw [e] at hp ⊢
  dsimp only at hp ⊢
  exact reduceLM_spec _ _ _ _ hp

/-- the three ways a pass goes on: a post stage is split off and the rest planned again; one dft stage `L/M` does it all;
    or the state stands -/
theorem branch_cases (k : Knobs) (st : PSt) (c : Core) :
    (takesPost k st c = true ∧ ∃ p a b, 2 ≤ b ∧ b ≤ 8 ∧ p = 2 ^ b ∧
      branch k st c = { baseOf st c with postL := p, arbM := a, arbL := 1, again := true }) ∨
    (takesSmallInt k c = true ∧
      branch k st c = { baseOf st c with preL := c.L, preM := c.M, arbM := one, arbL := 1, postM := 1 }) ∨
    branch k st c = baseOf st c := by
  unfold branch
  by_cases hp : takesPost k st c = true
  · rw [if_pos hp]
    obtain ⟨b, h2, h8, e⟩ := postLLoop_pow2 32 (div c.d (ofBits Gen.lit_16)).truncInt 2 (by decide)
    exact Or.inl ⟨hp, _, _, b, h2, h8, e, rfl⟩
  · rw [if_neg hp]
    by_cases hsi : takesSmallInt k c = true
    · rw [if_pos hsi]; exact Or.inr (Or.inl ⟨hsi, rfl⟩)
    · rw [if_neg hsi]; exact Or.inr (Or.inr rfl)

/-- the retry either leaves the state alone or, from mode 0 only, moves to mode 1 and asks for another pass -/
theorem retryMode_cases (s : PSt) :
    retryMode s = s ∨
    (retryMode s = { s with mode := s.mode + 1, again := true } ∧ s.mode = 0 ∧ (s.rational = false ∨ s.again = true)) := by
  unfold retryMode
  split
  · next hc =>
    simp only [Bool.and_eq_true, beq_iff_eq, Bool.or_eq_true, Bool.not_eq_true'] at hc
    exact Or.inr ⟨rfl, hc⟩
  · exact Or.inl rfl

/-! ## the `while (!n++)` loop ends after at most three passes -/

/-- what can still make the loop repeat: splitting off a post stage (once: only while `postL == 1`) and bumping `mode`
    from 0 (once) -/
def measure (st : PSt) : Nat := b2n (st.postL == 1) + b2n (st.mode == 0)

/-- `mode` is not touched; asking for another pass uses up `postL == 1` (the split needs it and leaves `postL >= 4`),
    and nothing else touches `postL` -/
theorem branch_again (k : Knobs) (st : PSt) (c : Core) :
    (branch k st c).mode = st.mode ∧
    b2n ((branch k st c).postL == 1) + b2n (branch k st c).again ≤ b2n (st.postL == 1) := by
  rcases branch_cases k st c with ⟨hp, p, a, b, h2, _, rfl, e⟩ | ⟨_, e⟩ | e <;> rw [e]
  · refine ⟨rfl, ?_⟩
    simp only [takesPost, Bool.and_eq_true, beq_iff_eq] at hp
    have hq : (2 ^ b == 1) = false := beq_eq_false_iff_ne.2 (Nat.ne_of_gt (Nat.one_lt_two_pow (by omega)))
    show b2n (2 ^ b == 1) + 1 ≤ _
    rw [hq, hp.1.1.2]; decide
  · exact ⟨rfl, Nat.le_refl _⟩
  · exact ⟨rfl, Nat.le_refl _⟩

/-- a pass that asks for another one has used up one of the two reasons -/
theorem iter_measure (k : Knobs) (st : PSt) (h : (iter k st).again = true) : measure (iter k st) < measure st := by
  unfold iter at h ⊢
  obtain ⟨hm, hb⟩ := branch_again k st (core k st)
  generalize branch k st (core k st) = s at h hm hb
  unfold measure
  rcases retryMode_cases s with e | ⟨e, h0, _⟩ <;> rw [e] at h ⊢
  · -- the branch asked
    rw [h] at hb
    rw [hm]
    exact Nat.add_lt_add_right hb _
  · -- the mode retry asked: mode was 0 and is 1 now
    rw [← hm, h0]
    exact Nat.lt_succ_of_le (Nat.le_trans (Nat.le_add_right _ _) hb)

theorem measure_le (st : PSt) : measure st ≤ 2 :=
  Nat.add_le_add (b2n_le _) (b2n_le _)

theorem planLoop_stable (k : Knobs) : ∀ (f : Nat) (st : PSt), measure st < f →
    (planLoop k f st).again = false ∧ ∀ g, planLoop k (f + g) st = planLoop k f st
  | 0, _, h => absurd h (Nat.not_lt_zero _)
  | f + 1, st, h => by
    have e : ∀ g, f + 1 + g = (f + g) + 1 := fun g => Nat.add_right_comm f 1 g
    simp only [e, planLoop]
    cases ha : (iter k st).again
    · exact ⟨ha, fun _ => rfl⟩
    · exact planLoop_stable k f (iter k st) (Nat.lt_of_lt_of_le (iter_measure k st ha) (Nat.le_of_lt_succ h))

/-- the largest denominator any pass may choose -/
def lMax (k : Knobs) : Nat := max 2048 (maxLOf k 0)

theorem maxLOf_le (k : Knobs) (m : Nat) : maxLOf k m ≤ lMax k := by
  unfold lMax maxLOf
  split
  · omega
  · cases m <;> simp only [ne_eq, not_true_eq_false, Nat.succ_ne_zero, not_false_eq_true, if_true, if_false] <;> omega

/-- what holds of the planner's state after any number of passes -/
structure PInv (k : Knobs) (st : PSt) : Prop where
  preL : 1 ≤ st.preL
  arbL1 : 1 ≤ st.arbL
  arbL : st.arbL ≤ lMax k
  fresh : st.again = true → st.arbL = 1
  postM : st.postM = 1 ∨ st.postM = 2
  postL : ∃ b, b ≤ 8 ∧ st.postL = 2 ^ b ∧ b ≠ 1
  shr : st.shr ≤ 65

/-- the invariant after the first half of a pass, from what `core_bounds` says of `c = core k st`; a pass that found no
    fraction still has the fresh denominator, which is what the mode retry needs -/
theorem branch_inv (k : Knobs) (st : PSt) (c : Core) (h : PInv k st) (hpreL : 1 ≤ c.preL) (hL : 1 ≤ c.L)
    (harbL1 : 1 ≤ c.arbL) (harbL : c.arbL ≤ lMax k) (hpostM : c.postM = 1 ∨ c.postM = 2) (hshr : c.shr4 ≤ 65)
    (hirr : c.rational = false → c.arbL = 1) :
    PInv k (branch k st c) ∧ ((branch k st c).rational = false → (branch k st c).arbL = 1) := by
  have hl1 : 1 ≤ lMax k := Nat.le_trans (by decide) (Nat.le_max_left 2048 _)
  rcases branch_cases k st c with ⟨_, p, a, b, h2, h8, hb, e⟩ | ⟨_, e⟩ | e <;> rw [e]
  · exact ⟨⟨hpreL, Nat.le_refl _, hl1, fun _ => rfl, hpostM, ⟨b, h8, hb, by omega⟩, hshr⟩, fun _ => rfl⟩
  · exact ⟨⟨hL, Nat.le_refl _, hl1, fun _ => rfl, Or.inl rfl, h.postL, hshr⟩, fun _ => rfl⟩
  · exact ⟨⟨hpreL, harbL1, harbL, fun hf => (by cases hf), hpostM, h.postL, hshr⟩, hirr⟩

theorem retryMode_inv (k : Knobs) (s : PSt) (h : PInv k s) (hirr : s.rational = false → s.arbL = 1) : PInv k (retryMode s) := by
  rcases retryMode_cases s with e | ⟨e, _, hc⟩ <;> rw [e]
  · exact h
  · exact ⟨h.preL, h.arbL1, h.arbL, fun _ => hc.elim hirr h.fresh, h.postM, h.postL, h.shr⟩

theorem iter_inv (k : Knobs) (st : PSt) (h : PInv k st) (hs : st.again = true) : PInv k (iter k st) := by
  have h1 := h.fresh hs
  obtain ⟨_, c2, c3, c4, c5, c6⟩ := core_bounds k st
  have carbL : (core k st).arbL ≤ lMax k :=
    c4.elim (fun e => Nat.le_trans (Nat.le_of_eq e) h.arbL) (fun e => Nat.le_trans e.2 (maxLOf_le k _))
  obtain ⟨hb, hirr⟩ := branch_inv k st (core k st) h c3 (core_LM k st h.arbL1).1 (core_arbL_pos k st h.arbL1) carbL c2 c5
    (fun hr => (c6 hr).trans h1)
  exact retryMode_inv k _ hb hirr

theorem planLoop_inv (k : Knobs) (f : Nat) : ∀ st, PInv k st → st.again = true → PInv k (planLoop k f st) := by
  induction f with
  | zero => intro st h _; exact h
  | succ f ih =>
    intro st h hs
    simp only [planLoop]
    have := iter_inv k st h hs
    split
    · next ha => exact ih _ this ha
    · exact this

/-- the plan is the final loop state; only the denominator (zeroed for the gain-only cubic stage) and `cubic` are set here -/
theorem planRates_eq (r : Dbl) (k : Knobs) (g : Bool) :
    ∃ l c, (l = (planState r k).arbL ∨ l = 0) ∧ planRates r k g = { toPlan (planState r k) with arbL := l, cubic := c } := by
  unfold planRates
  simp only []
  split
  · exact ⟨_, _, Or.inr rfl, rfl⟩
  · exact ⟨_, _, Or.inl rfl, rfl⟩

theorem planState_inv (r : Dbl) (k : Knobs) : PInv k (planState r k) := by
  have hl1 : 1 ≤ lMax k := by unfold lMax; omega
  have init : ∀ (ag : Bool), PInv k { arbM := r, mode := k.mode0, again := ag } :=
    fun ag => ⟨Nat.le_refl _, Nat.le_refl _, hl1, fun _ => rfl, Or.inl rfl, ⟨0, by omega, rfl, by omega⟩, by show 0 ≤ 65; omega⟩
  unfold planState
  split
  · exact init false
  · exact planLoop_inv k 4 _ (init true) rfl

theorem planState_finished (r : Dbl) (k : Knobs) : (planState r k).again = false := by
  unfold planState
  split
  · rfl
  · exact (planLoop_stable k 4 _ (Nat.lt_succ_of_le (Nat.le_succ_of_le (measure_le _)))).1

end Soxr.Config
