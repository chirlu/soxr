import SoxrModel.Config.Model
/-!
# What the definitions of the Config model compute

Each decision function of `Config/Model.lean` gets the case lemma through which the properties (C09, C13) use it: the
order of `Dbl` off NaN, the validation block as a chain of tests, the recipe look-up as an index, and for the state machine
of a live `soxr_t` which state a call can leave behind.
-/
namespace Soxr.Config
namespace Dbl

theorem lt_eq_not_le (a b : Dbl) (ha : a.isNaN = false) (hb : b.isNaN = false) : lt b a = !le a b := by
  cases a <;> cases b <;> try contradiction
  case fin.fin s m e t n f => simp only [lt, le, Int.min_comm f e, ← Int.not_lt, decide_not, Bool.not_not]
  case inf.inf s t => cases s <;> cases t <;> rfl
  all_goals simp only [lt, le, Bool.not_not]

theorem le_of_lt_false (a b : Dbl) (ha : a.isNaN = false) (hb : b.isNaN = false) (h : lt b a = false) : le a b = true := by
  simpa only [lt_eq_not_le a b ha hb, Bool.not_eq_false'] using h

theorem not_nan_of_le (a b : Dbl) (h : le a b = true) : a.isNaN = false ∧ b.isNaN = false := by
  cases a <;> cases b <;> first | exact ⟨rfl, rfl⟩ | cases h

theorem lt_false_of_le (a b : Dbl) (h : le a b = true) : lt b a = false := by
  rw [lt_eq_not_le a b (not_nan_of_le a b h).1 (not_nan_of_le a b h).2, h]; rfl

theorem le_of_lt (a b : Dbl) (h : lt a b = true) : le a b = true := by
  cases a <;> cases b
  case fin.fin s m e t n f => exact decide_eq_true (Int.le_of_lt (of_decide_eq_true h))
  case inf.inf s t => cases s <;> first | rfl | cases h
  all_goals first | exact h | cases h

theorem not_nan_of_lt_left (a b : Dbl) (h : lt a b = true) : a.isNaN = false :=
  (not_nan_of_le a b (le_of_lt a b h)).1

theorem not_nan_of_lt_right (a b : Dbl) (h : lt a b = true) : b.isNaN = false :=
  (not_nan_of_le a b (le_of_lt a b h)).2

theorem scaled_zero (s : Bool) (e e0 : Int) : scaled s 0 e e0 = 0 := by
  cases s <;> simp only [scaled, Nat.zero_mul, Int.natCast_zero, Int.neg_zero, if_true, Bool.false_eq_true, if_false]

theorem roundPos_sign (neg : Bool) (n d : Nat) : (∃ m e, roundPos neg n d = .fin neg m e) ∨ roundPos neg n d = .inf neg := by
  unfold roundPos
  simp only []
  split
  · exact Or.inr rfl
  · exact Or.inl ⟨_, _, rfl⟩

/-- nothing with the sign bit set is `> 0` -/
theorem gt_zero_false_of_neg (x : Dbl) (h : (∃ m e, x = .fin true m e) ∨ x = .inf true) : gt x zero = false := by
  rcases h with ⟨m, e, rfl⟩ | rfl
  · have h1 : scaled true m e (min (-1074) e) ≤ 0 := by
      have := Int.natCast_nonneg (m * 2 ^ (e - min (-1074) e).toNat)
      simp only [scaled, if_true]
      omega
    simp only [gt, zero, lt, scaled_zero, decide_eq_false_iff_not]
    omega
  · rfl

theorem div_opposite_sign (s t : Bool) (m n : Nat) (e f : Int) (h : s ≠ t) : gt (div (.fin s m e) (.fin t n f)) zero = false := by
  have hst : (s != t) = true := by cases s <;> cases t <;> first | rfl | exact absurd rfl h
  have hr := fun n d => gt_zero_false_of_neg _ (roundPos_sign true n d)
  simp only [div, hst]
  by_cases hn : n = 0
  · rw [if_pos hn]
    by_cases hm : m = 0
    · rw [if_pos hm]; rfl
    · rw [if_neg hm]; exact gt_zero_false_of_neg _ (Or.inr rfl)
  rw [if_neg hn]
  by_cases hm : m = 0
  · rw [if_pos hm]; exact gt_zero_false_of_neg _ (Or.inl ⟨_, _, rfl⟩)
  rw [if_neg hm]
  by_cases hfe : f ≤ e
  · rw [if_pos hfe]; exact hr _ _
  · rw [if_neg hfe]; exact hr _ _

theorem ne_zero_of_gt_zero (x : Dbl) (h : gt x zero = true) : ne x zero = true := by
  cases x with
  | nan => cases h
  | inf s => rfl
  | fin s m e =>
    simp only [gt, lt, zero, scaled_zero, decide_eq_true_eq] at h
    simp only [ne, eq, zero, scaled_zero, Int.min_comm e (-1074), Bool.not_eq_true', decide_eq_false_iff_not]
    omega

theorem div_nan_left (x : Dbl) : div .nan x = .nan := by cases x <;> rfl
theorem div_nan_right (x : Dbl) : div x .nan = .nan := by cases x <;> rfl

end Dbl

open Dbl

/-- `soxr_create` returned a resampler whose channels were built -/
def isReady : Except ErrorKind Accepted → Bool
  | .ok a => a.ready
  | .error _ => false

theorem ite_some_eq_none {α : Type} (b : Bool) (x : α) (y : Option α) :
    (if b = true then some x else y) = none ↔ b = false ∧ y = none := by
  cases b <;> simp

theorem ite_some_eq_some {α : Type} (b : Bool) (x e : α) (y : Option α) :
    (if b = true then some x else y) = some e ↔ b = true ∧ x = e ∨ b = false ∧ y = some e := by
  cases b <;> simp

/-- `engineValidate` is a chain of `if test then some message else …`: the result is `none` when no test fires (and
    `some e` when the test of `e` is the first that does: `ite_some_eq_some`, link by link) -/
theorem engineValidate_none_iff (r : Dbl) (q : QSpec) :
    engineValidate r q = none ↔
      (imagingTest r q = false ∧ tbwTest q = false ∧ bandTest q = false ∧ precisionTest q = false ∧
       notPositiveTest r = false ∧ tooLargeTest r = false ∧ phaseTest q = false) := by
  simp only [engineValidate, ite_some_eq_none, and_true]

/-- a two-sided range test `!(lo <= x && x <= hi)` does not fire exactly when `lo <= x <= hi` -/
theorem range_test_false_iff (a b : Bool) : (!(a && b)) = false ↔ a = true ∧ b = true := by
  cases a <;> cases b <;> decide

theorem tbwTest_false_iff (q : QSpec) : tbwTest q = false ↔ le tbwLo (tbw0 q) = true ∧ le (tbw0 q) tbwHi = true :=
  range_test_false_iff _ _

theorem bandTest_false_iff (q : QSpec) : bandTest q = false ↔ le pbLo q.pb = true ∧ le q.sb sbHi = true :=
  range_test_false_iff _ _

theorem phaseTest_false_iff (q : QSpec) : phaseTest q = false ↔ le zero q.phase = true ∧ le q.phase c100 = true :=
  range_test_false_iff _ _

/-- precision 0 (SOXR_QQ) is exempt from the range -/
theorem precisionTest_false_iff (q : QSpec) :
    precisionTest q = false ↔ eq q.precision zero = true ∨ (le c15 q.precision = true ∧ le q.precision c33 = true) := by
  unfold precisionTest ne
  cases eq q.precision zero <;> simp

theorem notPositiveTest_false_iff (r : Dbl) : notPositiveTest r = false ↔ gt r zero = true := by
  unfold notPositiveTest; cases gt r zero <;> decide

theorem tooLargeTest_false_iff (r : Dbl) : tooLargeTest r = false ↔ lt r cFactorMax = true := by
  unfold tooLargeTest; cases lt r cFactorMax <;> decide

/-- **Accepted by the validation block ⇔ no imaging and every validated quantity inside its range.** -/
theorem engineValidate_none_iff_ranges (r : Dbl) (q : QSpec) :
    engineValidate r q = none ↔
      imagingTest r q = false ∧
      (eq q.precision zero = true ∨ (le c15 q.precision = true ∧ le q.precision c33 = true)) ∧
      (le zero q.phase = true ∧ le q.phase c100 = true) ∧
      (le tbwLo (tbw0 q) = true ∧ le (tbw0 q) tbwHi = true) ∧
      le pbLo q.pb = true ∧ le q.sb sbHi = true ∧
      gt r zero = true ∧ lt r cFactorMax = true := by
  rw [engineValidate_none_iff, tbwTest_false_iff, bandTest_false_iff, precisionTest_false_iff, notPositiveTest_false_iff,
    tooLargeTest_false_iff, phaseTest_false_iff]
  exact ⟨fun ⟨h1, h2, ⟨h3, h4⟩, h5, h6, h7, h8⟩ => ⟨h1, h5, h8, h2, h3, h4, h6, h7⟩,
    fun ⟨h1, h5, h8, h2, h3, h4, h6, h7⟩ => ⟨h1, h2, ⟨h3, h4⟩, h5, h6, h7, h8⟩⟩

/-- the expression the range tests had before the NaN repair (`lo > x || x > hi`): it lets every NaN through -/
def preRepairRangeTest (lo hi x : Dbl) : Bool := gt lo x || gt x hi

theorem selectEngine_eq_vr32_iff (q : QSpec) (env : Env) (cpu : Cpu) :
    selectEngine q env cpu = .vr32 ↔ hasFlag q.flags Gen.flagVR = true := by
  unfold selectEngine
  cases hasFlag q.flags Gen.flagVR
  case true => simp
  cases (le q.precision c20 && !hasFlag q.flags Gen.flagDoublePrecision) <;>
    cases useSimd env.simd env.simd32 cpu.simd32 <;> cases useSimd env.simd env.simd64 cpu.simd64 <;> simp

/-- the constant-rate engines run the validation block; `vr_create` only bounds the ratio (its octave count uses `int` shifts) -/
theorem engineCreate_none_iff (eng : Engine) (r : Dbl) (q : QSpec) :
    engineCreate eng r q = none ↔
      (eng ≠ .vr32 → engineValidate r q = none) ∧ (eng = .vr32 → lt r cVrFactorMax = true) := by
  unfold engineCreate
  by_cases h : eng = .vr32
  · cases lt r cVrFactorMax <;> simp [h]
  · simp [h]

/-- in a list whose keys count up from `s`, the first entry with key `s + i` is the `i`-th -/
theorem find?_of_keys_range' {α : Type} (key : α → Nat) : ∀ (l : List α) (s i : Nat),
    l.map key = List.range' s l.length → l.find? (fun r => key r == s + i) = l[i]?
  | [], _, _, _ => rfl
  | a :: l, s, i, h => by
    simp only [List.map_cons, List.length_cons, List.range'_succ, List.cons.injEq] at h
    cases i with
    | zero => rw [List.find?_cons, h.1, Nat.add_zero, beq_self_eq_true]; rfl
    | succ i =>
      have hne : (key a == s + (i + 1)) = false := by rw [h.1, beq_eq_false_iff_ne]; omega
      rw [List.find?_cons, hne, List.getElem?_cons_succ, ← find?_of_keys_range' key l (s + 1) i h.2]
      simp only [Nat.add_assoc, Nat.add_comm 1 i]

/-- the quality spec a row of the generated table stands for -/
def rowSpec (row : Nat × Bool × Nat × Nat × Nat × Nat × Nat × Nat) (flags : Nat) : QSpec :=
  match row with
  | (_, e, pr, ph, pb, sb, f0, f1) =>
    { precision := ofBits pr, phase := ofBits ph, pb := ofBits pb, sb := ofBits sb, e := e,
      flags := ((flags % 2 ^ 64) &&& f1) ||| f0 }

theorem recipeTable_keys : Gen.recipeTable.map (·.1) = List.range' 0 Gen.recipeTable.length := by decide +kernel

theorem recipe_lt (recipe : Nat) : recipe % 128 < Gen.recipeTable.length := Nat.mod_lt _ (by decide)

/-- row `k` of the generated table is recipe `k`: the look-up of `soxr_quality_spec` is an index, so a fact about all
    recipes is a fact about all rows (one pass over the table instead of a search per recipe) -/
theorem qualitySpec_eq_row (recipe flags : Nat) :
    qualitySpec recipe flags = rowSpec (Gen.recipeTable[recipe % 128]'(recipe_lt recipe)) flags := by
  have h := find?_of_keys_range' (·.1) Gen.recipeTable 0 (recipe % 128) recipeTable_keys
  rw [Nat.zero_add, List.getElem?_eq_getElem (recipe_lt recipe)] at h
  unfold qualitySpec
  rw [h]
  rfl

theorem ioRatioOf_of_neg (ir orr : Dbl) (h : lt ir zero = true ∨ lt orr zero = true) : ioRatioOf ir orr = minusOne := by
  unfold ioRatioOf
  rcases h with h | h <;> simp [h]

theorem ioRatioOf_one_zero (ir orr : Dbl)
    (h : (ne ir zero = true ∧ ne orr zero = false) ∨ (ne ir zero = false ∧ ne orr zero = true)) :
    ioRatioOf ir orr = minusOne := by
  unfold ioRatioOf
  cases (lt ir zero || lt orr zero)
  case true => rfl
  rcases h with ⟨h1, h2⟩ | ⟨h1, h2⟩ <;> rw [h1, h2] <;> rfl

/-- a NaN rate makes the quotient NaN (unless the other rate already gave −1) -/
theorem ioRatioOf_nan (ir orr : Dbl) (h : ir = .nan ∨ orr = .nan) : ioRatioOf ir orr = minusOne ∨ ioRatioOf ir orr = .nan := by
  unfold ioRatioOf
  cases (lt ir zero || lt orr zero)
  case true => exact Or.inl rfl
  rcases h with rfl | rfl
  · rw [div_nan_left]; cases ne orr zero <;> first | exact Or.inl rfl | exact Or.inr rfl
  · rw [div_nan_right]; cases ne ir zero <;> first | exact Or.inl rfl | exact Or.inr rfl

/-- both are `!= 0` and not `> 0`: `soxr_set_io_ratio` refuses them -/
theorem unusable_ratio (r : Dbl) (h : r = minusOne ∨ r = .nan) : ne r zero = true ∧ gt r zero = false := by
  rcases h with rfl | rfl
  · decide +kernel
  · exact ⟨rfl, rfl⟩

/-- ops that neither clear nor overwrite the recorded error -/
def Op.quiet : Op → Bool
  | .clear => false
  | .setError _ => false
  | _ => true

/-- what a call answers while the error `e` is recorded -/
def stickyRet (e : ErrorKind) : Op → Ret → Prop
  | .process _ _ _ _, r => r = .frames .zero (some e)
  | .output _ _ _, r => r = .count .zero
  | .delay, r => r = .count .zero
  | .setIoRatio _, r => r = .status (some e)
  | .error, r => r = .status (some e)
  | _, _ => True

/-- the answers of a call sequence, paired with the calls: `R op answer` for every call -/
inductive Answers (R : Op → Ret → Prop) : List Op → List Ret → Prop
  | nil : Answers R [] []
  | cons {a b as bs} : R a b → Answers R as bs → Answers R (a :: as) (b :: bs)

theorem setIoRatio_error (s : Api) (r : Dbl) (e : ErrorKind) (h : s.error = some e) : setIoRatio s r = (s, .status (some e)) := by
  unfold setIoRatio; rw [h]

/-- `soxr_set_io_ratio` leaves the state alone, or stores the ratio and builds the resamplers, or — the deferred
    initialisation failed — tears the resampler down with the engine's error -/
theorem setIoRatio_state (s : Api) (r : Dbl) :
    (setIoRatio s r).1 = s ∨ (setIoRatio s r).1 = { s with ioRatio := r, built := true } ∨
    ∃ e, engineCreate s.engine r s.q = some e ∧ (setIoRatio s r).1 = s.fatal e := by
  -- (`cases` on the conditions and `rfl`: `split` is slow on this goal)
  unfold setIoRatio
  cases s.error
  case some e => exact Or.inl rfl
  dsimp only
  by_cases hc : s.channels = 0
  · exact Or.inl (by rw [if_pos hc])
  simp only [if_neg hc]
  cases gt r zero
  case false => exact Or.inl rfl
  cases s.built
  case false =>
    cases s.wiped
    case true => exact Or.inl rfl
    cases he : engineCreate s.engine r s.q
    · exact Or.inr (Or.inl rfl)
    · exact Or.inr (Or.inr ⟨_, rfl, rfl⟩)
  refine Or.inl ?_
  by_cases hv : s.engine = .vr32
  · simp only [if_pos hv]; rfl
  · simp only [if_neg hv]
    cases lt (abs (sub s.ioRatio r)) c1em15 <;> rfl

/-- `soxr_set_num_channels` refuses, or defers to `soxr_set_io_ratio` with the new count -/
theorem setChannels_state (s : Api) (n : Nat) :
    (setChannels s n).1 = s ∨ (setChannels s n).1 = (setIoRatio { s with channels := n } s.ioRatio).1 := by
  unfold setChannels
  by_cases h1 : n = s.channels
  · exact Or.inl (by rw [if_pos h1])
  by_cases h2 : n = 0
  · exact Or.inl (by rw [if_neg h1, if_pos h2])
  cases hb : s.built
  · exact Or.inr (by rw [if_neg h1, if_neg h2, if_neg (by decide)])
  · exact Or.inl (by rw [if_neg h1, if_neg h2, if_pos rfl])

theorem step_sticky (s : Api) (e : ErrorKind) (op : Op) (h : s.error = some e) (hq : op.quiet = true) :
    (step s op).1.error = some e ∧ stickyRet e op (step s op).2 := by
  cases op with
  | setIoRatio r => simp only [step, setIoRatio_error s r e h, stickyRet, h, and_self]
  | setChannels n =>
    refine ⟨?_, trivial⟩
    rcases setChannels_state s n with h' | h' <;> simp only [step, h']
    · exact h
    · rw [setIoRatio_error _ _ e (by exact h)]; exact h
  | setError x => cases hq
  | process i o n fn =>
    simp only [step, process, stickyRet, h]
    cases (o && i) <;> exact ⟨h, rfl⟩
  | output o n fn => simp only [step, output, h, stickyRet, and_self]
  | delay => simp only [step, delay, h, stickyRet, Option.isSome_some, Bool.true_or, if_true, and_self]
  | clear => cases hq
  | error => simp only [step, h, stickyRet, and_self]
  | engine =>
    simp only [step, stickyRet, and_true]
    cases s.wiped <;> exact h

theorem setIoRatio_engine (s : Api) (r : Dbl) : (setIoRatio s r).1.engine = s.engine := by
  rcases setIoRatio_state s r with h | h | ⟨e, _, h⟩ <;> rw [h] <;> rfl

theorem output_engine (s : Api) (o : Bool) (n : Nat) (fn : FnObs) : (output s o n fn).1.engine = s.engine := by
  unfold output
  cases s.error
  case some => rfl
  cases s.built
  case false => rfl
  cases (o && decide (0 < n))
  case true => rfl
  cases (o && s.otype &&& Gen.splitBit != 0)
  case true => rfl
  cases fn <;> rfl

theorem process_engine (s : Api) (i o : Bool) (n : Nat) (fn : FnObs) : (process s i o n fn).1.engine = s.engine := by
  have h := output_engine s o n fn
  unfold process
  cases (o && i)
  case true => rfl
  cases s.error
  case some => rfl
  cases s.bothSplit
  case true => cases (!s.built || o) <;> rfl
  generalize output s o n fn = x at h
  obtain ⟨s', r⟩ := x
  cases r <;> exact h

/-- the engine of a live resampler never changes -/
theorem step_engine (s : Api) (op : Op) : (step s op).1.engine = s.engine := by
  cases op with
  | setIoRatio r => exact setIoRatio_engine s r
  | setChannels n =>
    rcases setChannels_state s n with h | h <;> simp only [step, h]
    exact setIoRatio_engine _ _
  | setError x => simp only [step, setError]; split <;> rfl
  | process i o n fn => exact process_engine s i o n fn
  | output o n fn => exact output_engine s o n fn
  | delay => simp only [step, delay]; cases (s.error.isSome || !s.built) <;> rfl
  | clear =>
    simp only [step, clear]
    cases (s.error.isSome && s.wiped)
    case true => rfl
    cases hasFlag s.q.flags Gen.flagResetOnClear
    case false => rfl
    by_cases hc : s.channels ≠ 0 ∧ ne s.ioRatio zero = true
    · simp only [Bool.false_eq_true, if_false, if_true, if_pos hc]; exact setIoRatio_engine _ _
    · simp only [Bool.false_eq_true, if_false, if_true, if_neg hc]
  | error => rfl
  | engine => simp only [step]; cases s.wiped <;> rfl

theorem run_engine (ops : List Op) : ∀ s : Api, (run s ops).1.engine = s.engine := by
  induction ops with
  | nil => intro s; rfl
  | cons op ops ih => intro s; simp only [run]; rw [ih, step_engine]

end Soxr.Config
