import SoxrModel.Fifo.Footprint
/-!
# The footprint model stays inside the caller's objects

The access lists of `soxr_input`, `soxr_output_no_callback`, `soxr_output` and of the two paths of `soxr_process`, given
E2 (`Deliv`) and, for the original expressions, `Excl`.  The both-split path makes, channel by channel, the accesses of
`soxr_input` and the two kinds of access to split output (`outPtrs_inBounds`, `outCh_inBounds`).  Core Lean only.
-/
namespace Soxr.Footprint

theorem ilenOf_le (iForO : Nat) (k : Call) : ilenOf iForO k ≤ k.ilen0 := by
  unfold ilenOf
  split
  · split
    · exact Nat.min_le_right _ _
    · exact Nat.le_refl _
  · exact Nat.zero_le _

/-- slot `u` of an array of `ch` pointers. -/
theorem ptr_slot (u ch p : Nat) (h : u < ch) : u * p + p ≤ ch * p :=
  Nat.succ_mul u p ▸ Nat.mul_le_mul_right p h

section
variable {c : Cfg} (ilen olen : Nat) {u : Nat} (hu : u < c.ch)
include hu

theorem outPtrs_inBounds (hs : c.oSplit = true) :
    Access.inBounds (objSize c ilen olen) ⟨.outPtrs, u * c.ptrSize, c.ptrSize, false⟩ := by
  right
  simp only [objSize, hs, if_true]
  exact ptr_slot u c.ch c.ptrSize hu

theorem outCh_inBounds {w d : Nat} (hs : c.oSplit = true) (h : w + d ≤ olen) :
    Access.inBounds (objSize c ilen olen) ⟨.outCh u, w * c.osz, d * c.osz, true⟩ := by
  right
  simp only [objSize, hs, hu, and_self, if_true]
  exact Nat.add_mul _ _ _ ▸ Nat.mul_le_mul_right _ h

end

theorem inputAcc_inBounds (c : Cfg) (s : Src) (len ilen olen : Nat) (h : len ≤ srcLen ilen s) :
    ∀ a ∈ inputAcc c s len, a.inBounds (objSize c ilen olen) := by
  intro a ha
  unfold inputAcc at ha
  by_cases hs : c.iSplit = true
  · rw [if_pos hs] at ha
    simp only [List.mem_flatMap, List.mem_range, List.mem_cons, List.not_mem_nil, or_false] at ha
    obtain ⟨u, hu, rfl | rfl⟩ := ha
    · right
      simp only [objSize, hs, if_true]
      exact ptr_slot u c.ch c.ptrSize hu
    · right
      simp only [objSize, hs, hu, and_self, if_true, Nat.zero_add]
      exact Nat.mul_le_mul_right _ h
  · rw [if_neg hs] at ha
    simp only [List.mem_cons, List.not_mem_nil, or_false] at ha
    subst ha
    right
    simp only [objSize, hs, Nat.zero_add]
    exact Nat.mul_le_mul_right _ (Nat.mul_le_mul_right _ h)

theorem outputDone_le (c : Cfg) (olen : Nat) (hch : 0 < c.ch) :
    ∀ (its : List Iter) (w : Nat), w ≤ olen → Deliv c olen w its → w + outputDone c its ≤ olen := by
  intro its
  induction its with
  | nil => intro w hw _; exact hw
  | cons it rest ih =>
    intro w hw h
    obtain ⟨d, sup⟩ := it
    obtain ⟨_, hd, hrest⟩ := h
    have h1 : d (c.ch - 1) ≤ olen - w := hd _ (Nat.sub_lt hch Nat.one_pos)
    exact Nat.add_assoc _ _ _ ▸ ih (w + d (c.ch - 1)) (Nat.add_le_of_le_sub' hw h1) hrest

/-- with the array never advanced after a delivery, the original code addresses channel `u` like the repaired code. -/
theorem splitTarget_of_excl {v : Variant} {c : Cfg} {w u : Nat} (h : v.pullAdvancesArray = true → w = 0)
    (hu : u < c.ch) : splitTarget v c w u = (.outCh u, w * c.osz) := by
  unfold splitTarget
  split
  · next hp =>
    obtain rfl := h hp
    simp only [Nat.zero_mul, Nat.zero_mod, Nat.zero_div, Nat.zero_add, hu, and_self, if_true]
  · rfl

/-- one `soxr_output_no_callback` under E2 and the excluding hypotheses. -/
theorem outNoCb_inBounds (v : Variant) (c : Cfg) (ilen olen w : Nat) (d : Nat → Nat) (hch : 0 < c.ch)
    (hw : w ≤ olen) (hd : ∀ u, u < c.ch → d u ≤ olen - w)
    (hF2 : c.oSplit = false → v.ptrReadAlways = true → w * c.ch * c.osz + c.ch * c.ptrSize ≤ olen * c.ch * c.osz)
    (hF15 : c.oSplit = true → v.pullAdvancesArray = true → w = 0) :
    ∀ a ∈ outNoCb v c w d, a.inBounds (objSize c ilen olen) := by
  intro a ha
  have hfit : ∀ u, u < c.ch → w + d u ≤ olen := fun u hu => Nat.add_le_of_le_sub' hw (hd u hu)
  by_cases hs : c.oSplit = true
  · -- split output: the pointer array is read at its start, channel `u` is written `w` frames in
    have hadv : (if v.pullAdvancesArray = false then 0 else w * c.ch * c.osz) = 0 := by
      split
      · rfl
      · next hp => rw [hF15 hs (Bool.not_eq_false _ ▸ hp), Nat.zero_mul, Nat.zero_mul]
    simp only [outNoCb, hs, Bool.true_or, if_true, Bool.true_and, Bool.not_eq_true', hadv, Nat.zero_add,
      List.mem_append, List.mem_map, List.mem_range] at ha
    obtain ⟨u, hu, rfl⟩ | ⟨u, hu, rfl⟩ := ha
    · exact outPtrs_inBounds ilen olen hu hs
    · rw [splitTarget_of_excl (hF15 hs) hu]
      exact outCh_inBounds ilen olen hu hs (hfit u hu)
  · -- interleaved output: one write of `d·ch` samples `w·ch` samples in; the original code also read `ch` pointers there
    have hs' : c.oSplit = false := Bool.eq_false_iff.mpr hs
    simp only [outNoCb, hs', Bool.false_or, Bool.false_and, Bool.false_eq_true, if_false, List.mem_append,
      List.mem_singleton] at ha
    rcases ha with ha | rfl
    · split at ha
      · next hp =>
        obtain ⟨u, hu, rfl⟩ := List.mem_map.mp ha
        have hu := List.mem_range.mp hu
        right
        simp only [objSize, hs', Bool.false_eq_true, if_false]
        exact Nat.le_trans (Nat.add_assoc _ _ _ ▸ Nat.add_le_add_left (ptr_slot u c.ch c.ptrSize hu) _) (hF2 hs' hp)
      · cases ha
    · right
      simp only [objSize, hs', Bool.false_eq_true, if_false]
      rw [← Nat.add_mul, ← Nat.add_mul]
      exact Nat.mul_le_mul_right _ (Nat.mul_le_mul_right _ (hfit _ (Nat.sub_lt hch Nat.one_pos)))

theorem outputAcc_inBounds (v : Variant) (c : Cfg) (ilen olen : Nat) (hch : 0 < c.ch) :
    ∀ (its : List Iter) (w : Nat), Deliv c olen w its → Excl v c olen w its →
      ∀ a ∈ outputAcc v c w its, a.inBounds (objSize c ilen olen) := by
  intro its
  induction its with
  | nil => intro w _ _ a ha; simp [outputAcc] at ha
  | cons it rest ih =>
    intro w hdl hex a ha
    obtain ⟨d, sup⟩ := it
    obtain ⟨hw, hd, hdl'⟩ := hdl
    obtain ⟨hF2, hF15, hex'⟩ := hex
    simp only [outputAcc, List.mem_append] at ha
    rcases ha with (ha | ha) | ha
    · exact outNoCb_inBounds v c ilen olen w d hch hw hd hF2 hF15 a ha
    · split at ha
      · simp at ha
      · exact inputAcc_inBounds c (.fn sup) sup ilen olen (Nat.le_refl _) a ha
    · exact ih _ hdl' hex' a ha

/-- E2 for the first iteration, which is the only one the both-split path of `soxr_process` runs. -/
theorem deliv_head_le {c : Cfg} {olen : Nat} {its : List Iter} (h : Deliv c olen 0 its) :
    ∀ u, u < c.ch → (match its with | [] => fun _ => 0 | it :: _ => it.1) u ≤ olen := by
  match its, h with
  | [], _ => exact fun _ _ => Nat.zero_le _
  | (_, _) :: _, ⟨_, hd, _⟩ => exact hd

/-- `Excl` is vacuous for the repaired code. -/
theorem excl_repaired (c : Cfg) (olen : Nat) : ∀ (its : List Iter) (w : Nat), Excl Variant.repaired c olen w its := by
  intro its
  induction its with
  | nil => intro w; trivial
  | cons it rest ih =>
    intro w
    obtain ⟨d, sup⟩ := it
    exact ⟨fun _ h => by simp [Variant.repaired] at h, fun _ h => by simp [Variant.repaired] at h, ih _⟩

theorem processGeneric_inBounds (v : Variant) (c : Cfg) (k : Call) (iForO : Nat) (err : Bool) (its : List Iter)
    (hch : 0 < c.ch) (hdl : Deliv c k.olen 0 its) (hex : Excl v c k.olen 0 its) :
    (processGeneric v c k iForO err its).inBounds c k.ilen0 k.olen := by
  intro a ha
  simp only [processGeneric, List.mem_append] at ha
  rcases ha with ha | ha
  · split at ha
    · exact inputAcc_inBounds c .call _ k.ilen0 k.olen (ilenOf_le iForO k) a ha
    · simp at ha
  · exact outputAcc_inBounds v c k.ilen0 k.olen hch its 0 hdl hex a ha

theorem processSplit_inBounds (c : Cfg) (k : Call) (iForO : Nat) (d : Nat → Nat)
    (hi : c.iSplit = true) (ho : c.oSplit = true) (hd : ∀ u, u < c.ch → d u ≤ k.olen) :
    (processSplit c k iForO d).inBounds c k.ilen0 k.olen := by
  intro a ha
  simp only [processSplit, List.mem_flatMap, List.mem_range, List.mem_append] at ha
  obtain ⟨u, hu, ha | ha⟩ := ha
  · split at ha
    · -- channel `u`'s part of the accesses of `soxr_input` with split input
      refine inputAcc_inBounds c .call _ k.ilen0 k.olen (ilenOf_le iForO k) a ?_
      rw [inputAcc, if_pos hi]
      exact List.mem_flatMap.mpr ⟨u, List.mem_range.mpr hu, ha⟩
    · simp at ha
  · simp only [List.mem_cons, List.not_mem_nil, or_false] at ha
    rcases ha with rfl | rfl
    · exact outPtrs_inBounds _ _ hu ho
    · -- the channel block is written from its start: `outCh_inBounds` with `w = 0`
      exact Nat.zero_mul c.osz ▸ outCh_inBounds _ _ hu ho (Nat.zero_add _ ▸ hd u hu)

end Soxr.Footprint
