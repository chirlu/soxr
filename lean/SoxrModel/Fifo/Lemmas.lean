import SoxrModel.Fifo.Model
/-!
# The byte-level FIFO: its invariant, and what each call does to the queue

`WF` is the one invariant.  Every function of `fifo.h` that changes the state gets a lemma for `WF` and one for
`contents`; what the reserve loop did (fit, compaction, growth, in whatever order) is summed up in `ReserveSpec`, which
says where in the new block the old queue and the reserved bytes lie.  Core Lean only.
-/
namespace Soxr.Fifo

variable {β : Type}

/-- The representation invariant of `fifo_t`: the block has `allocation` bytes and `begin ≤ end ≤ allocation`. -/
structure WF (f : Fifo β) : Prop where
  len : f.data.length = f.allocation
  be : f.bgn ≤ f.end_
  ea : f.end_ ≤ f.allocation

theorem junkBlock_length (junk : Nat → β) (s n : Nat) : (junkBlock junk s n).length = n := by
  simp [junkBlock]

theorem take_drop_append_left {l₁ : List β} (l₂ : List β) {a m : Nat} (h : a + m ≤ l₁.length) :
    ((l₁ ++ l₂).drop a).take m = (l₁.drop a).take m := by
  rw [List.drop_append_of_le_length (Nat.le_trans (Nat.le_add_right a m) h),
    List.take_append_of_le_length (by rw [List.length_drop]; exact Nat.le_sub_of_add_le' h)]

theorem bytesAt_length {f : Fifo β} (h : WF f) {off n : Nat} (hb : off + n ≤ f.allocation) :
    (bytesAt f off n).length = n := by
  rw [bytesAt, List.length_take, List.length_drop, h.len]
  exact Nat.min_eq_left (Nat.le_sub_of_add_le' hb)

theorem bytesAt_add (f : Fifo β) (off m n : Nat) :
    bytesAt f off (m + n) = bytesAt f off m ++ bytesAt f (off + m) n := by
  simp only [bytesAt, List.take_add, List.drop_drop]

theorem contents_length {f : Fifo β} (h : WF f) : (contents f).length = f.end_ - f.bgn :=
  bytesAt_length h (by rw [Nat.add_sub_cancel' h.be]; exact h.ea)

theorem contents_eq_append {f : Fifo β} {off m : Nat} (h1 : f.bgn ≤ off) (h2 : off + m = f.end_) :
    contents f = bytesAt f f.bgn (off - f.bgn) ++ bytesAt f off m := by
  obtain ⟨k, rfl⟩ := Nat.exists_eq_add_of_le h1
  show bytesAt f f.bgn (f.end_ - f.bgn) = _
  rw [← h2, Nat.add_assoc, Nat.add_sub_cancel_left, Nat.add_sub_cancel_left, bytesAt_add]

theorem contents_of_empty {f : Fifo β} (h : f.bgn = f.end_) : contents f = [] := by
  simp [contents, bytesAt, h]

theorem create_wf (fifoMin : Nat) (junk : Nat → β) (sz : Nat) : WF (create fifoMin junk sz) :=
  ⟨junkBlock_length junk 0 fifoMin, Nat.le_refl _, Nat.zero_le _⟩

theorem create_contents (fifoMin : Nat) (junk : Nat → β) (sz : Nat) : contents (create fifoMin junk sz) = [] :=
  contents_of_empty rfl

theorem clear_wf {f : Fifo β} (h : WF f) : WF (clear f) :=
  ⟨h.len, Nat.le_refl _, Nat.zero_le _⟩

theorem clear_contents (f : Fifo β) : contents (clear f) = [] :=
  contents_of_empty rfl

/-- compaction (`memmove` to the front) keeps invariant and queue. -/
theorem compact_spec {f : Fifo β} (h : WF f) :
    WF { f with data := memmoveDown f.data f.bgn f.end_, end_ := f.end_ - f.bgn, bgn := 0 } ∧
    contents { f with data := memmoveDown f.data f.bgn f.end_, end_ := f.end_ - f.bgn, bgn := 0 } = contents f := by
  have hl : ((f.data.drop f.bgn).take (f.end_ - f.bgn)).length = f.end_ - f.bgn := contents_length h
  have hle : f.end_ - f.bgn ≤ f.allocation := Nat.le_trans (Nat.sub_le _ _) h.ea
  refine ⟨⟨?_, Nat.zero_le _, hle⟩, ?_⟩
  · simp only [memmoveDown, List.length_append, hl, List.length_drop, h.len]
    exact Nat.add_sub_cancel' hle
  · simp only [contents, bytesAt, memmoveDown, List.drop_zero, Nat.sub_zero]
    rw [List.take_append_of_le_length (Nat.le_of_eq hl.symm), List.take_take, Nat.min_self]

/-- growth (`realloc` to `allocation + n`: old bytes kept, `n` new uninitialised bytes) keeps invariant and queue. -/
theorem grow_spec {f : Fifo β} (h : WF f) (junk : Nat → β) (n : Nat) :
    WF { f with data := f.data ++ junkBlock junk f.allocation n, allocation := f.allocation + n } ∧
    contents { f with data := f.data ++ junkBlock junk f.allocation n, allocation := f.allocation + n } = contents f := by
  refine ⟨⟨?_, h.be, Nat.le_trans h.ea (Nat.le_add_right _ _)⟩, ?_⟩
  · simp only [List.length_append, junkBlock_length, h.len]
  · exact take_drop_append_left _ (by rw [Nat.add_sub_cancel' h.be, h.len]; exact h.ea)

/-- What `reserveLoop` guarantees whenever it returns, from any state satisfying the invariant: the old queue lies
    in `[begin, off)` of the new block and the `n` reserved bytes in `[off, end)`. -/
structure ReserveSpec (f : Fifo β) (n : Nat) (f' : Fifo β) (off : Nat) : Prop where
  wf : WF f'
  item : f'.itemSize = f.itemSize
  off_ge : f'.bgn ≤ off
  off_end : off + n = f'.end_
  front : bytesAt f' f'.bgn (off - f'.bgn) = contents f

theorem ReserveSpec.end_le {f f' : Fifo β} {n off : Nat} (s : ReserveSpec f n f' off) : off + n ≤ f'.allocation :=
  s.off_end ▸ s.wf.ea

/-- After a reserve, any state `g` that still has the old queue in `[begin, off)` and ends `m` bytes after `off`
    holds the old queue followed by those `m` bytes: the reserve itself (`m = n`), a reserve filled by `store`,
    a reserve cut back by `trim_by`. -/
theorem ReserveSpec.contents_eq {f f' : Fifo β} {n off : Nat} (s : ReserveSpec f n f' off) {g : Fifo β} {m : Nat}
    (hb : g.bgn = f'.bgn) (he : off + m = g.end_) (hd : bytesAt g f'.bgn (off - f'.bgn) = bytesAt f' f'.bgn (off - f'.bgn)) :
    contents g = contents f ++ bytesAt g off m := by
  rw [contents_eq_append (hb ▸ s.off_ge) he, hb, hd, s.front]

/-- A state `g` holding the same queue as `f` (the queue emptied and reset, compacted, or its block grown) may stand
    in for `f`. -/
theorem ReserveSpec.of_same_queue {f g f' : Fifo β} {n off : Nat} (r : ReserveSpec g n f' off)
    (hi : g.itemSize = f.itemSize) (hc : contents g = contents f) : ReserveSpec f n f' off :=
  ⟨r.wf, r.item.trans hi, r.off_ge, r.off_end, r.front.trans hc⟩

theorem reserveLoop_spec (fifoMin : Nat) (junk : Nat → β) (n fuel : Nat) (f f' : Fifo β) (off : Nat) (hwf : WF f)
    (h : reserveLoop fifoMin junk n fuel f = some (f', off)) : ReserveSpec f n f' off := by
  fun_induction reserveLoop fifoMin junk n fuel f with
  | case1 => cases h
  | case2 _ f hfit =>
    obtain ⟨rfl, rfl⟩ := Prod.mk.inj (Option.some.inj h)
    exact ⟨⟨hwf.len, Nat.le_trans hwf.be (Nat.le_add_right _ _), hfit⟩, rfl, hwf.be, rfl, rfl⟩
  | case3 _ f _ _ ih => exact (ih (compact_spec hwf).1 h).of_same_queue rfl (compact_spec hwf).2
  | case4 _ f _ _ ih => exact (ih (grow_spec hwf junk n).1 h).of_same_queue rfl (grow_spec hwf junk n).2

/-- with `begin ≤ FIFO_MIN` there is no compaction: the request fits, or fits after one growth by `n`. -/
theorem reserveLoop_total_low (fifoMin : Nat) (junk : Nat → β) (n : Nat) (f : Fifo β) (hea : f.end_ ≤ f.allocation)
    (hb : ¬ f.bgn > fifoMin) (k : Nat) : ∃ r, reserveLoop fifoMin junk n (k + 2) f = some r := by
  rw [reserveLoop]
  split
  · exact ⟨_, rfl⟩
  · rw [reserveLoop, if_pos (Nat.add_le_add_right hea n)]
    exact ⟨_, rfl⟩

/-- Termination of the C loop: from a state with `end ≤ allocation` it returns within three iterations
    (at most one compaction, which leaves `begin = 0`, at most one growth, then the request fits). -/
theorem reserveLoop_total (fifoMin : Nat) (junk : Nat → β) (n : Nat) (f : Fifo β) (h : WF f) (k : Nat) :
    ∃ r, reserveLoop fifoMin junk n (k + 3) f = some r := by
  by_cases hc : f.bgn > fifoMin
  · rw [reserveLoop]
    split
    · exact ⟨_, rfl⟩
    · refine reserveLoop_total_low fifoMin junk n _ ?_ (Nat.not_lt_zero fifoMin) k
      exact Nat.le_trans (Nat.sub_le _ _) h.ea
  · exact reserveLoop_total_low fifoMin junk n f h.ea hc (k + 1)

theorem reserveLoop_fuel_mono (fifoMin : Nat) (junk : Nat → β) (n fuel : Nat) (f : Fifo β) (r : Fifo β × Nat)
    (h : reserveLoop fifoMin junk n fuel f = some r) (k : Nat) : reserveLoop fifoMin junk n (fuel + k) f = some r := by
  fun_induction reserveLoop fifoMin junk n fuel f with
  | case1 => cases h
  | case2 _ _ hfit => rw [Nat.succ_add, reserveLoop, if_pos hfit]; exact h
  | case3 _ _ hfit hc ih => rw [Nat.succ_add, reserveLoop, if_neg hfit, if_pos hc]; exact ih h
  | case4 _ _ hfit hc ih => rw [Nat.succ_add, reserveLoop, if_neg hfit, if_neg hc]; exact ih h

/-- `fifo_reserve` first resets `begin = end = 0` on an empty queue; that changes neither invariant nor queue. -/
theorem reserve_spec (fifoMin : Nat) (junk : Nat → β) {f f' : Fifo β} {n0 off : Nat} (h : WF f)
    (hr : reserve fifoMin junk f n0 = some (f', off)) : ReserveSpec f (n0 * f.itemSize) f' off := by
  simp only [reserve] at hr
  split at hr
  · next he =>
    exact (reserveLoop_spec fifoMin junk _ _ _ f' off (clear_wf h) hr).of_same_queue rfl
      ((clear_contents f).trans (contents_of_empty he).symm)
  · exact reserveLoop_spec fifoMin junk _ _ _ f' off h hr

theorem reserve_total (fifoMin : Nat) (junk : Nat → β) {f : Fifo β} (h : WF f) (n0 : Nat) :
    ∃ r, reserve fifoMin junk f n0 = some r := by
  simp only [reserve]
  split
  · exact reserveLoop_total fifoMin junk _ _ (clear_wf h) 0
  · exact reserveLoop_total fifoMin junk _ _ h 0

theorem store_wf {f : Fifo β} (h : WF f) {off : Nat} {bytes : List β} (hb : off + bytes.length ≤ f.allocation) :
    WF (store f off bytes) := by
  refine ⟨?_, h.be, h.ea⟩
  simp only [store, List.length_append, List.length_take, List.length_drop, h.len,
    Nat.min_eq_left (Nat.le_trans (Nat.le_add_right _ _) hb)]
  exact Nat.add_sub_cancel' hb

theorem store_bytesAt {f : Fifo β} (h : WF f) {off : Nat} {bytes : List β} (hb : off + bytes.length ≤ f.allocation) :
    bytesAt (store f off bytes) off bytes.length = bytes := by
  have e : (List.take off f.data).length = off := by
    rw [List.length_take, h.len]; exact Nat.min_eq_left (Nat.le_trans (Nat.le_add_right _ _) hb)
  simp only [bytesAt, store, List.append_assoc]
  rw [List.drop_append_of_le_length (Nat.le_of_eq e.symm), List.drop_of_length_le (Nat.le_of_eq e), List.nil_append,
    List.take_append_of_le_length (Nat.le_refl _), List.take_length]

theorem store_bytesAt_below {f : Fifo β} (h : WF f) {off a m : Nat} (bytes : List β) (hb : a + m ≤ off)
    (ho : off ≤ f.allocation) : bytesAt (store f off bytes) a m = bytesAt f a m := by
  simp only [bytesAt, store, List.append_assoc]
  rw [take_drop_append_left _ (by rw [List.length_take, h.len, Nat.min_eq_left ho]; exact hb),
    List.drop_take, List.take_take, Nat.min_eq_left (Nat.le_sub_of_add_le' hb)]

/-- the `memcpy` of `fifo_write` into the reserved bytes. -/
theorem ReserveSpec.store {f f' : Fifo β} {n off : Nat} (s : ReserveSpec f n f' off) {b : List β} (hb : b.length = n) :
    WF (store f' off b) ∧ contents (store f' off b) = contents f ++ b := by
  have hle : off + b.length ≤ f'.allocation := hb ▸ s.end_le
  refine ⟨store_wf s.wf hle, ?_⟩
  rw [s.contents_eq (g := Fifo.store f' off b) rfl (hb ▸ s.off_end)
    (store_bytesAt_below s.wf b (Nat.le_of_eq (Nat.add_sub_cancel' s.off_ge)) (Nat.le_trans (Nat.le_add_right _ _) hle)),
    store_bytesAt s.wf hle]

theorem trimTo_wf {f : Fifo β} (h : WF f) {n0 : Nat} (hn : f.bgn + n0 * f.itemSize ≤ f.allocation) : WF (trimTo f n0) :=
  ⟨h.len, Nat.le_add_right _ _, hn⟩

theorem trimTo_contents {f : Fifo β} {n0 : Nat} (hn : n0 * f.itemSize ≤ f.end_ - f.bgn) :
    contents (trimTo f n0) = (contents f).take (n0 * f.itemSize) := by
  simp only [contents, bytesAt, trimTo, Nat.add_sub_cancel_left, List.take_take, Nat.min_eq_left hn]

theorem trimBy_wf {f : Fifo β} (h : WF f) {n0 : Nat} (hn : n0 * f.itemSize ≤ f.end_ - f.bgn) : WF (trimBy f n0) :=
  ⟨h.len, Nat.le_sub_of_add_le (Nat.add_le_of_le_sub' h.be hn), Nat.le_trans (Nat.sub_le _ _) h.ea⟩

theorem trimBy_contents {f : Fifo β} (h : WF f) (n0 : Nat) :
    contents (trimBy f n0) = (contents f).take ((contents f).length - n0 * f.itemSize) := by
  rw [contents_length h]
  simp only [contents, bytesAt, trimBy, List.take_take, Nat.min_eq_left (Nat.sub_le _ _)]
  rw [Nat.sub_right_comm]

theorem read_fail {f : Fifo β} {n0 : Nat} (h : f.end_ - f.bgn < n0 * f.itemSize) : read f n0 = (f, none) := by
  simp only [read, gt_iff_lt, h, if_true]

theorem read_ok {f : Fifo β} {n0 : Nat} (h : n0 * f.itemSize ≤ f.end_ - f.bgn) :
    read f n0 = ({ f with bgn := f.bgn + n0 * f.itemSize }, some f.bgn) := by
  simp only [read, gt_iff_lt, Nat.not_lt.mpr h, if_false]

theorem read_ok_wf {f : Fifo β} (hwf : WF f) {n0 : Nat} (h : n0 * f.itemSize ≤ f.end_ - f.bgn) :
    WF { f with bgn := f.bgn + n0 * f.itemSize } :=
  ⟨hwf.len, Nat.add_le_of_le_sub' hwf.be h, hwf.ea⟩

theorem read_ok_contents (f : Fifo β) (n0 : Nat) :
    contents { f with bgn := f.bgn + n0 * f.itemSize } = (contents f).drop (n0 * f.itemSize) := by
  simp only [contents, bytesAt]
  rw [List.drop_take, List.drop_drop, Nat.sub_add_eq]

/-- the bytes a successful read hands out are the front of the queue. -/
theorem read_ok_bytes {f : Fifo β} {n0 : Nat} (h : n0 * f.itemSize ≤ f.end_ - f.bgn) :
    bytesAt f f.bgn (n0 * f.itemSize) = (contents f).take (n0 * f.itemSize) := by
  simp only [contents, bytesAt, List.take_take, Nat.min_eq_left h]

end Soxr.Fifo
