import SoxrModel.Fifo.Lemmas
/-!
# The abstract queue and the forward simulation of the byte-level FIFO, one call at a time

The abstract object is the byte queue `q : List β` (an item is `item_size` consecutive bytes; `n` items are
`n * item_size` bytes).  `QStep` is the specification of each `fifo.h` call on it; `step_sim` says the byte-level
model follows it from every state satisfying the invariant, keeps the invariant, and only ever hands out
(offset, length) pairs inside the current block.
-/
namespace Soxr.Fifo

variable {β : Type}

/-- One call on the abstract queue (`sz = item_size`).  `reserve` is the only non-deterministic call: the reserved
    bytes are whatever the block held (the caller is about to overwrite them). -/
inductive QStep (sz : Nat) : List β → Op β → List β → Prop
  | reserve (q : List β) (n : Nat) (tail : List β) : tail.length = n * sz → QStep sz q (.reserve n) (q ++ tail)
  | write (q : List β) (n : Nat) (bytes : List β) : n * sz ≤ bytes.length →
      QStep sz q (.write n bytes) (q ++ bytes.take (n * sz))
  | readOk (q : List β) (n : Nat) : n * sz ≤ q.length → QStep sz q (.read n) (q.drop (n * sz))
  | readFail (q : List β) (n : Nat) : q.length < n * sz → QStep sz q (.read n) q
  | trimTo (q : List β) (n : Nat) : n * sz ≤ q.length → QStep sz q (.trimTo n) (q.take (n * sz))
  | trimBy (q : List β) (n : Nat) : n * sz ≤ q.length → QStep sz q (.trimBy n) (q.take (q.length - n * sz))
  | clear (q : List β) : QStep sz q .clear []

/-- a call sequence on the abstract queue. -/
inductive QRun (sz : Nat) : List β → List (Op β) → List β → Prop
  | nil (q : List β) : QRun sz q [] q
  | cons {q q' q'' : List β} {op : Op β} {ops : List (Op β)} :
      QStep sz q op q' → QRun sz q' ops q'' → QRun sz q (op :: ops) q''

/-- the caller's obligations for one call, as a function of the current queue length in bytes:
    `fifo_write` needs a source of at least `n` items; the trims may not remove more than is there. -/
def Op.valid (sz len : Nat) : Op β → Prop
  | .write n bytes => n * sz ≤ bytes.length
  | .trimTo n => n * sz ≤ len
  | .trimBy n => n * sz ≤ len
  | _ => True

/-- queue length (bytes) after a call. -/
def Op.lenAfter (sz len : Nat) : Op β → Nat
  | .reserve n => len + n * sz
  | .write n _ => len + n * sz
  | .read n => if n * sz ≤ len then len - n * sz else len
  | .trimTo n => n * sz
  | .trimBy n => len - n * sz
  | .clear => 0

/-- every call of the sequence meets its obligation (reads may ask for anything). -/
def ValidOps (sz : Nat) : Nat → List (Op β) → Prop
  | _, [] => True
  | len, op :: ops => op.valid sz len ∧ ValidOps sz (op.lenAfter sz len) ops

/-- A returned pointer is good for its length inside the block of the state it was returned in; a pointer from
    `reserve`/`write` is the tail of the queue, one from `read` is the stretch just consumed. -/
def PtrOK (f' : Fifo β) (op : Op β) : Ret → Prop
  | .ptr off len =>
    off + len ≤ f'.allocation ∧ f'.data.length = f'.allocation ∧
    (match op with
     | .read _ => off + len = f'.bgn
     | _ => f'.bgn ≤ off ∧ off + len = f'.end_)
  | _ => True

theorem QStep.length_eq {sz : Nat} {q q' : List β} {op : Op β} (h : QStep sz q op q') :
    q'.length = op.lenAfter sz q.length := by
  cases h with
  | reserve n tail ht => rw [List.length_append, ht]; rfl
  | write n bytes hb => rw [List.length_append, List.length_take, Nat.min_eq_left hb]; rfl
  | readOk n hn => rw [List.length_drop]; exact (if_pos hn).symm
  | readFail n hn => exact (if_neg (Nat.not_le_of_lt hn)).symm
  | trimTo n hn => rw [List.length_take]; exact Nat.min_eq_left hn
  | trimBy n hn => rw [List.length_take]; exact Nat.min_eq_left (Nat.sub_le _ _)
  | clear => rfl

structure StepSpec (fifoMin : Nat) (junk : Nat → β) (f : Fifo β) (op : Op β) (f' : Fifo β) (r : Ret) : Prop where
  eq : step fifoMin junk f op = some (f', r)
  wf : WF f'
  item : f'.itemSize = f.itemSize
  queue : QStep f.itemSize (contents f) op (contents f')
  ptr : PtrOK f' op r

theorem step_sim (fifoMin : Nat) (junk : Nat → β) (f : Fifo β) (op : Op β) (hwf : WF f)
    (hv : op.valid f.itemSize (contents f).length) : ∃ f' r, StepSpec fifoMin junk f op f' r := by
  have hlen := contents_length hwf
  cases op with
  | reserve n =>
    obtain ⟨⟨f', off⟩, hr⟩ := reserve_total fifoMin junk hwf n
    have s := reserve_spec fifoMin junk hwf hr
    refine ⟨f', Ret.ptr off (n * f.itemSize), ?_, s.wf, s.item, ?_, s.end_le, s.wf.len, s.off_ge, s.off_end⟩
    · simp only [step, hr, Option.map_some]
    · rw [s.contents_eq rfl s.off_end rfl]
      exact QStep.reserve _ _ _ (bytesAt_length s.wf s.end_le)
  | write n bytes =>
    obtain ⟨⟨f1, off⟩, hr⟩ := reserve_total fifoMin junk hwf n
    have s := reserve_spec fifoMin junk hwf hr
    have hv' : n * f.itemSize ≤ bytes.length := hv
    obtain ⟨hwf', hc⟩ := s.store (b := bytes.take (n * f.itemSize)) (List.length_take.trans (Nat.min_eq_left hv'))
    refine ⟨_, Ret.ptr off (n * f.itemSize), ?_, hwf', s.item, hc ▸ QStep.write _ n bytes hv', s.end_le, hwf'.len, s.off_ge, s.off_end⟩
    simp only [step, write, hr, Option.map_some]
  | read n =>
    by_cases h : n * f.itemSize ≤ f.end_ - f.bgn
    · refine ⟨{ f with bgn := f.bgn + n * f.itemSize }, Ret.ptr f.bgn (n * f.itemSize), ?_, read_ok_wf hwf h, rfl, ?_,
        Nat.le_trans (Nat.add_le_of_le_sub' hwf.be h) hwf.ea, hwf.len, rfl⟩
      · simp only [step, read_ok h]
      · rw [read_ok_contents]; exact QStep.readOk _ _ (hlen ▸ h)
    · have h' : f.end_ - f.bgn < n * f.itemSize := Nat.lt_of_not_le h
      refine ⟨f, Ret.null, ?_, hwf, rfl, QStep.readFail _ _ (hlen ▸ h'), trivial⟩
      simp only [step, read_fail h']
  | trimTo n =>
    have hv' : n * f.itemSize ≤ (contents f).length := hv
    have hn : n * f.itemSize ≤ f.end_ - f.bgn := hlen ▸ hv'
    refine ⟨trimTo f n, Ret.unit, rfl,
      trimTo_wf hwf (Nat.le_trans (Nat.add_le_of_le_sub' hwf.be hn) hwf.ea), rfl, ?_, trivial⟩
    rw [trimTo_contents hn]; exact QStep.trimTo _ _ hv'
  | trimBy n =>
    have hv' : n * f.itemSize ≤ (contents f).length := hv
    refine ⟨trimBy f n, Ret.unit, rfl, trimBy_wf hwf (hlen ▸ hv'), rfl, ?_, trivial⟩
    rw [trimBy_contents hwf]; exact QStep.trimBy _ _ hv'
  | clear =>
    refine ⟨clear f, Ret.unit, rfl, clear_wf hwf, rfl, ?_, trivial⟩
    rw [clear_contents]; exact QStep.clear _

/-- The whole run: final state, abstract run, and the pointer condition for every call of the trace. -/
theorem run_sim (fifoMin : Nat) (junk : Nat → β) :
    ∀ (ops : List (Op β)) (f : Fifo β), WF f → ValidOps f.itemSize (contents f).length ops →
      ∃ f' tr, run fifoMin junk f ops = some (f', tr) ∧ WF f' ∧ f'.itemSize = f.itemSize ∧
        QRun f.itemSize (contents f) ops (contents f') ∧
        tr.length = ops.length ∧
        (∀ i (hi : i < tr.length) (hj : i < ops.length), WF (tr[i]).1 ∧ PtrOK (tr[i]).1 ops[i] (tr[i]).2) := by
  intro ops
  induction ops with
  | nil =>
    intro f hwf _
    exact ⟨f, [], rfl, hwf, rfl, QRun.nil _, rfl, fun i hi => absurd hi (Nat.not_lt_zero _)⟩
  | cons op ops ih =>
    intro f hwf hv
    obtain ⟨hv1, hv2⟩ := hv
    obtain ⟨f1, r, s⟩ := step_sim fifoMin junk f op hwf hv1
    have hv2' : ValidOps f1.itemSize (contents f1).length ops := by rw [s.item, s.queue.length_eq]; exact hv2
    obtain ⟨f', tr, hrun, hwf', hitem, hq, hlen, hall⟩ := ih f1 s.wf hv2'
    refine ⟨f', (f1, r) :: tr, ?_, hwf', hitem.trans s.item, ?_, congrArg (· + 1) hlen, ?_⟩
    · simp only [run, s.eq, hrun]
    · rw [s.item] at hq; exact QRun.cons s.queue hq
    · intro i hi hj
      cases i with
      | zero => exact ⟨s.wf, s.ptr⟩
      | succ k => exact hall k (Nat.lt_of_succ_lt_succ hi) (Nat.lt_of_succ_lt_succ hj)

/-- The kernels' pattern `p = fifo_reserve(f, n); …write i ≤ n items at p…; fifo_trim_by(f, n - i)`:
    the queue grows by exactly the first `n - k` items at `p`. -/
theorem reserve_trim (fifoMin : Nat) (junk : Nat → β) (f : Fifo β) (n k : Nat) (hwf : WF f) (hk : k ≤ n) :
    ∃ f1 off, reserve fifoMin junk f n = some (f1, off) ∧ WF (trimBy f1 k) ∧
      off + n * f.itemSize ≤ f1.allocation ∧
      (bytesAt f1 off ((n - k) * f.itemSize)).length = (n - k) * f.itemSize ∧
      contents (trimBy f1 k) = contents f ++ bytesAt f1 off ((n - k) * f.itemSize) := by
  obtain ⟨⟨f1, off⟩, hr⟩ := reserve_total fifoMin junk hwf n
  have s := reserve_spec fifoMin junk hwf hr
  have hks : k * f.itemSize ≤ n * f.itemSize := Nat.mul_le_mul_right _ hk
  have he : off + (n - k) * f.itemSize = (trimBy f1 k).end_ := by
    show _ = f1.end_ - k * f1.itemSize
    rw [← s.off_end, s.item, Nat.sub_mul, Nat.add_sub_assoc hks]
  have hle : off + (n - k) * f.itemSize ≤ f1.allocation :=
    Nat.le_trans (Nat.add_le_add_left (Nat.mul_le_mul_right _ (Nat.sub_le n k)) off) s.end_le
  have hn : k * f1.itemSize ≤ f1.end_ - f1.bgn := by
    rw [s.item, ← s.off_end]
    exact Nat.le_trans hks (Nat.le_sub_of_add_le' (Nat.add_le_add_right s.off_ge _))
  exact ⟨f1, off, hr, trimBy_wf s.wf hn, s.end_le, bytesAt_length s.wf hle, s.contents_eq rfl he rfl⟩

end Soxr.Fifo
