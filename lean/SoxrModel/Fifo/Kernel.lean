import SoxrModel.Cr.StageLemmas
/-!
# Kernel-level bounds on the count model of the constant-rate engine (`Cr/Model.lean`)

Indices are in items relative to the FIFO's read pointer (`fifo_read_ptr`), so "inside the FIFO" is `index < occ`.

* half-band decimator (`half-fir.h`): `input = read_ptr + pre`, output `i` reads `input[2i - 2n .. 2i + 2n - 1]`
  (the scalar kernel reads `input[2i ± (2j+1)]`, `j < n`, and `input[2i]`; the SSE kernel loads the aligned-out
  groups `input[2i - 2j - 8 .. 2i - 2j - 1]` and `input[2i + 2j .. 2i + 2j + 7]`, which is where `-2n` comes from).
  With `pre = 2n`, `pre_post = 4n` that is `read_ptr[2i .. 2i + 4n - 1]`; when `num_in` is odd the last output
  borrows one frame of the post-context.
* clocked samplers (`poly-fir0.h`, `poly-fir.h`, cubic): output `k` sits at clock `clk + k·step < num_in·den` and
  reads at most `pre_post + 1` items from `⌊·/den⌋`; after the loop `fifo_read(⌊clk'/den⌋)` must succeed, otherwise
  C returns NULL, consumes nothing and still reduces the clock (a silent time slip): `clocked_read_ok` in `Cr/StageLemmas.lean`.
* dft stage (`cr.c:dft_stage_fn`): a block is taken only when `at + L·occ ≥ dft_length`.
-/
namespace Soxr.Cr

theorem numIn_le (c : StageCfg) (s : StageSt) : numIn c s ≤ s.occ - c.prePost := Nat.min_le_left _ _

/-- half-band: the window `read_ptr[2i .. 2i + pre_post]` of every output lies inside the FIFO — one item more than
    the kernel touches, which is the frame of post-context the last output borrows when `num_in` is odd. -/
theorem half_window (c : StageCfg) (s : StageSt) (i : Nat) (hi : i < (halfFn c s).2) :
    2 * i + c.prePost + 1 ≤ s.occ := by
  -- `num_out = (num_in + 1) / 2`, so `2i + 1 ≤ num_in ≤ occ − pre_post`
  have h : (i + 1) * 2 ≤ numIn c s + 1 := (Nat.le_div_iff_mul_le Nat.zero_lt_two).mp hi
  rw [Nat.succ_mul, Nat.mul_comm] at h
  exact Nat.lt_sub_iff_add_lt.mp (Nat.lt_of_lt_of_le (Nat.le_of_succ_le_succ h) (numIn_le c s))

/-- every iteration of `for (i = 0; pos < limit; ++i, pos += step)` runs with the clock below the limit. -/
theorem loopCount_body {pos step limit k : Nat} (hs : 0 < step) (hk : k < loopCount pos step limit) :
    pos + k * step < limit := by
  unfold loopCount at hk
  split at hk
  · rw [Nat.add_comm]
    exact Nat.lt_sub_iff_add_lt.mp (Nat.lt_of_not_le (mt (ceilDiv_le_iff hs).mpr (Nat.not_le_of_lt hk)))
  · exact absurd hk (Nat.not_lt_zero k)

theorem loopCount_le_ceilDiv (pos step limit : Nat) : loopCount pos step limit ≤ ceilDiv limit step := by
  unfold loopCount
  split
  · exact ceilDiv_mono (Nat.sub_le _ _)
  · exact Nat.zero_le _

/-- frames produced and the advanced clock of one clocked invocation. -/
def clockedCount (c : StageCfg) (s : StageSt) : Nat := loopCount s.clk c.step (numIn c s * c.den)
def clockedClk (c : StageCfg) (s : StageSt) : Nat := s.clk + clockedCount c s * c.step

/-- clocked sampler: the window of every output (`pre_post + 1` items from `⌊clock/den⌋`) lies inside the FIFO. -/
theorem clocked_reads_in_fifo (c : StageCfg) (s : StageSt) (hden : 0 < c.den) (hstep : 0 < c.step) :
    ∀ k, k < clockedCount c s → (s.clk + k * c.step) / c.den + (c.prePost + 1) ≤ s.occ := by
  intro k hk
  have hq : (s.clk + k * c.step) / c.den < numIn c s := (Nat.div_lt_iff_lt_mul hden).mpr (loopCount_body hstep hk)
  exact Nat.lt_sub_iff_add_lt.mp (Nat.lt_of_lt_of_le hq (numIn_le c s))

theorem clockedFn_clk_lt (c : StageCfg) (s : StageSt) (hden : 0 < c.den) (hclk : s.clk < c.den) :
    (clockedFn c s).1.clk < c.den := by
  simp only [clockedFn]
  split
  · exact hclk
  · exact Nat.mod_lt _ hden

/-- under the advance clause the read after the loop is the successful branch of `fifoRead`. -/
theorem clockedFn_occ (c : StageCfg) (s : StageSt) (hden : 0 < c.den) (hstep : 0 < c.step)
    (hadv : c.step ≤ (c.prePost + 1) * c.den) (hclk : s.clk < c.den) :
    (clockedFn c s).1.occ = s.occ - (if c.poly0 && numIn c s == 0 then 0 else clockedClk c s / c.den) := by
  simp only [clockedFn]
  split
  · rfl
  · exact fifoRead_of_le (clocked_read_ok c s hden hstep hclk hadv)

/-- dft stage: a block is taken only when `at + L·occ ≥ dft_length`, so everything up to
    `⌈(dft_length − at)/L⌉` items is there. -/
theorem dft_div_le_occ (c : StageCfg) (s : StageSt) (hL : 0 < c.L) (hgo : s.clk + c.L * s.occ ≥ c.dftLen) {x : Nat}
    (hx : x ≤ c.dftLen - s.clk + c.L - 1) : x / c.L ≤ s.occ := by
  have h1 : c.dftLen - s.clk ≤ c.L * s.occ := Nat.sub_le_iff_le_add'.mpr hgo
  have h2 : x < s.occ * c.L + c.L := by
    rw [Nat.mul_comm]
    exact Nat.lt_of_le_of_lt hx (Nat.lt_of_lt_of_le (Nat.sub_one_lt (Nat.ne_of_gt (Nat.add_pos_right _ hL)))
      (Nat.add_le_add_right h1 _))
  exact Nat.lt_succ_iff.mp ((Nat.div_lt_iff_lt_mul hL).mpr (Nat.succ_mul _ _ ▸ h2))

/-- dft stage: the `fifo_read(quot)` of a block succeeds (`quot = ⌈(block_len − at)/L⌉`, `block_len ≤ dft_length`). -/
theorem dft_read_succeeds (c : StageCfg) (s : StageSt) (hL : 0 < c.L) (hgo : s.clk + c.L * s.occ ≥ c.dftLen) :
    (c.dftLen - (c.numTaps - 1) + c.L - 1 - s.clk) / c.L ≤ s.occ := by
  refine dft_div_le_occ c s hL hgo ?_
  -- truncated subtraction: drop the common `- 1`, move `at` to the right, then `block_len ≤ dft_length ≤ dft_length - at + at`
  rw [Nat.sub_right_comm _ 1 s.clk]
  apply Nat.sub_le_sub_right
  rw [Nat.sub_le_iff_le_add, Nat.add_right_comm]
  exact Nat.add_le_add_right (Nat.le_trans (Nat.sub_le _ _) (Nat.le_add_of_sub_le (Nat.le_refl _))) c.L

/-! ### invariants of the stages over every reachable pipeline state

A property of a single stage that `Stage.run` and `Stage.addOcc` keep is kept, for all stages at once, by every
entry point of the engine. -/

section
variable {P : Stage → Prop} (hrun : ∀ x, P x → P x.run.1) (hadd : ∀ x n, P x → P (x.addOcc n))
include hrun hadd

theorem sp_forall (fl : Bool) (fuel : Nat) (stages : List Stage) (d : Bool) (r : List Stage × Nat × Bool)
    (hall : ∀ x ∈ stages, P x) (h : sp fl fuel stages d = some r) : ∀ x ∈ r.1, P x := by
  fun_induction sp fl fuel stages d generalizing r with
  | case1 | case2 => cases h
  | case3 _ x _ _ _ ih => exact ih r (List.forall_mem_singleton.mpr (hadd x _ (hall x (List.mem_singleton_self x)))) h
  | case4 _ _ _ _ _ ih => exact ih r hall h
  | case5 _ _ _ _ _ _ hnone => rw [hnone] at h; cases h
  | case6 _ x _ _ _ _ _ _ _ hsome ih2 ih1 =>
    rw [hsome] at h
    obtain ⟨hx, hb⟩ := List.forall_mem_cons.mp hall
    exact ih1 r (List.forall_mem_cons.mpr ⟨hadd x _ hx, ih2 _ hb hsome⟩) h
  | case7 _ x =>
    obtain rfl := Option.some.inj h
    obtain ⟨hx, hb⟩ := List.forall_mem_cons.mp hall
    exact List.forall_mem_cons.mpr ⟨hrun x hx, hb⟩

theorem procLoop_forall (fuel k : Nat) (e : Eng) (n : Int) (d : Bool) (e' : Eng)
    (hall : ∀ x ∈ e.stages, P x) (h : procLoop fuel k e n d = some e') : ∀ x ∈ e'.stages, P x := by
  fun_induction procLoop fuel k e n d with
  | case1 | case3 => cases h
  | case2 _ _ _ _ _ _ ih => exact ih hall h
  | case4 _ _ _ _ _ _ _ _ _ _ _ hsp ih => exact ih (sp_forall hrun hadd _ _ _ _ _ hall hsp) h
  | case5 => obtain rfl := Option.some.inj h; exact hall

omit hrun in
theorem addFirst_forall : ∀ (l : List Stage) (n : Nat), (∀ x ∈ l, P x) → ∀ x ∈ addFirst l n, P x
  | [], _, h => h
  | [a], n, h => List.forall_mem_singleton.mpr (hadd a n (h a (List.mem_singleton_self a)))
  | _ :: b :: r, n, h =>
    have ⟨ha, hr⟩ := List.forall_mem_cons.mp h
    List.forall_mem_cons.mpr ⟨ha, addFirst_forall (b :: r) n hr⟩

end

/-- the clauses of `PlanWF` the clocked-kernel theorems use, with the state invariant `clk < den`. -/
def ClkOK (x : Stage) : Prop :=
  x.cfg.kind = Kind.clocked →
    0 < x.cfg.den ∧ 0 < x.cfg.step ∧ x.cfg.step ≤ (x.cfg.prePost + 1) * x.cfg.den ∧ x.st.clk < x.cfg.den

theorem ClkOK_addOcc (x : Stage) (n : Nat) (h : ClkOK x) : ClkOK (x.addOcc n) := h

theorem ClkOK_run (x : Stage) (h : ClkOK x) : ClkOK x.run.1 := by
  intro hk
  have hk' : x.cfg.kind = Kind.clocked := hk
  obtain ⟨h1, h2, h3, h4⟩ := h hk'
  refine ⟨h1, h2, h3, ?_⟩
  show (stageFn x.cfg x.st).1.clk < x.cfg.den
  unfold stageFn
  rw [hk']
  exact clockedFn_clk_lt x.cfg x.st h1 h4

def EngOK (e : Eng) : Prop := ∀ x ∈ e.stages, ClkOK x

/-- the calls the API layer makes on one channel's engine. -/
inductive EngOp
  | input (n : Nat)
  | process (olen : Nat)
  | output (n0 : Nat)
  | flush
  deriving Repr

def Eng.apply (owed : Nat → Nat) (fuel : Nat) (e : Eng) : EngOp → Option Eng
  | .input n => some (e.input n)
  | .process olen => e.process fuel olen
  | .output n0 => some (e.output n0).1
  | .flush => some (e.flush owed)

def Eng.runOps (owed : Nat → Nat) (fuel : Nat) : Eng → List EngOp → Option Eng
  | e, [] => some e
  | e, op :: ops => match e.apply owed fuel op with
    | none => none
    | some e' => Eng.runOps owed fuel e' ops

/-- `_soxr_input` feeds the first stage, `_soxr_process` runs stages, `_soxr_output` and `_soxr_flush` leave them alone. -/
theorem EngOK_apply (owed : Nat → Nat) (fuel : Nat) {e e' : Eng} (h : EngOK e) :
    ∀ op, e.apply owed fuel op = some e' → EngOK e'
  | .input n, he => by
    obtain rfl := Option.some.inj he
    unfold Eng.input
    split
    · exact h
    · split
      · exact h
      · exact addFirst_forall ClkOK_addOcc _ _ h
  | .process olen, he => procLoop_forall ClkOK_run ClkOK_addOcc fuel _ _ _ _ _ h he
  | .output n0, he => by obtain rfl := Option.some.inj he; exact h
  | .flush, he => by
    obtain rfl := Option.some.inj he
    unfold Eng.flush
    split <;> exact h

theorem EngOK_runOps (owed : Nat → Nat) (fuel : Nat) : ∀ (ops : List EngOp) (e e' : Eng),
    EngOK e → Eng.runOps owed fuel e ops = some e' → EngOK e'
  | [], e, e', h, hr => by obtain rfl := Option.some.inj hr; exact h
  | op :: ops, e, e', h, hr => by
    unfold Eng.runOps at hr
    split at hr
    · cases hr
    · next e1 he1 => exact EngOK_runOps owed fuel ops e1 e' (EngOK_apply owed fuel h op he1) hr

/-- E2 for the constant-rate engine: `_soxr_output` never reports more than was asked
    (`n = min(min(-samples_out, n0) or n0, occupancy)`). -/
theorem engine_output_le (e : Eng) (n0 : Nat) : (e.output n0).2.toNat ≤ n0 := by
  have ht : e.target n0 ≤ n0 := by
    unfold Eng.target
    split
    · exact Int.min_le_right _ _
    · exact Int.le_refl _
  exact Int.toNat_le.mpr (Int.le_trans (Int.min_le_left _ _) ht)

/-- … and never more than the output FIFO holds, so its `fifo_read` succeeds. -/
theorem engine_output_le_occ (e : Eng) (n0 : Nat) : (e.output n0).2.toNat ≤ e.outOcc :=
  Int.toNat_le.mpr (Int.min_le_right _ _)

end Soxr.Cr
