import SoxrModel.Lsr.NoCrash
/-! The life cycle of the object (`initialise`, `soxr_set_io_ratio`, `soxr_clear`), the entry points of `soxr-lsr.c` over
    it and the data path, and the lift to every sequence of in-contract calls from `src_new` / `src_callback_new`.

* `Inv o`  (`error = none → num_channels ≠ 0`) is what the single-call no-crash theorems need.  It is kept by
  `src_process`, `src_callback_read`, `src_set_ratio`, `src_error` for **every** oracle (a failing `resampler_create` zeroes
  the channel count but stores the error).  It is **not** kept by `src_reset` on an arbitrary object: `soxr_clear` drops
  the error.
* `Wf o` (channels set and not torn down, or torn down and carrying the error) implies `Inv` and is kept by every entry
  point, `src_reset` included, for every oracle.
* `Live o` (`num_channels ≠ 0`) is kept by every entry point as long as no `resampler_create` fails during the call
  (`NoFail`: the oracle holds no `c false`), and implies `Inv`.

Every entry point has one specification (`src…_spec`): when it cannot crash, what it reports, and what it makes of the
object (`Next`). -/
namespace Soxr.Lsr

/-- a zeroed channel count comes with a stored error (`fatal_error` does both); what the single-call no-crash theorems
    assume. -/
def Inv (o : Obj) : Prop := o.error = none → o.chans ≠ 0

/-- the object has its channel count (it has not been zeroed by `fatal_error`). -/
def Live (o : Obj) : Prop := o.chans ≠ 0

theorem Live.inv {o : Obj} (h : Live o) : Inv o := fun _ => h

/-- no `resampler_create` fails: the oracle has no `c false`. -/
def NoFail (toks : List Tok) : Prop := ∀ t ∈ toks, t ≠ .c false

theorem NoFail.tail {t : Tok} {ts : List Tok} (h : NoFail (t :: ts)) : NoFail ts :=
  fun x hx => h x (List.mem_cons_of_mem _ hx)

/-- the object is in one of the two states the code can leave it in: it has its channel count and has not been torn
    down, or it has been torn down by `fatal_error` (everything zero) and carries the error. -/
def Wf (o : Obj) : Prop := (o.chans ≠ 0 ∧ o.dead = false) ∨ (o.dead = true ∧ o.error ≠ none)

theorem Wf.inv {o : Obj} (h : Wf o) : Inv o := by
  intro he
  rcases h with ⟨h1, _⟩ | ⟨_, h2⟩
  · exact h1
  · exact absurd he h2

theorem fresh_wf (id chans : Nat) (fn : Bool) (hch : chans ≠ 0) : Wf (fresh id chans fn) := Or.inl ⟨hch, rfl⟩

theorem deadObj_wf (e : Err) : Wf (deadObj e) := Or.inr ⟨rfl, nofun⟩

theorem Ext.inv {o o' : Obj} (h : Ext o o') (hi : Inv o) : Inv o' := fun he => by rw [h.chans]; exact hi (h.error he)

theorem Ext.live {o o' : Obj} (h : Ext o o') (hl : Live o) : Live o' := by unfold Live; rw [h.chans]; exact hl

theorem Ext.wf {o o' : Obj} (h : Ext o o') (hw : Wf o) : Wf o' := by
  rcases hw with ⟨h1, h2⟩ | ⟨h1, h2⟩
  · exact Or.inl ⟨by rw [h.chans]; exact h1, by rw [h.dead]; exact h2⟩
  · exact Or.inr ⟨by rw [h.dead]; exact h1, fun he => h2 (h.error he)⟩

/-- what a call that consumes the answers `toks` can make of the object: keep it (`Ext`), or — only when a
    `resampler_create` fails — leave the one `fatal_error` has zeroed, with its error. -/
def Next (toks : List Tok) (o o' : Obj) : Prop := Ext o o' ∨ (¬NoFail toks ∧ Ext (deadObj .engine) o')

theorem Next.ext {toks : List Tok} {o o' o'' : Obj} (h : Next toks o o') (e : Ext o' o'') : Next toks o o'' :=
  h.imp (·.trans e) (.imp_right (·.trans e))

theorem Next.inv {toks : List Tok} {o o' : Obj} (h : Next toks o o') (hi : Inv o) : Inv o' :=
  h.elim (·.inv hi) (·.2.inv (deadObj_wf _).inv)

theorem Next.wf {toks : List Tok} {o o' : Obj} (h : Next toks o o') (hw : Wf o) : Wf o' :=
  h.elim (·.wf hw) (·.2.wf (deadObj_wf _))

theorem Next.live {toks : List Tok} {o o' : Obj} (h : Next toks o o') (hn : NoFail toks) (hl : Live o) : Live o' :=
  h.elim (·.live hl) (absurd hn ·.1)

/-- `initialise` leaves a running object or — a `resampler_create` failed — the zeroed one with its error. -/
theorem initLoop_spec {P : Prop} (o : Obj) (left made : Nat) (c : Ctx) :
    Spec P (initLoop o left made) c fun r _ =>
      r = ({ o with inited := true }, none) ∨ (¬NoFail c.toks ∧ r = (deadObj .engine, some .engine)) := by
  induction left generalizing made c with
  | zero => exact .pure (.inl rfl)
  | succ left ih =>
    unfold initLoop
    refine .bind (.askCreate fun ok rest ht => .bind (.emit ?_))
    cases ok with
    | true => exact (ih (made + 1) _).mono fun _ _ h => h.imp_right (.imp_left fun hn hf => hn (ht ▸ hf).tail)
    | false =>
      exact .bind ((Quiet.repeatM (.emit _) _).spec fun _ _ =>
        .pure (.inr ⟨fun hf => hf _ (ht ▸ List.mem_cons_self) rfl, rfl⟩))

/-- `soxr_set_io_ratio`, every oracle: it never crashes; the object is kept, or torn down by a failing
    `resampler_create` (`Next`); the `soxr_set_error` that `src_process` / `src_callback_read` apply to the outcome changes
    nothing, since the error returned is the one stored unless none is stored; and a valid ratio on an object with its
    channel count leaves an object the data path cannot crash on. -/
theorem setIoRatio_spec {P : Prop} (o : Obj) (r : D) (slew : Nat) (c : Ctx) :
    Spec P (setIoRatio o r slew) c fun oe _ =>
      Next c.toks o oe.1 ∧ setError oe.1 oe.2 = oe.1 ∧ (Inv o → dpos r = true → Safe oe.1) := by
  unfold setIoRatio
  refine .ite (fun he => .pure ⟨.inl (.refl o), setError_of_none_or_same _ _ (.inr rfl), fun _ _ hn => ?_⟩) fun he => ?_
  · simp [show o.error = none from hn] at he
  have he : o.error = none := by simpa using he
  -- the branches that return the object as it is, running whenever the arguments are good
  have keep : ∀ e : Option Err, (Inv o → dpos r = true → o.inited = true) →
      Next c.toks o o ∧ setError o e = o ∧ (Inv o → dpos r = true → Safe o) :=
    fun e hi => ⟨.inl (.refl o), setError_none o e he, fun h1 h2 _ => hi h1 h2⟩
  refine .ite (fun hc => .pure (keep _ fun hi _ => absurd hc (hi he))) fun _ =>
    .ite (fun hr => .pure (keep _ fun _ h => by simp [h] at hr)) fun _ =>
    .ite (fun _ => (initLoop_spec _ _ 0 c).mono fun oe _ h => ?_) fun hi => ?_
  · rcases h with rfl | ⟨hn, rfl⟩
    · exact ⟨.inl ⟨rfl, rfl, fun _ => rfl, id⟩, setError_none _ _ he, fun _ _ _ => rfl⟩
    · exact ⟨.inr ⟨hn, .refl _⟩, setError_of_none_or_same _ _ (.inr rfl), fun _ _ => nofun⟩
  have hi : o.inited = true := by simpa using hi
  exact .ite (fun _ => .bind ((Quiet.repeatM (.emit _) _).spec fun _ _ => .pure (keep none fun _ _ => hi)))
    fun _ => .pure (keep _ fun _ _ => hi)

/-- a running constant-rate engine (no `set_io_ratio` entry) accepts the ratio it has (within `1e-15` of the stored
    reciprocal) and refuses any other; the object is untouched either way. -/
theorem setIoRatio_const_rate (o : Obj) (r : D) (slew : Nat) (he : o.error = none) (hc : o.chans ≠ 0) (hr : dpos r = true)
    (hi : o.inited = true) (hv : o.cfg.vr = false) (c : Ctx) :
    setIoRatio o r slew c = .ok (o, if closeTo o.ioRatio r then none else some .varying) c := by
  unfold setIoRatio
  simp [he, hc, hr, hi, hv, M.pure]

/-- `soxr_clear` (as repaired, /repo b5a678f): never crashes, keeps `Wf` for **every** oracle — a torn-down object is
    refused and keeps its error — and keeps `Live` when no `resampler_create` fails. -/
theorem soxrClear_spec {P : Prop} (o : Obj) (c : Ctx) :
    Spec P (soxrClear o) c fun oe _ => (Wf o → Wf oe.1) ∧ (NoFail c.toks → Live o → Live oe.1) := by
  unfold soxrClear
  refine .ite (fun _ => .pure ⟨id, fun _ => id⟩) fun hz => ?_
  -- not refused: a well-formed object has not been torn down, and keeps its channel count when cleared
  have hw : Wf o → Wf { o with error := none, inited := false, flushing := false } := fun hw =>
    hw.elim .inl fun ⟨hd, he⟩ => absurd (by rw [hd, Bool.and_true]; exact Option.isSome_iff_ne_none.mpr he) hz
  exact .bind ((Quiet.closeAll o).spec fun c1 ht =>
    .ite (fun _ => .pure ⟨fun h => Ext.wf ⟨rfl, rfl, id, id⟩ (hw h), fun _ => id⟩) fun _ =>
    .ite (fun _ => (setIoRatio_spec _ _ _ c1).mono fun _ _ ⟨hn, _⟩ => ⟨fun h => hn.wf (hw h), fun hf => hn.live (ht ▸ hf)⟩)
      fun _ => .pure ⟨hw, fun _ => id⟩)

/-- **`src_process`**, every converter state, data block and oracle: it cannot crash when the ratio is valid and the
    object has its channel count or an error; both counts are reported, within `input_frames` (as `soxr_process` decodes
    it) and `output_frames`; the object is kept or torn down. -/
theorem srcProcess_spec (fuel : Nat) (o : Obj) (d : Data) (c : Ctx) :
    Spec (Inv o ∧ dpos (recip d.ratio) = true) (srcProcess fuel (some o) (some d)) c fun r _ =>
      ∃ o' u g, r = (some o', ⟨rcOf o'.error, some u, some g⟩) ∧ Next c.toks o o' ∧
        u ≤ (decodeIlen (if d.eoi then ~~~d.inFrames else d.inFrames)).2.toNat ∧ g ≤ d.outFrames.toNat := by
  refine .bind ((setIoRatio_spec o _ _ c).mono fun oe _ ⟨hn, hse, hs⟩ => ?_)
  rw [hse]
  exact .bind ((soxrProcess_spec _ _ _ _ _ _ _).conseq (fun h => hs h.1 h.2) fun r _ ⟨e, hu, hg⟩ =>
    .pure ⟨r.1, r.2.1, r.2.2, rfl, hn.ext e, hu, hg⟩)

/-- a NULL converter or a NULL data block: `-1`, nothing written, nothing touched, no engine call. -/
theorem srcProcess_null (fuel : Nat) (p : Option Obj) (io : Option Data) (hnull : p = none ∨ io = none) (c : Ctx) :
    srcProcess fuel p io c = .ok (p, ⟨-1, none, none⟩) c := by
  rcases hnull with h | h <;> subst h
  · cases io <;> rfl
  · cases p <;> rfl

/-- **`src_callback_read`** likewise; a negative length is refused, otherwise the count is between 0 and `olen`. -/
theorem srcCallbackRead_spec (fuel : Nat) (o : Obj) (ratio : D) (olen : BitVec 64) (outNull : Bool) (c : Ctx) :
    Spec (Inv o ∧ dpos (recip ratio) = true) (srcCallbackRead fuel (some o) ratio olen outNull) c fun r _ =>
      ∃ o', r.1 = some o' ∧ Next c.toks o o' ∧ (olen.msb = false → 0 ≤ r.2 ∧ r.2 ≤ olen.toNat) := by
  refine .ite (fun hm => .pure ⟨o, rfl, .inl (.refl o), fun h => by simp [h] at hm⟩) fun _ => ?_
  refine .bind ((setIoRatio_spec o _ _ c).mono fun oe _ ⟨hn, hse, hs⟩ => ?_)
  rw [hse]
  exact .bind ((soxrOutput_spec _ _ _ _ _).conseq (fun h => hs h.1 h.2) fun r _ ⟨e, hg⟩ =>
    .pure ⟨r.1, rfl, hn.ext e, fun _ => ⟨Int.natCast_nonneg _, Int.ofNat_le.mpr hg⟩⟩)

/-- a NULL converter or a negative length: `-1`, nothing touched. -/
theorem srcCallbackRead_refused (fuel : Nat) (p : Option Obj) (ratio : D) (olen : BitVec 64) (outNull : Bool)
    (h : p = none ∨ olen.msb = true) (c : Ctx) : srcCallbackRead fuel p ratio olen outNull c = .ok (p, -1) c := by
  cases p with
  | none => rfl
  | some o => simp [srcCallbackRead, h.resolve_left nofun, M.pure]

/-- `src_set_ratio` (any ratio, every oracle) never crashes. -/
theorem srcSetRatio_spec {P : Prop} (o : Obj) (ratio : D) (c : Ctx) :
    Spec P (srcSetRatio (some o) ratio) c fun r _ => ∃ o', r.1 = some o' ∧ Next c.toks o o' := by
  refine .bind ((setIoRatio_spec o _ 0 c).mono fun oe _ h => .pure ?_)
  exact ⟨oe.1, rfl, h.1⟩

/-- `src_reset` never crashes, keeps `Wf` (every oracle) and `Live` (no failing create). -/
theorem srcReset_spec {P : Prop} (o : Obj) (c : Ctx) :
    Spec P (srcReset (some o)) c fun r _ =>
      ∃ o', r.1 = some o' ∧ (Wf o → Wf o') ∧ (NoFail c.toks → Live o → Live o') := by
  refine .bind ((soxrClear_spec o c).mono fun oe _ h => .pure ?_)
  exact ⟨oe.1, rfl, h⟩

/-- **`src_reset` on a converter without `RESET_ON_CLEAR` gives the object `src_new` gives**: any history,
    any stored error (it is dropped), running or not; the engine instances are closed; return code 0. -/
theorem reset_is_fresh_of_flag (id chans : Nat) (fn : Bool) (o : Obj) (hcfg : o.cfg = cfgOf id) (hr : (cfgOf id).reset = false)
    (hch : o.chans = chans) (hfn : o.hasFn = fn) (hmax : o.maxIlen = 2 ^ 64 - 1) (hdead : o.dead = false) (c : Ctx) :
    ∃ c', srcReset (some o) c = .ok (some (fresh id chans fn), 0) c' ∧ c'.toks = c.toks := by
  obtain ⟨c1, h1, h2⟩ := Quiet.closeAll o c
  have hf : { o with ioRatio := 0, error := none, inited := false, flushing := false } = fresh id chans fn := by
    cases o; simp_all [fresh]
  refine ⟨c1, ?_, h2⟩
  simpa [srcReset, soxrClear, hdead, M.bind, h1, hcfg ▸ hr, M.pure, rcOf] using hf

/-- the torn-down object is refused by `src_reset` (`-1`) and keeps its error. -/
theorem reset_refuses_torn_down :
    srcReset (some (deadObj .engine)) ⟨[], []⟩ = .ok (some (deadObj .engine), -1) ⟨[], []⟩ := by decide

/-- **`src_simple`**: if it runs to completion the counts are within the offered sizes. -/
theorem srcSimple_spec (fuel : Nat) (d : Data) (id : Nat) (chans : Int) (c : Ctx) :
    Spec False (srcSimple fuel (some d) id chans) c fun r _ => ∀ rc u g, r = .done rc u g →
      u ≤ d.inFrames.toNat ∧ g ≤ d.outFrames.toNat ∧ d.inFrames.msb = false := by
  refine .ite (fun _ => .pure fun _ _ _ => nofun) fun hc => ?_
  have hin : d.inFrames.msb = false := by simp_all
  refine .bind (Spec.post_true.mono fun oe _ _ =>
    .ite (fun _ => .pure fun _ _ _ h => by cases h; exact ⟨Nat.zero_le _, Nat.zero_le _, hin⟩) fun _ =>
    .bind ((soxrProcess_spec _ _ _ _ _ _ _).conseq False.elim fun r _ ⟨_, hu, hg⟩ =>
    .bind ((Quiet.closeAll _).spec fun _ _ => .pure fun _ _ _ h => ?_)))
  cases h
  rw [(decodeIlen_roundtrip _ hin).1] at hu
  exact ⟨hu, hg, hin⟩

/-- the calls a live converter can be given (what the driver's `runOp` executes on the current object). -/
inductive Op where
  | process (d : Data)
  | read (ratio : D) (olen : BitVec 64) (outNull : Bool)
  | setRatio (ratio : D)
  | reset
  | error
deriving Repr

/-- in contract for the no-crash clause: a valid `src_ratio` where one is dereferenced into the engine
    (`src_set_ratio` tolerates any value). -/
def Op.inContract : Op → Prop
  | .process d => dpos (recip d.ratio) = true
  | .read r _ _ => dpos (recip r) = true
  | _ => True

/-- outcome of a step / of a sequence. -/
inductive Out where
  | ok (o : Obj)
  | crash
  | desync
deriving DecidableEq, Repr

def outOf {α : Type} (r : R (Option Obj × α)) : Out :=
  match r with
  | .ok (some o, _) _ => .ok o
  | .ok (none, _) _ => .desync
  | .crash _ => .crash
  | .desync _ => .desync

/-- one call with its own oracle (as the driver runs it: events start empty). -/
def stepOp (fuel : Nat) (o : Obj) (op : Op) (toks : List Tok) : Out :=
  match op with
  | .process d => outOf (srcProcess fuel (some o) (some d) ⟨[], toks⟩)
  | .read r olen outNull => outOf (srcCallbackRead fuel (some o) r olen outNull ⟨[], toks⟩)
  | .setRatio r => outOf (srcSetRatio (some o) r ⟨[], toks⟩)
  | .reset => outOf (srcReset (some o) ⟨[], toks⟩)
  | .error => .ok o

/-- a sequence of calls, each with its oracle; stops at the first crash / desync. -/
def runOps (fuel : Nat) : Obj → List (Op × List Tok) → Out
  | o, [] => .ok o
  | o, (op, toks) :: rest =>
    match stepOp fuel o op toks with
    | .ok o' => runOps fuel o' rest
    | x => x

theorem outOf_spec {α : Type} {P : Prop} {m : M (Option Obj × α)} {c : Ctx} {Q : Obj → Prop}
    (h : Spec P m c fun r _ => ∃ o', r.1 = some o' ∧ Q o') (hp : P) :
    outOf (m c) ≠ .crash ∧ ∀ o', outOf (m c) = .ok o' → Q o' := by
  revert h; unfold Spec
  cases m c with
  | ok r c' =>
    rintro ⟨o', e, hq⟩
    obtain ⟨p, a⟩ := r
    cases e
    exact ⟨nofun, fun _ h => by cases h; exact hq⟩
  | crash => exact fun h => absurd hp h
  | desync => exact fun _ => ⟨nofun, fun _ h => nomatch h⟩

/-- one in-contract step from a `Wf` object, **every oracle**: no crash, the result is `Wf` again; the channel count is
    kept when no `resampler_create` fails. -/
theorem stepOp_spec (fuel : Nat) (o : Obj) (op : Op) (toks : List Tok) (hc : op.inContract) (hw : Wf o) :
    stepOp fuel o op toks ≠ .crash ∧
    (∀ o', stepOp fuel o op toks = .ok o' → Wf o' ∧ (NoFail toks → Live o → Live o')) := by
  cases op with
  | process d =>
    exact outOf_spec ((srcProcess_spec fuel o d _).mono fun _ _ ⟨o', _, _, e, hn, _⟩ =>
      ⟨o', congrArg Prod.fst e, hn.wf hw, hn.live⟩) ⟨hw.inv, hc⟩
  | read r olen outNull =>
    exact outOf_spec ((srcCallbackRead_spec fuel o r olen outNull _).mono fun _ _ ⟨o', e, hn, _⟩ =>
      ⟨o', e, hn.wf hw, hn.live⟩) ⟨hw.inv, hc⟩
  | setRatio r =>
    exact outOf_spec ((srcSetRatio_spec o r _).mono fun _ _ ⟨o', e, hn⟩ => ⟨o', e, hn.wf hw, hn.live⟩) trivial
  | reset =>
    exact outOf_spec ((srcReset_spec o _).mono fun _ _ ⟨o', e, h1, h2⟩ => ⟨o', e, h1 hw, h2⟩) trivial
  | error => exact ⟨nofun, fun _ h => by cases h; exact ⟨hw, fun _ => id⟩⟩

/-- **every sequence of in-contract calls — `src_reset` included, every oracle, failing `resampler_create` included —
    from a `Wf` object: no crash**, and the object stays `Wf`; when moreover no `resampler_create` fails, the converter
    keeps its channel count throughout (it is never torn down). -/
theorem runOps_spec (fuel : Nat) (o : Obj) (hw : Wf o) (ops : List (Op × List Tok))
    (hops : ∀ x ∈ ops, x.1.inContract) :
    runOps fuel o ops ≠ .crash ∧
    ∀ o', runOps fuel o ops = .ok o' → Wf o' ∧ ((∀ x ∈ ops, NoFail x.2) → Live o → Live o') := by
  induction ops generalizing o with
  | nil => exact ⟨nofun, fun o' h => by cases h; exact ⟨hw, fun _ => id⟩⟩
  | cons x rest ih =>
    obtain ⟨op, toks⟩ := x
    obtain ⟨n1, n2⟩ := stepOp_spec fuel o op toks (hops _ List.mem_cons_self) hw
    unfold runOps
    cases hs : stepOp fuel o op toks with
    | ok o1 =>
      obtain ⟨w1, l1⟩ := n2 o1 hs
      obtain ⟨m1, m2⟩ := ih o1 w1 fun y hy => hops y (List.mem_cons_of_mem _ hy)
      exact ⟨m1, fun o' h => ⟨(m2 o' h).1, fun hn hl =>
        (m2 o' h).2 (fun y hy => hn y (List.mem_cons_of_mem _ hy)) (l1 (hn _ List.mem_cons_self) hl)⟩⟩
    | crash => exact absurd hs n1
    | desync => exact ⟨nofun, fun _ h => nomatch h⟩

end Soxr.Lsr
