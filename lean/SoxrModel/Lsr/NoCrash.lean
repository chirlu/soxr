import SoxrModel.Lsr.Lemmas
/-! The data path of the API layer — `soxr_input`, `soxr_output` with its pull loop, `soxr_process` — with one
    specification per function, for every engine and callback answer: the counts it reports stay within what was offered
    and asked for; of the object it changes nothing but `flushing` and a new error (`Ext`); and its two crash sites
    (`soxr_input`, `soxr_output_no_callback` on an object without resamplers) are out of reach on a `Safe` object. -/
namespace Soxr.Lsr

/-- an object on which the API layer cannot crash: it has its resamplers, or an error is stored (every entry point
    returns early then). -/
def Safe (o : Obj) : Prop := o.error = none → o.inited = true

/-- `o'` has the channel count of `o`, is torn down iff `o` is, has its resamplers if `o` has, and no error has been
    cleared on the way. -/
structure Ext (o o' : Obj) : Prop where
  chans : o'.chans = o.chans
  dead : o'.dead = o.dead
  inited : o.inited = true → o'.inited = true
  error : o'.error = none → o.error = none

theorem Ext.refl (o : Obj) : Ext o o := ⟨rfl, rfl, id, id⟩

/-- recording an error (the NULL-pointer errors of the data path). -/
theorem Ext.storeError (o : Obj) (e : Err) : Ext o { o with error := some e } := ⟨rfl, rfl, id, nofun⟩

/-- setting `flushing` (the empty `soxr_input`, `soxr_process` on its last block). -/
theorem Ext.setFlushing (o : Obj) (f : Bool) : Ext o { o with flushing := f } := ⟨rfl, rfl, id, id⟩

theorem Ext.trans {a b c : Obj} (h1 : Ext a b) (h2 : Ext b c) : Ext a c :=
  ⟨h2.chans.trans h1.chans, h2.dead.trans h1.dead, fun h => h2.inited (h1.inited h), fun h => h1.error (h2.error h)⟩

theorem Ext.safe {o o' : Obj} (h : Ext o o') (hs : Safe o) : Safe o' := fun he => h.inited (hs (h.error he))

theorem soxrInput_spec (o : Obj) (inNull : Bool) (len : Nat) (c : Ctx) :
    Spec (Safe o) (soxrInput o inNull len) c fun oi _ => Ext o oi.1 ∧ oi.2 ≤ len := by
  unfold soxrInput
  refine .ite (fun _ => .pure ⟨.refl o, Nat.zero_le _⟩) fun he =>
    .ite (fun _ => .pure ⟨.storeError o _, Nat.zero_le _⟩) fun _ =>
    .ite (fun _ => .pure ⟨.setFlushing o _, Nat.zero_le _⟩) fun _ =>
    .ite (fun hi => .crash fun hs => ?_) fun _ =>
    .bind ((Quiet.repeatM (.emit _) _).spec fun _ _ => .pure ⟨.refl o, Nat.le_refl _⟩)
  -- the crash site `p->resamplers[0]`: no error stored and no resamplers
  simp [hs (by simpa using he)] at hi

theorem outChans_spec {P : Prop} (o : Obj) (len left done : Nat) (c : Ctx) (hd : done ≤ len) :
    Spec P (outChans o len left done) c fun g _ => g ≤ len := by
  induction left generalizing done c with
  | zero => exact .pure hd
  | succ left ih =>
    unfold outChans
    exact .bind ((Quiet.ite (.emit _) .pure).spec fun _ _ =>
      .bind (.emit (.bind (.askOutput fun g _ hg => .bind (.emit (ih g _ hg))))))

/-- E2 lifted to `soxr_output_no_callback`. -/
theorem outputNoCallback_spec (o : Obj) (len : Nat) (c : Ctx) :
    Spec (o.inited = true) (outputNoCallback o len) c fun g _ => g ≤ len := by
  unfold outputNoCallback
  exact .ite (fun hi => .crash fun h => by simp [h] at hi) fun _ => outChans_spec o len _ 0 c (Nat.zero_le _)

/-- **the pull loop of `soxr_output` never delivers more than was asked for**, for any number of iterations, any
    engine answers (E2), any callback answers. -/
theorem pullLoop_spec (fuel : Nat) (o : Obj) (len0 olen odone0 : Nat) (c : Ctx) (hinv : odone0 + olen = len0) :
    Spec (o.inited = true) (pullLoop fuel o len0 olen odone0) c fun r _ => Ext o r.1 ∧ r.2 ≤ len0 := by
  induction fuel generalizing o olen odone0 c with
  | zero => exact trivial
  | succ fuel ih =>
    unfold pullLoop
    refine .bind ((outputNoCallback_spec o olen c).mono fun odone _ hle =>
      .ite (fun _ => .pure ⟨.refl o, by omega⟩) fun _ =>
      .bind (.askCallback fun cbr _ => .bind (.emit (
      .ite (fun _ => .pure ⟨.storeError o _, by omega⟩) fun _ =>
      .bind ((soxrInput_spec o false cbr.1 _).conseq (fun hi _ => hi) fun oi c4 ⟨e1, _⟩ =>
      .ite (fun _ => ?_) fun _ => .pure ⟨e1, by omega⟩)))))
    exact (ih oi.1 _ _ c4 (by omega)).conseq e1.inited fun _ _ ⟨e2, hr⟩ => ⟨e1.trans e2, hr⟩

theorem soxrOutput_spec (fuel : Nat) (o : Obj) (outNull : Bool) (len0 : Nat) (c : Ctx) :
    Spec (Safe o) (soxrOutput fuel o outNull len0) c fun r _ => Ext o r.1 ∧ r.2 ≤ len0 := by
  unfold soxrOutput
  exact .ite (fun _ => .pure ⟨.refl o, Nat.zero_le _⟩) fun he =>
    .ite (fun _ => .pure ⟨.storeError o _, Nat.zero_le _⟩) fun _ =>
    (pullLoop_spec fuel o len0 len0 0 c (Nat.zero_add _)).conseq (fun hs => hs (by simpa using he)) fun _ _ => id

theorem processCore_spec (fuel : Nat) (o1 : Obj) (inNull outNull : Bool) (ilen olen : Nat) (c : Ctx) :
    Spec (Safe o1) (processCore fuel o1 inNull outNull ilen olen) c fun r _ =>
      Ext o1 r.1 ∧ r.2.1 ≤ ilen ∧ r.2.2 ≤ olen := by
  unfold processCore
  refine .ite (fun _ => .bind ((Quiet.ite (.repeatM (.emit _) _) .pure).spec fun _ _ =>
    .pure ⟨.refl o1, Nat.le_refl _, Nat.zero_le _⟩)) fun _ => ?_
  have hin : Spec (Safe o1) (if ilen != 0 then soxrInput o1 inNull ilen else M.pure (o1, 0)) c fun oi _ =>
      Ext o1 oi.1 ∧ oi.2 ≤ ilen :=
    .ite (fun _ => soxrInput_spec _ _ _ _) fun _ => .pure ⟨.refl o1, Nat.zero_le _⟩
  exact .bind (hin.mono fun oi _ ⟨e1, hi⟩ => .bind ((soxrOutput_spec fuel oi.1 outNull olen _).conseq e1.safe
    fun oo _ ⟨e2, ho⟩ => .pure ⟨e1.trans e2, hi, ho⟩))

/-- **`soxr_process`: `idone ≤ ilen0` (decoded) and `odone ≤ olen`.** -/
theorem soxrProcess_spec (fuel : Nat) (o : Obj) (inNull : Bool) (ilen0 : BitVec 64) (outNull : Bool) (olen : Nat)
    (c : Ctx) :
    Spec (Safe o) (soxrProcess fuel o inNull ilen0 outNull olen) c fun r _ =>
      Ext o r.1 ∧ r.2.1 ≤ (decodeIlen ilen0).2.toNat ∧ r.2.2 ≤ olen :=
  (processCore_spec fuel { o with flushing := flushAfter o inNull ilen0 olen } inNull outNull _ olen c).mono
    fun _ _ ⟨e, hi, ho⟩ => ⟨(Ext.setFlushing o _).trans e, Nat.le_trans hi (ilenOf_le o inNull ilen0 olen), ho⟩

end Soxr.Lsr
