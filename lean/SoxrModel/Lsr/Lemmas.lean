import SoxrModel.Lsr.Model
/-! A Hoare calculus for the oracle monad `M` (`Spec`, with `Quiet` for the loops that only report events), through which
    the later files read the functions of the model forwards; then what the pure parts compute: the `~input_frames`
    decoding, `soxr_set_error` as written, and the totals clause over runs of drain calls. -/
namespace Soxr.Lsr
open Soxr.Conv

/-- Specification of `m` run from `c`: what it returns satisfies `Q`, and under `P` it does not crash (`P := False` leaves
    the postcondition alone; a specification for every `P` says that `m` never crashes).  A run whose oracle has no
    answer of the kind asked for (`desync`) meets every specification: the theorems speak of runs against answers an
    engine gave. -/
def Spec {α : Type} (P : Prop) (m : M α) (c : Ctx) (Q : α → Ctx → Prop) : Prop :=
  match m c with
  | .ok a c' => Q a c'
  | .crash _ => ¬P
  | .desync _ => True

section
variable {α β : Type} {P P' : Prop} {c : Ctx} {m : M α} {Q Q' : α → Ctx → Prop}

theorem Spec.pure {a : α} (h : Q a c) : Spec P (M.pure a) c Q := h

theorem Spec.bind {f : α → M β} {Q : β → Ctx → Prop} (h : Spec P m c fun a c' => Spec P (f a) c' Q) :
    Spec P (M.bind m f) c Q := by
  revert h; unfold Spec M.bind
  cases m c <;> exact id

/-- the rule of consequence. -/
theorem Spec.conseq (h : Spec P m c Q) (hp : P' → P) (hq : ∀ a c', Q a c' → Q' a c') : Spec P' m c Q' := by
  revert h; unfold Spec
  cases m c with
  | ok a c' => exact hq a c'
  | crash => exact fun h h' => h (hp h')
  | desync => exact id

theorem Spec.mono (h : Spec P m c Q) (hq : ∀ a c', Q a c' → Q' a c') : Spec P m c Q' := h.conseq id hq

theorem Spec.ok (h : Spec P m c Q) {a : α} {c' : Ctx} (hm : m c = .ok a c') : Q a c' := by
  unfold Spec at h; rw [hm] at h; exact h

theorem Spec.no_crash (h : Spec P m c Q) (hp : P) (c' : Ctx) : m c ≠ .crash c' := by
  intro hm; unfold Spec at h; rw [hm] at h; exact h hp

theorem Spec.crash (h : ¬P) : Spec P crash c Q := h

theorem Spec.ite {b : Prop} [Decidable b] {m₁ m₂ : M α} (h₁ : b → Spec P m₁ c Q) (h₂ : ¬b → Spec P m₂ c Q) :
    Spec P (if b then m₁ else m₂) c Q := by
  split
  · exact h₁ ‹_›
  · exact h₂ ‹_›

theorem Spec.post_true : Spec False m c fun _ _ => True := by
  unfold Spec; cases m c <;> simp

theorem Spec.emit {e : Ev} {Q : Unit → Ctx → Prop} (h : Q () { c with evs := e :: c.evs }) : Spec P (emit e) c Q := h

theorem Spec.askCreate {Q : Bool → Ctx → Prop} (h : ∀ ok rest, c.toks = .c ok :: rest → Q ok { c with toks := rest }) :
    Spec P askCreate c Q := by
  unfold Spec Lsr.askCreate
  rcases hc : c.toks with _ | ⟨_ | _ | _, rest⟩
  case cons.c ok => exact h ok rest hc
  all_goals trivial

/-- the engine law E2, as the abstract engine has it. -/
theorem Spec.askOutput {len : Nat} {Q : Nat → Ctx → Prop} (h : ∀ g c', g ≤ len → Q g c') : Spec P (askOutput len) c Q := by
  unfold Spec Lsr.askOutput
  rcases c.toks with _ | ⟨_ | _ | _, rest⟩
  case cons.g => exact h _ _ (Nat.min_le_right _ _)
  all_goals trivial

theorem Spec.askCallback {Q : Nat × Bool → Ctx → Prop} (h : ∀ r c', Q r c') : Spec P askCallback c Q := by
  unfold Spec Lsr.askCallback
  rcases c.toks with _ | ⟨_ | _ | _, rest⟩
  case cons.k => exact h _ _
  all_goals trivial

end

/-- `m` only reports events: it returns, and leaves the oracle alone. -/
def Quiet (m : M Unit) : Prop := ∀ c, ∃ c', m c = .ok () c' ∧ c'.toks = c.toks

theorem Quiet.pure : Quiet (M.pure ()) := fun c => ⟨c, rfl, rfl⟩

theorem Quiet.emit (e : Ev) : Quiet (emit e) := fun _ => ⟨_, rfl, rfl⟩

theorem Quiet.ite {b : Prop} [Decidable b] {m₁ m₂ : M Unit} (h₁ : Quiet m₁) (h₂ : Quiet m₂) :
    Quiet (if b then m₁ else m₂) := by
  split <;> assumption

theorem Quiet.repeatM {m : M Unit} (h : Quiet m) : ∀ n, Quiet (repeatM n m)
  | 0 => .pure
  | n + 1 => fun c => by
    obtain ⟨c1, h1, t1⟩ := h c
    obtain ⟨c2, h2, t2⟩ := Quiet.repeatM h n c1
    exact ⟨c2, by simp only [Lsr.repeatM, M.bind, h1, h2], t2.trans t1⟩

theorem Quiet.closeAll (o : Obj) : Quiet (closeAll o) := .ite (.repeatM (.emit _) _) .pure

theorem Quiet.spec {m : M Unit} (hm : Quiet m) {P : Prop} {c : Ctx} {Q : Unit → Ctx → Prop}
    (h : ∀ c', c'.toks = c.toks → Q () c') : Spec P m c Q := by
  obtain ⟨c', h1, h2⟩ := hm c
  unfold Spec; rw [h1]; exact h c' h2

theorem repeatM_emit_toks (n : Nat) (e : Ev) (c c' : Ctx) (u : Unit) (h : repeatM n (emit e) c = .ok u c') :
    c'.toks = c.toks := by
  obtain ⟨c1, h1, h2⟩ := Quiet.repeatM (.emit e) n c
  rw [h1] at h; cases h; exact h2

/-- **the end-of-input encoding round-trips**: for a non-negative `input_frames`, `soxr_process` decodes `~input_frames` as
    (flush requested, `input_frames`), and `input_frames` itself as (no flush, `input_frames`). -/
theorem decodeIlen_roundtrip (n : BitVec 64) (h : n.msb = false) :
    decodeIlen (~~~n) = (true, n) ∧ decodeIlen n = (false, n) := by
  unfold decodeIlen
  simp [BitVec.msb_not, h]

/-- what `src_process` hands to `soxr_process` decodes to `input_frames`, `end_of_input` or not. -/
theorem decodeIlen_eoi (n : BitVec 64) (h : n.msb = false) (eoi : Bool) : (decodeIlen (if eoi then ~~~n else n)).2 = n := by
  cases eoi
  · exact congrArg Prod.snd (decodeIlen_roundtrip n h).2
  · exact congrArg Prod.snd (decodeIlen_roundtrip n h).1

theorem iForO_le (olen : Nat) (io : D) (ilen : Nat) : iForO olen io ilen ≤ ilen := Nat.min_le_right _ _

theorem ilenOf_le (o : Obj) (inNull : Bool) (ilen0 : BitVec 64) (olen : Nat) :
    ilenOf o inNull ilen0 olen ≤ (decodeIlen ilen0).2.toNat := by
  unfold ilenOf
  split
  · exact Nat.zero_le _
  · exact iForO_le _ _ _

/-- `soxr_set_error` as written tests `!p->error`, not `p->error`: it changes nothing when no error is stored — whatever it
    is given — or when it is given the stored one. -/
theorem setError_of_none_or_same (o : Obj) (e : Option Err) (h : o.error = none ∨ o.error = e) : setError o e = o := by
  unfold setError
  split
  · rfl
  · next hn =>
    -- the store is reached with no error stored only when `e` is "no error" too
    have : o.error = e := h.elim (fun h => by simpa [h] using hn) id
    cases o; cases this; rfl

theorem setError_none (o : Obj) (e : Option Err) (h : o.error = none) : setError o e = o :=
  setError_of_none_or_same o e (.inl h)

/-- and a stored error is overwritten by whatever comes, "no error" too. -/
theorem setError_some (o : Obj) (e : Option Err) (x : Err) (h : o.error = some x) : (setError o e).error = e := by
  unfold setError; simp [h]

/-- a constant-rate engine refuses a different ratio, and `src_process` loses the refusal in `soxr_set_error`: the
    object is untouched, the old ratio stays in force, and no error is stored (so `src_process` goes on and returns 0). -/
theorem refused_change_is_silent (o : Obj) (he : o.error = none) : setError o (some .varying) = o :=
  setError_none o _ he

/-! Totals: what the engine owes, then nothing.  The engine laws are hypotheses here, named after where they are proved
for the engine models: E2 (`Fifo/FootprintLemmas`, `Cr`), exact drain C03 (`Cr/Drain`: after the end of input exactly
the owed total is delivered, never more), progress C08 (a flushing engine with output owed and room offered delivers
something). -/

/-- one drain call: `olen` frames of room, the engine hands over `g`. -/
structure Drain where
  olen : Nat
  g : Nat

/-- the three laws along a run of drain calls, `tout` delivered so far of `owed`. -/
def Lawful (owed : Nat) : Nat → List Drain → Prop
  | _, [] => True
  | tout, d :: ds => d.g ≤ d.olen ∧ tout + d.g ≤ owed ∧ (0 < d.olen → tout < owed → 0 < d.g) ∧ Lawful owed (tout + d.g) ds

def delivered (ds : List Drain) : Nat := (ds.map (·.g)).sum

theorem delivered_cons (d : Drain) (ds : List Drain) : delivered (d :: ds) = d.g + delivered ds := rfl

/-- a lawful run stays within the owed total, and what follows a part of it is lawful from there. -/
theorem lawful_append (owed : Nat) (pre ds : List Drain) (tout : Nat) (h : Lawful owed tout (pre ++ ds)) (h0 : tout ≤ owed) :
    tout + delivered pre ≤ owed ∧ Lawful owed (tout + delivered pre) ds := by
  induction pre generalizing tout with
  | nil => exact ⟨h0, h⟩
  | cons p pre ih =>
    rw [delivered_cons, ← Nat.add_assoc]
    exact ih _ h.2.2.2 h.2.1

/-- **Totals**: along any lawful run of calls with `end_of_input` set, the first call that returns 0 although room was
    offered marks the point where exactly the owed total has been delivered; every later call returns 0 as well. -/
theorem totals_owed_then_zero (owed tout : Nat) (pre post : List Drain) (d : Drain) (h0 : tout ≤ owed)
    (h : Lawful owed tout (pre ++ d :: post)) (hroom : 0 < d.olen) (hz : d.g = 0) :
    tout + delivered pre = owed ∧ ∀ e ∈ post, e.g = 0 := by
  obtain ⟨hle, -, h2, h3, h4⟩ := lawful_append owed pre _ tout h h0
  -- progress: nothing delivered although there was room, so nothing is owed any more
  have ht : tout + delivered pre = owed := by
    rcases Nat.lt_or_ge (tout + delivered pre) owed with hlt | hge
    · have := h3 hroom hlt; omega
    · omega
  refine ⟨ht, fun e he => ?_⟩
  -- exact drain: the rest of the run can deliver nothing
  have hp := (lawful_append owed post [] _ (by rwa [List.append_nil]) h2).1
  have : delivered post = 0 := by omega
  exact List.sum_eq_zero_iff_forall_eq_nat.mp this _ (List.mem_map_of_mem he)

end Soxr.Lsr
