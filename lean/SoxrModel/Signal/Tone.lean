/-
  Tone response of an (L,M)-shift-covariant linear system (area `Signal`; used by C01 and C02).

  For the tone `x[n] = zⁿ` the response satisfies `y[k+L] = z^M · y[k]` (`tone_step`).  If `w` is the same
  continuous-time tone at the output rate (`w^L = z^M`), the modulation `c[k] = y[k] / w^k` (`coef`) is L-periodic
  beyond the start-up horizon (`coef_periodic`), so

      y[k] = c[k₀ + (k − k₀) mod L] · w^k          (`tone_response`)

  — `L` numbers per frequency, each a finite Fourier sum of one row.  For `|z| = 1` the step law makes the size of the
  deviation from `G·w^k`, or from silence, L-periodic too (`tone_dev_periodic`), and `|y[k] − G·w^k| = |c[k] − G|` for
  `|w| = 1` (`tone_error_eq_coef`).  Consequently

  the error of a tone over the whole stream is decided by one period (`tone_error_le_iff`, `tone_error_sup_attained`);
  by superposition every finite sum of tones obeys the amplitude-weighted bound (`tones_error_le`); stop-band tones are
  bounded by `max_r |c_r|` (`tones_level_le`); and every image / alias line of the period (a zero-sum, unimodular
  weighting of `c`) is bounded by `max_r |c_r − G|` (`image_line_le`).  No coprimality of `L` and `M` is needed.
-/
import SoxrModel.Signal.Linear
import Mathlib.Analysis.Normed.Field.Basic
import Mathlib.Data.Int.Interval

namespace Soxr.Signal

open Finset

/-- A function that repeats with period `L` on a region `P` of indices closed under `+ L` (everything from a horizon on
for `CovFrom`, all of ℤ for `Cov`) takes the same value at any two points of `P` that differ by a multiple of `L`. -/
theorem eq_of_periodic_on {α : Type*} {f : ℤ → α} {L : ℤ} {P : ℤ → Prop} (hP : ∀ k, P k → P (k + L))
    (h : ∀ k, P k → f (k + L) = f k) {p q : ℤ} (hp : P p) (hq : P q) (hd : L ∣ q - p) : f p = f q := by
  obtain ⟨c, hc⟩ := hd
  obtain ⟨j, rfl | rfl⟩ := c.eq_nat_or_neg
  · rw [← invariant_nsmul hP h j p hp, nsmul_eq_mul, mul_comm, ← hc, add_sub_cancel]
  · rw [← invariant_nsmul hP h j q hq, nsmul_eq_mul, mul_comm, ← neg_neg (L * j), ← mul_neg, ← hc, neg_sub,
      add_sub_cancel]

theorem eq_mod_of_periodic_on {α : Type*} {f : ℤ → α} {L : ℤ} {P : ℤ → Prop} (hL : 0 < L) (hP : ∀ k, P k → P (k + L))
    (h : ∀ k, P k → f (k + L) = f k) {k₀ k : ℤ} (h₀ : ∀ j, k₀ ≤ j → P j) (hk : P k) :
    f k = f (k₀ + (k - k₀) % L) :=
  (eq_of_periodic_on hP h (h₀ _ (le_add_of_nonneg_right (Int.emod_nonneg _ hL.ne'))) hk
    (by rw [sub_add_eq_sub_sub]; exact Int.dvd_self_sub_of_emod_eq rfl)).symm

theorem eq_mod_of_periodic_from {α : Type*} (f : ℤ → α) {L k₀ : ℤ} (hL : 0 < L)
    (h : ∀ k, k₀ ≤ k → f (k + L) = f k) {k : ℤ} (hk : k₀ ≤ k) : f k = f (k₀ + (k - k₀) % L) :=
  eq_mod_of_periodic_on hL (fun _ hk => le_add_of_le_of_nonneg hk hL.le) h (fun _ hj => hj) hk

theorem forall_le_iff_one_period {f : ℤ → ℝ} {L k₀ : ℤ} (hL : 0 < L) (h : ∀ k, k₀ ≤ k → f (k + L) = f k) (ε : ℝ) :
    (∀ k, k₀ ≤ k → f k ≤ ε) ↔ ∀ r, 0 ≤ r → r < L → f (k₀ + r) ≤ ε :=
  ⟨fun H r hr _ => H _ (le_add_of_nonneg_right hr), fun H k hk => by
    rw [eq_mod_of_periodic_from f hL h hk]
    exact H _ (Int.emod_nonneg _ hL.ne') (Int.emod_lt_of_pos _ hL)⟩

theorem exists_max_one_period {f : ℤ → ℝ} {L k₀ : ℤ} (hL : 0 < L) (h : ∀ k, k₀ ≤ k → f (k + L) = f k) :
    ∃ r, 0 ≤ r ∧ r < L ∧ ∀ k, k₀ ≤ k → f k ≤ f (k₀ + r) := by
  obtain ⟨r, hr, hmax⟩ := (Finset.Ico 0 L).exists_max_image (fun r => f (k₀ + r)) ⟨0, Finset.mem_Ico.mpr ⟨le_rfl, hL⟩⟩
  rw [Finset.mem_Ico] at hr
  refine ⟨r, hr.1, hr.2, fun k hk => ?_⟩
  rw [eq_mod_of_periodic_from f hL h hk]
  exact hmax _ (Finset.mem_Ico.mpr ⟨Int.emod_nonneg _ hL.ne', Int.emod_lt_of_pos _ hL⟩)

theorem norm_zpow_of_norm_one {𝕜 : Type*} [NormedField 𝕜] {w : 𝕜} (hw1 : ‖w‖ = 1) (k : ℤ) : ‖w ^ k‖ = 1 := by
  rw [norm_zpow, hw1, one_zpow]

theorem ne_zero_of_norm_one {𝕜 : Type*} [NormedField 𝕜] {w : 𝕜} (hw1 : ‖w‖ = 1) : w ≠ 0 :=
  norm_pos_iff.mp (hw1 ▸ one_pos)

namespace Kernel

section Algebra

variable {𝕜 : Type*} [Field 𝕜] (K : Kernel 𝕜)

/-- The two-sided complex tone `x[n] = zⁿ`. -/
def tone (z : 𝕜) : ℤ → 𝕜 := fun n => z ^ n

theorem CovFrom.tone_step {K : Kernel 𝕜} {L M k₀ : ℤ} (h : K.CovFrom L M k₀) {z : 𝕜} (hz : z ≠ 0) {k : ℤ}
    (hk : k₀ ≤ k) : K.resp (tone z) (k + L) = z ^ M * K.resp (tone z) k := by
  -- the tone is `z^M` times itself delayed by `M`
  have e : tone z = fun n => z ^ M * delay M (tone z) n :=
    funext fun n => by rw [delay, tone, tone, ← zpow_add₀ hz, add_sub_cancel]
  conv_lhs => rw [e]
  rw [K.resp_mul_left, h.resp_delay _ hk]

theorem Cov.tone_step {K : Kernel 𝕜} {L M : ℤ} (h : K.Cov L M) {z : 𝕜} (hz : z ≠ 0) (k : ℤ) :
    K.resp (tone z) (k + L) = z ^ M * K.resp (tone z) k :=
  (h.covFrom k).tone_step hz le_rfl

/-- The modulation of the tone response by the output-rate tone `w`: `c[k] = y[k] / w^k`.
Written out, `c[k] = w^{-k} · Σₙ g[k,n]·zⁿ`: a finite Fourier sum of row `k`. -/
def coef (z w : 𝕜) (k : ℤ) : 𝕜 := (w ^ k)⁻¹ * K.resp (tone z) k

theorem coef_eq_sum (z w : 𝕜) (k : ℤ) :
    K.coef z w k = (w ^ k)⁻¹ * ∑ n ∈ (K.row k).support, K.row k n * z ^ n := rfl

theorem resp_tone_eq {z w : 𝕜} (hw : w ≠ 0) (k : ℤ) : K.resp (tone z) k = K.coef z w k * w ^ k := by
  rw [coef, mul_comm, mul_inv_cancel_left₀ (zpow_ne_zero k hw)]

theorem CovFrom.coef_periodic {K : Kernel 𝕜} {L M k₀ : ℤ} (h : K.CovFrom L M k₀) {z w : 𝕜} (hz : z ≠ 0) (hw : w ≠ 0)
    (hwz : w ^ L = z ^ M) {k : ℤ} (hk : k₀ ≤ k) : K.coef z w (k + L) = K.coef z w k := by
  rw [coef, coef, h.tone_step hz hk, zpow_add₀ hw, hwz, mul_inv, mul_assoc, inv_mul_cancel_left₀ (zpow_ne_zero M hz)]

theorem CovFrom.tone_response {K : Kernel 𝕜} {L M k₀ : ℤ} (h : K.CovFrom L M k₀) (hL : 0 < L) {z w : 𝕜} (hz : z ≠ 0)
    (hw : w ≠ 0) (hwz : w ^ L = z ^ M) {k : ℤ} (hk : k₀ ≤ k) :
    K.resp (tone z) k = K.coef z w (k₀ + (k - k₀) % L) * w ^ k := by
  rw [K.resp_tone_eq hw k, eq_mod_of_periodic_from _ hL (fun _ => h.coef_periodic hz hw hwz) hk]

theorem Cov.tone_response {K : Kernel 𝕜} {L M : ℤ} (h : K.Cov L M) (hL : 0 < L) {z w : 𝕜} (hz : z ≠ 0) (hw : w ≠ 0)
    (hwz : w ^ L = z ^ M) (k : ℤ) : K.resp (tone z) k = K.coef z w (k % L) * w ^ k := by
  -- negative `k` included: `coef` is periodic on all of ℤ, so the region is everything and the period may start at 0
  have e := eq_mod_of_periodic_on (f := K.coef z w) (P := fun _ => True) hL (fun _ _ => trivial)
    (fun k _ => (h.covFrom k).coef_periodic hz hw hwz le_rfl) (k₀ := 0) (fun _ _ => trivial) (k := k) trivial
  rw [K.resp_tone_eq hw k, e, zero_add, sub_zero]

end Algebra

section Norm

variable {𝕜 : Type*} [NormedField 𝕜] (K : Kernel 𝕜)

theorem tone_error_eq_coef {z w : 𝕜} (hw1 : ‖w‖ = 1) (G : 𝕜) (k : ℤ) :
    ‖K.resp (tone z) k - G * w ^ k‖ = ‖K.coef z w k - G‖ := by
  rw [K.resp_tone_eq (ne_zero_of_norm_one hw1) k, ← sub_mul, norm_mul, norm_zpow_of_norm_one hw1, mul_one]

/-- Measured against any target sequence `t` that advances like the tone response itself (`t[k+L] = z^M·t[k]`: the
output-rate tone `G·w^k` with `w^L = z^M`, or silence), the deviation of the response is multiplied by the unimodular
`z^M` from one period to the next, so its size is L-periodic beyond the horizon. -/
theorem CovFrom.tone_dev_periodic {K : Kernel 𝕜} {L M k₀ : ℤ} (h : K.CovFrom L M k₀) {z : 𝕜} (hz1 : ‖z‖ = 1)
    {t : ℤ → 𝕜} (ht : ∀ k, t (k + L) = z ^ M * t k) {k : ℤ} (hk : k₀ ≤ k) :
    ‖K.resp (tone z) (k + L) - t (k + L)‖ = ‖K.resp (tone z) k - t k‖ := by
  rw [h.tone_step (ne_zero_of_norm_one hz1) hk, ht, ← mul_sub, norm_mul, norm_zpow_of_norm_one hz1, one_mul]

theorem CovFrom.tone_error_periodic {K : Kernel 𝕜} {L M k₀ : ℤ} (h : K.CovFrom L M k₀) {z w : 𝕜} (hz1 : ‖z‖ = 1)
    (hw1 : ‖w‖ = 1) (hwz : w ^ L = z ^ M) (G : 𝕜) {k : ℤ} (hk : k₀ ≤ k) :
    ‖K.resp (tone z) (k + L) - G * w ^ (k + L)‖ = ‖K.resp (tone z) k - G * w ^ k‖ :=
  h.tone_dev_periodic hz1 (t := fun k => G * w ^ k)
    (fun k => by rw [zpow_add₀ (ne_zero_of_norm_one hw1), hwz, mul_comm (w ^ k), mul_left_comm]) hk

/-- **The error of a tone over the whole stream is decided by one period.** -/
theorem CovFrom.tone_error_le_iff {K : Kernel 𝕜} {L M k₀ : ℤ} (h : K.CovFrom L M k₀) (hL : 0 < L) {z w : 𝕜}
    (hz1 : ‖z‖ = 1) (hw1 : ‖w‖ = 1) (hwz : w ^ L = z ^ M) (G : 𝕜) (ε : ℝ) :
    (∀ k, k₀ ≤ k → ‖K.resp (tone z) k - G * w ^ k‖ ≤ ε) ↔
      (∀ r, 0 ≤ r → r < L → ‖K.coef z w (k₀ + r) - G‖ ≤ ε) := by
  simp only [← K.tone_error_eq_coef hw1 G]
  exact forall_le_iff_one_period hL (fun _ => h.tone_error_periodic hz1 hw1 hwz G) ε

/-- `sup_k |y[k] − G·w^k| = max_r |c_r − G|`, and the supremum is attained within the first period. -/
theorem CovFrom.tone_error_sup_attained {K : Kernel 𝕜} {L M k₀ : ℤ} (h : K.CovFrom L M k₀) (hL : 0 < L) {z w : 𝕜}
    (hz1 : ‖z‖ = 1) (hw1 : ‖w‖ = 1) (hwz : w ^ L = z ^ M) (G : 𝕜) :
    ∃ r, 0 ≤ r ∧ r < L ∧ ∀ k, k₀ ≤ k →
      ‖K.resp (tone z) k - G * w ^ k‖ ≤ ‖K.resp (tone z) (k₀ + r) - G * w ^ (k₀ + r)‖ :=
  exists_max_one_period hL fun _ => h.tone_error_periodic hz1 hw1 hwz G

/-- **Stop-band form**: the level of a tone over the whole stream is decided by one period. -/
theorem CovFrom.tone_level_le_iff {K : Kernel 𝕜} {L M k₀ : ℤ} (h : K.CovFrom L M k₀) (hL : 0 < L) {z : 𝕜}
    (hz1 : ‖z‖ = 1) (ε : ℝ) :
    (∀ k, k₀ ≤ k → ‖K.resp (tone z) k‖ ≤ ε) ↔ (∀ r, 0 ≤ r → r < L → ‖K.resp (tone z) (k₀ + r)‖ ≤ ε) := by
  refine forall_le_iff_one_period hL (fun k hk => ?_) ε
  simpa only [sub_zero] using h.tone_dev_periodic hz1 (t := fun _ => 0) (fun _ => (mul_zero _).symm) hk

/-- Superposition and the triangle inequality: a combination of signals misses the same combination of targets by at
most the amplitude-weighted sum of the single deviations. -/
theorem resp_linear_comb_sub_le {ι : Type*} (s : Finset ι) (a : ι → 𝕜) (x : ι → ℤ → 𝕜) (t : ι → 𝕜) (ε : ι → ℝ) (k : ℤ)
    (h : ∀ i ∈ s, ‖K.resp (x i) k - t i‖ ≤ ε i) :
    ‖K.resp (fun n => ∑ i ∈ s, a i * x i n) k - ∑ i ∈ s, a i * t i‖ ≤ ∑ i ∈ s, ‖a i‖ * ε i := by
  rw [K.resp_linear_comb, ← Finset.sum_sub_distrib]
  refine norm_sum_le_of_le _ fun i hi => ?_
  rw [← mul_sub, norm_mul]
  exact mul_le_mul_of_nonneg_left (h i hi) (norm_nonneg _)

/-- **Superposition of tones.** The one-period bounds `εᵢ` of the single tones give the amplitude-weighted bound
`Σ |aᵢ|·εᵢ` for their sum at EVERY output index beyond the horizon. -/
theorem CovFrom.tones_error_le {K : Kernel 𝕜} {L M k₀ : ℤ} (h : K.CovFrom L M k₀) (hL : 0 < L) {ι : Type*}
    (s : Finset ι) (a z w G : ι → 𝕜) (ε : ι → ℝ)
    (hz1 : ∀ i ∈ s, ‖z i‖ = 1) (hw1 : ∀ i ∈ s, ‖w i‖ = 1) (hwz : ∀ i ∈ s, w i ^ L = z i ^ M)
    (hε : ∀ i ∈ s, ∀ r, 0 ≤ r → r < L → ‖K.coef (z i) (w i) (k₀ + r) - G i‖ ≤ ε i) {k : ℤ} (hk : k₀ ≤ k) :
    ‖K.resp (fun n => ∑ i ∈ s, a i * tone (z i) n) k - ∑ i ∈ s, a i * (G i * w i ^ k)‖ ≤ ∑ i ∈ s, ‖a i‖ * ε i :=
  K.resp_linear_comb_sub_le s a _ _ ε k fun i hi =>
    (h.tone_error_le_iff hL (hz1 i hi) (hw1 i hi) (hwz i hi) (G i) (ε i)).mpr (hε i hi) k hk

/-- **Stop-band form** (`G = 0`). -/
theorem CovFrom.tones_level_le {K : Kernel 𝕜} {L M k₀ : ℤ} (h : K.CovFrom L M k₀) (hL : 0 < L) {ι : Type*}
    (s : Finset ι) (a z w : ι → 𝕜) (ε : ι → ℝ)
    (hz1 : ∀ i ∈ s, ‖z i‖ = 1) (hw1 : ∀ i ∈ s, ‖w i‖ = 1) (hwz : ∀ i ∈ s, w i ^ L = z i ^ M)
    (hε : ∀ i ∈ s, ∀ r, 0 ≤ r → r < L → ‖K.coef (z i) (w i) (k₀ + r)‖ ≤ ε i) {k : ℤ} (hk : k₀ ≤ k) :
    ‖K.resp (fun n => ∑ i ∈ s, a i * tone (z i) n) k‖ ≤ ∑ i ∈ s, ‖a i‖ * ε i := by
  simpa only [sub_zero, zero_mul, mul_zero, Finset.sum_const_zero] using
    h.tones_error_le hL s a z w (fun _ => 0) ε hz1 hw1 hwz (by simpa only [sub_zero] using hε) hk

/-- The same with the level of each tone read off its response `y_{zᵢ}[k₀ + r]` instead of `c_r(zᵢ)`: no output-rate
tone `w` has to be named. -/
theorem CovFrom.tones_level_le_of_resp {K : Kernel 𝕜} {L M k₀ : ℤ} (h : K.CovFrom L M k₀) (hL : 0 < L) {ι : Type*}
    (s : Finset ι) (a z : ι → 𝕜) (ε : ι → ℝ) (hz1 : ∀ i ∈ s, ‖z i‖ = 1)
    (hε : ∀ i ∈ s, ∀ r, 0 ≤ r → r < L → ‖K.resp (tone (z i)) (k₀ + r)‖ ≤ ε i) {k : ℤ} (hk : k₀ ≤ k) :
    ‖K.resp (fun n => ∑ i ∈ s, a i * tone (z i) n) k‖ ≤ ∑ i ∈ s, ‖a i‖ * ε i := by
  simpa only [sub_zero, mul_zero, Finset.sum_const_zero] using
    K.resp_linear_comb_sub_le s a _ (fun _ => 0) ε k fun i hi => by
      simpa only [sub_zero] using (h.tone_level_le_iff hL (hz1 i hi) (ε i)).mpr (hε i hi) k hk

/-- **Image / alias lines.** Within one period the sequence `c_r` decomposes into its mean (the gain at the wanted
frequency) and `L − 1` further lines (the images when up-sampling, the aliases when down-sampling); each line is a
weighting of `c` by unimodular weights that sum to zero (`u_r = ζ^{-mr}` for the m-th line, ζ a primitive L-th root of
unity).  Every such line is bounded by the deviation of the period from ANY constant `G`:
`|Σ_r c_r·u_r| ≤ L · max_r |c_r − G|`. -/
theorem image_line_le {ι : Type*} (s : Finset ι) (c u : ι → 𝕜) (G : 𝕜) (ε : ℝ)
    (hu0 : ∑ r ∈ s, u r = 0) (hu1 : ∀ r ∈ s, ‖u r‖ ≤ 1) (hc : ∀ r ∈ s, ‖c r - G‖ ≤ ε) :
    ‖∑ r ∈ s, c r * u r‖ ≤ s.card * ε := by
  -- the weights sum to zero, so the constant `G` contributes nothing to the line
  have e : ∑ r ∈ s, c r * u r = ∑ r ∈ s, (c r - G) * u r := by
    simp only [sub_mul, Finset.sum_sub_distrib, ← Finset.mul_sum, hu0, mul_zero, sub_zero]
  rw [e, ← nsmul_eq_mul]
  refine (norm_sum_le _ _).trans (Finset.sum_le_card_nsmul _ _ _ fun r hr => ?_)
  rw [norm_mul]
  exact (mul_le_of_le_one_right (norm_nonneg _) (hu1 r hr)).trans (hc r hr)

end Norm

end Kernel

end Soxr.Signal
