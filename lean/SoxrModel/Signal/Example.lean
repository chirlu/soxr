/-
  A concrete small covariant kernel for the non-vacuity examples of C01 / C02 / C12: the two-tap linear interpolator
  that doubles the rate (L = 2, M = 1):  y[2j] = x[j],  y[2j+1] = (x[j] + x[j+1]) / 2.
-/
import SoxrModel.Signal.Linear
import Mathlib.Algebra.Field.Defs

namespace Soxr.Signal

open Finset

variable (𝕜 : Type*) [Field 𝕜]

/-- The ×2 linear interpolator. -/
noncomputable def interp2 : Kernel 𝕜 where
  row k := if k % 2 = 0 then Finsupp.single (k / 2) 1
           else Finsupp.single ((k - 1) / 2) (2⁻¹ : 𝕜) + Finsupp.single ((k + 1) / 2) (2⁻¹ : 𝕜)

variable {𝕜}

theorem interp2_resp (x : ℤ → 𝕜) (k : ℤ) :
    (interp2 𝕜).resp x k = if k % 2 = 0 then x (k / 2) else 2⁻¹ * x ((k - 1) / 2) + 2⁻¹ * x ((k + 1) / 2) := by
  rw [Kernel.resp_eq_sum, interp2, apply_ite (Finsupp.sum · fun n c => c * x n),
    Finsupp.sum_add_index' (fun _ => zero_mul _) fun _ _ _ => add_mul _ _ _,
    Finsupp.sum_single_index (zero_mul _), Finsupp.sum_single_index (zero_mul _),
    Finsupp.sum_single_index (zero_mul _), one_mul]

theorem interp2_cov : (interp2 𝕜).Cov 2 1 := by
  intro k n
  have e : ∀ j : ℤ, (j + 2) / 2 = j / 2 + 1 := fun j => by omega
  simp only [interp2, Int.add_emod_right, add_sub_right_comm k 2 1, add_right_comm k 2 1, e]
  split <;> simp only [Finsupp.add_apply, Finsupp.single_apply, add_left_inj]

/-- A constant is reproduced exactly (every row sums to one) when `2 ≠ 0`. -/
theorem interp2_const (h2 : (2 : 𝕜) ≠ 0) (c : 𝕜) (k : ℤ) : (interp2 𝕜).resp (fun _ => c) k = c := by
  rw [interp2_resp]
  split
  · rfl
  · rw [← mul_add, ← two_mul, inv_mul_cancel_left₀ h2]

theorem interp2_rowSum (h2 : (2 : 𝕜) ≠ 0) (k : ℤ) : (interp2 𝕜).rowSum k = 1 :=
  ((interp2 𝕜).dc_unity_iff.mp fun c k => interp2_const h2 c k) k

end Soxr.Signal
