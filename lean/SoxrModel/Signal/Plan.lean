/-
  The constant-rate stage plan as a pipeline of linear stages (area `Signal`; used by C12 and, through the
  implementation period, by C01 / C02).

  `run` over a list of stages is the response of ONE kernel (`pipeline`), hence linear, and the gains folded into the
  stages' coefficient tables factor out as their product (`run_gains`).

  `handOver` is `_soxr_init`'s treatment of `multiplier` (cr.c): the variable is handed by reference to each *designed*
  stage in pipeline order (pre DFT stage, arbitrary stage, post DFT stage); the first one folds it into its
  coefficients and resets it to 1; half-band stages use static tables and never see it; with no stage at all and a
  gain ≠ 1 a cubic arbitrary stage is forced (`Shape.force`).

  `implPeriod` is the plan's *implementation period*: the least input shift that every stage maps to a whole output
  shift (e.g. `÷2` then `2/5` gives (2,10), not (1,5)); a pipeline of covariant stages is covariant at it.
-/
import SoxrModel.Signal.Linear

namespace Soxr.Signal

namespace Kernel

variable {R : Type*} [CommSemiring R]

theorem run_append (A B : List (Kernel R)) (x : ℤ → R) : run (A ++ B) x = run B (run A x) := by
  induction A generalizing x with
  | nil => rfl
  | cons K A ih => exact ih (K.resp x)

theorem run_add (Ks : List (Kernel R)) (x y : ℤ → R) :
    run Ks (fun n => x n + y n) = fun k => run Ks x k + run Ks y k := by
  simp only [← resp_pipeline]
  exact funext (resp_add _ x y)

theorem run_mul_left (Ks : List (Kernel R)) (a : R) (x : ℤ → R) :
    run Ks (fun n => a * x n) = fun k => a * run Ks x k := by
  simp only [← resp_pipeline]
  exact funext (resp_mul_left _ a x)

/-- Stages given as (gain folded into the table, unit-gain kernel): the gains factor out as their product, wherever in
the pipeline they sit. -/
theorem run_gains (st : List (R × Kernel R)) (x : ℤ → R) :
    run (st.map fun p => smul p.1 p.2) x = fun k => (st.map Prod.fst).prod * run (st.map Prod.snd) x k := by
  induction st generalizing x with
  | nil => exact funext fun k => (one_mul _).symm
  | cons p st ih =>
    show run _ ((smul p.1 p.2).resp x) = _
    rw [funext (p.2.resp_smul p.1 x), run_mul_left, ih]
    simp only [List.map_cons, List.prod_cons, mul_assoc, run]

end Kernel

/-- Which designed stages a plan has, and how many half-band decimators precede them. -/
structure Shape where
  shr : ℕ
  pre : Bool
  arb : Bool
  post : Bool
deriving DecidableEq, Repr

namespace Shape

def numStages (s : Shape) : ℕ := s.shr + s.pre.toNat + s.arb.toNat + s.post.toNat

def hasDesigned (s : Shape) : Bool := s.pre || s.arb || s.post

theorem numStages_eq_zero_iff (s : Shape) : s.numStages = 0 ↔ s.shr = 0 ∧ s.hasDesigned = false := by
  simp only [numStages, hasDesigned, Nat.add_eq_zero_iff, Bool.toNat_eq_zero, Bool.or_eq_false_iff, and_assoc]

/-- `if (!p->num_stages && multiplier != 1) { bits = arbL = 0; ++p->num_stages; }`: with nothing to carry a non-unit gain,
a cubic arbitrary stage is created for it. -/
def force {R : Type*} [One R] [DecidableEq R] (s : Shape) (m : R) : Shape :=
  if s.numStages = 0 ∧ m ≠ 1 then { s with arb := true } else s

end Shape

/-- One designed stage takes the current value of the variable `multiplier` and resets it to 1 (`*multiplier = 1` in
`dft_stage_init`; `s->mult = multiplier, multiplier = 1` / `prepare_poly_fir_coefs(…, multiplier, …); multiplier = 1`
for the arbitrary stage); an absent stage leaves it alone.  Returns (gain of this stage, value handed on). -/
def takeGain {R : Type*} [One R] (present : Bool) (m : R) : R × R := if present then (m, 1) else (1, m)

/-- (gain of the pre stage, of the arbitrary stage, of the post stage, value left in `multiplier` at the end). -/
def handOver {R : Type*} [One R] (s : Shape) (m : R) : R × R × R × R :=
  let a := takeGain s.pre m
  let b := takeGain s.arb a.2
  let c := takeGain s.post b.2
  (a.1, b.1, c.1, c.2)

theorem takeGain_true {R : Type*} [One R] (m : R) : takeGain true m = (m, 1) := rfl

theorem takeGain_false {R : Type*} [One R] (m : R) : takeGain false m = (1, m) := rfl

/-- Once the variable is 1 nothing happens any more: this is why the gain is applied once only. -/
theorem takeGain_one {R : Type*} [One R] (present : Bool) : takeGain present (1 : R) = (1, 1) := by
  cases present <;> rfl

theorem handOver_one {R : Type*} [One R] (s : Shape) : handOver s (1 : R) = (1, 1, 1, 1) := by
  simp only [handOver, takeGain_one]

/-- The gain sits on exactly one designed stage (the first in pipeline order); without a designed stage it is left over. -/
theorem handOver_once {R : Type*} [One R] (s : Shape) (m : R) :
    (s.pre = true ∧ handOver s m = (m, 1, 1, 1)) ∨
    (s.pre = false ∧ s.arb = true ∧ handOver s m = (1, m, 1, 1)) ∨
    (s.pre = false ∧ s.arb = false ∧ s.post = true ∧ handOver s m = (1, 1, m, 1)) ∨
    (s.hasDesigned = false ∧ handOver s m = (1, 1, 1, m)) := by
  rcases s with ⟨shr, pre, arb, post⟩
  -- the first designed stage takes `m`; every later one is handed 1 and so takes 1, present or not
  cases pre
  · cases arb
    · cases post
      · exact Or.inr (Or.inr (Or.inr ⟨rfl, rfl⟩))
      · exact Or.inr (Or.inr (Or.inl ⟨rfl, rfl, rfl, rfl⟩))
    · exact Or.inr (Or.inl ⟨rfl, rfl, by simp only [handOver, takeGain_false, takeGain_true, takeGain_one]⟩)
  · exact Or.inl ⟨rfl, by simp only [handOver, takeGain_true, takeGain_one]⟩

/-- With a designed stage the product of the stage gains is the requested gain and nothing is left over. -/
theorem handOver_prod {R : Type*} [CommSemiring R] (s : Shape) (m : R) (h : s.hasDesigned = true) :
    (handOver s m).1 * (handOver s m).2.1 * (handOver s m).2.2.1 = m ∧ (handOver s m).2.2.2 = 1 := by
  rcases handOver_once s m with ⟨_, e⟩ | ⟨_, _, e⟩ | ⟨_, _, _, e⟩ | ⟨hn, _⟩
  · simp only [e, mul_one, and_self]
  · simp only [e, one_mul, mul_one, and_self]
  · simp only [e, one_mul, and_self]
  · exact absurd h (hn ▸ Bool.false_ne_true)

/-- After `force`, a plan either has a designed stage, or has no stage at all and the gain is 1 (the signal is
copied), provided the planner never produces half-band stages alone (hypothesis `hd`, checked on every exported plan). -/
theorem force_carries {R : Type*} [One R] [DecidableEq R] (s : Shape) (m : R)
    (hd : 0 < s.shr → s.hasDesigned = true) :
    (s.force m).hasDesigned = true ∨ ((s.force m).numStages = 0 ∧ m = 1) := by
  unfold Shape.force
  split_ifs with h
  · exact Or.inl (by simp only [Shape.hasDesigned, Bool.or_true, Bool.true_or])
  · by_cases hs : s.numStages = 0
    · exact Or.inr ⟨hs, by_contra fun hm => h ⟨hs, hm⟩⟩
    · -- some stage exists: a designed one, or a half-band one, which `hd` says never comes alone
      refine Or.inl (by_contra fun hn => hs (s.numStages_eq_zero_iff.2 ⟨?_, eq_false_of_ne_true hn⟩))
      exact Nat.eq_zero_of_not_pos fun hp => hn (hd hp)

/-- Stage rate changes `(Lᵢ, Mᵢ)` (output shift, input shift) in pipeline order ↦ the least period `(L_P, M_P)` that
every stage maps to a whole shift. -/
def implPeriod : List (ℕ × ℕ) → ℕ × ℕ
  | [] => (1, 1)
  | (L, M) :: rest =>
    let p := implPeriod rest
    let c := Nat.lcm L p.2
    (p.1 * (c / p.2), M * (c / L))

namespace Kernel

variable {R : Type*} [CommSemiring R]

/-- A pipeline of covariant stages is covariant at the implementation period of its stage list: a multi-stage plan is
ONE linear periodically time-varying system. -/
theorem pipeline_cov (st : List (Kernel R × ℕ × ℕ)) (h : ∀ t ∈ st, t.1.Cov t.2.1 t.2.2) :
    (pipeline (st.map fun t => t.1)).Cov (implPeriod (st.map fun t => t.2)).1 (implPeriod (st.map fun t => t.2)).2 := by
  induction st with
  | nil => exact one_cov 1
  | cons t st ih =>
    obtain ⟨K, L, M⟩ := t
    have ih' := ih fun u hu => h u (List.mem_cons_of_mem _ hu)
    have ht : K.Cov L M := h _ List.mem_cons_self
    set p := implPeriod (st.map fun t => t.2)
    -- the two periods meet at `lcm L p.2`, and both quotients are exact
    have hab : (p.2 : ℤ) * (Nat.lcm L p.2 / p.2 : ℕ) = (L : ℤ) * (Nat.lcm L p.2 / L : ℕ) := by
      rw [← Nat.cast_mul, ← Nat.cast_mul, Nat.mul_div_cancel' (Nat.dvd_lcm_right L p.2),
        Nat.mul_div_cancel' (Nat.dvd_lcm_left L p.2)]
    simpa only [List.map_cons, pipeline, implPeriod, Nat.cast_mul] using ih'.comp ht _ _ hab

end Kernel

end Soxr.Signal
