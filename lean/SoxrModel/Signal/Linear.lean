/-
  Linear systems with finitely supported rows (area `Signal`; used by C01, C02, C12).

  A constant-rate resampler whose kernels are ring-linear (FIR dot product, DFT block = circular convolution, cubic
  with fixed coefficients per phase) computes, in exact arithmetic,

      y[k] = Σₙ g[k,n] · x[n]            (every row `g[k,·]` finitely supported)

  with coefficients that depend on the output index `k` only, never on the data.  Over any commutative semiring such
  a system is linear in `x`.  What makes it a resampler is (L,M)-shift covariance `g[k+L, n+M] = g[k,n]`, everywhere
  (`Cov`) or beyond a start-up horizon (`CovFrom`): delaying the input by `M` then delays the output by `L`.  Stages
  compose to a system of the same kind, covariant at the period on which the two stages' periods align — which is
  what makes a multi-stage plan *one* linear periodically time-varying system with the plan's implementation period —
  and a gain folded into any one stage is a gain of the whole.

  Nothing here knows about floating point: the real kernels satisfy these laws only up to rounding, which is what the
  measurement half of the checks quantifies.
-/
import Mathlib.Algebra.BigOperators.Finsupp.Basic
import Mathlib.Data.Finsupp.SMulWithZero

namespace Soxr.Signal

open Finset

theorem invariant_nsmul {A α : Type*} [AddMonoid A] {f : A → α} {v : A} {P : A → Prop} (hP : ∀ p, P p → P (p + v))
    (h : ∀ p, P p → f (p + v) = f p) (j : ℕ) : ∀ p, P p → f (p + j • v) = f p := by
  induction j with
  | zero => intro p _; rw [zero_nsmul, add_zero]
  | succ j ih => intro p hp; rw [succ_nsmul', ← add_assoc, ih _ (hP p hp), h p hp]

/-- A linear system `y[k] = Σₙ row k n · x[n]`, every row finitely supported. Indices are integers: `n` counts input
frames and `k` output frames from the start of the stream (negative indices = before the stream). -/
structure Kernel (R : Type*) [CommSemiring R] where
  row : ℤ → ℤ →₀ R

namespace Kernel

variable {R : Type*} [CommSemiring R] (K : Kernel R)

/-- Output frame `k` for input signal `x`. -/
def resp (x : ℤ → R) (k : ℤ) : R := ∑ n ∈ (K.row k).support, K.row k n * x n

/-- Sum of the coefficients of row `k` (the DC gain seen by output frame `k`). -/
def rowSum (k : ℤ) : R := ∑ n ∈ (K.row k).support, K.row k n

/-- The form in which Mathlib's lemmas on sums over a finitely supported function apply. -/
theorem resp_eq_sum (x : ℤ → R) (k : ℤ) : K.resp x k = (K.row k).sum fun n c => c * x n := rfl

theorem resp_eq_sum_of_subset {x : ℤ → R} {k : ℤ} {s : Finset ℤ} (h : (K.row k).support ⊆ s) :
    K.resp x k = ∑ n ∈ s, K.row k n * x n :=
  Finsupp.sum_of_support_subset _ h (fun n c => c * x n) fun _ _ => zero_mul _

theorem resp_congr {x y : ℤ → R} {k : ℤ} (h : ∀ n ∈ (K.row k).support, x n = y n) : K.resp x k = K.resp y k :=
  Finset.sum_congr rfl fun n hn => congrArg _ (h n hn)

theorem resp_add (x y : ℤ → R) (k : ℤ) : K.resp (fun n => x n + y n) k = K.resp x k + K.resp y k := by
  simp only [resp, mul_add, Finset.sum_add_distrib]

theorem resp_mul_left (a : R) (x : ℤ → R) (k : ℤ) : K.resp (fun n => a * x n) k = a * K.resp x k := by
  simp only [resp, Finset.mul_sum, mul_left_comm]

theorem resp_zero (k : ℤ) : K.resp (fun _ => 0) k = 0 := by
  simp only [resp, mul_zero, Finset.sum_const_zero]

theorem resp_sum {ι : Type*} (s : Finset ι) (x : ι → ℤ → R) (k : ℤ) :
    K.resp (fun n => ∑ i ∈ s, x i n) k = ∑ i ∈ s, K.resp (x i) k := by
  simp only [resp, Finset.mul_sum]
  exact Finset.sum_comm

theorem resp_linear_comb {ι : Type*} (s : Finset ι) (a : ι → R) (x : ι → ℤ → R) (k : ℤ) :
    K.resp (fun n => ∑ i ∈ s, a i * x i n) k = ∑ i ∈ s, a i * K.resp (x i) k := by
  simp only [resp_sum, resp_mul_left]

theorem resp_const (c : R) (k : ℤ) : K.resp (fun _ => c) k = c * K.rowSum k := by
  simp only [resp, rowSum, mul_comm c, Finset.sum_mul]

theorem dc_unity_iff : (∀ (c : R) (k : ℤ), K.resp (fun _ => c) k = c) ↔ ∀ k, K.rowSum k = 1 := by
  simp only [resp_const]
  exact ⟨fun h k => by simpa only [one_mul] using h 1 k, fun h c k => by rw [h, mul_one]⟩

/-- `x` delayed by `d` frames. -/
def delay (d : ℤ) (x : ℤ → R) : ℤ → R := fun n => x (n - d)

/-- (L,M)-shift covariance of the coefficients, everywhere. -/
def Cov (L M : ℤ) : Prop := ∀ k n, K.row (k + L) (n + M) = K.row k n

/-- (L,M)-shift covariance of the rows from output index `k₀` on (beyond the start-up horizon of the pipeline). -/
def CovFrom (L M k₀ : ℤ) : Prop := ∀ k, k₀ ≤ k → ∀ n, K.row (k + L) (n + M) = K.row k n

theorem Cov.covFrom {K : Kernel R} {L M : ℤ} (h : K.Cov L M) (k₀ : ℤ) : K.CovFrom L M k₀ :=
  fun k _ n => h k n

theorem cov_iff_forall_covFrom {L M : ℤ} : K.Cov L M ↔ ∀ k₀, K.CovFrom L M k₀ :=
  ⟨fun h k₀ => h.covFrom k₀, fun h k n => h k k le_rfl n⟩

theorem resp_delay_of_row {k L M : ℤ} (h : ∀ n, K.row (k + L) (n + M) = K.row k n) (x : ℤ → R) :
    K.resp (delay M x) (k + L) = K.resp x k := by
  -- row `k + L` is row `k` carried along `n ↦ n + M`, and a sum over it re-indexes accordingly
  have e : K.row (k + L) = (K.row k).embDomain ⟨(· + M), add_left_injective M⟩ := Finsupp.ext fun n => by
    rw [← sub_add_cancel n M, h]
    exact (Finsupp.embDomain_apply_self _ _ _).symm
  rw [resp_eq_sum, e, Finsupp.sum_embDomain]
  simp only [delay, Function.Embedding.coeFn_mk, add_sub_cancel_right, resp_eq_sum]

theorem CovFrom.resp_delay {K : Kernel R} {L M k₀ : ℤ} (h : K.CovFrom L M k₀) (x : ℤ → R) {k : ℤ} (hk : k₀ ≤ k) :
    K.resp (delay M x) (k + L) = K.resp x k :=
  K.resp_delay_of_row (h k hk) x

theorem Cov.resp_delay {K : Kernel R} {L M : ℤ} (h : K.Cov L M) (x : ℤ → R) (k : ℤ) :
    K.resp (delay M x) (k + L) = K.resp x k :=
  K.resp_delay_of_row (h k) x

/-- Covariance at a period is covariance at every multiple of it, on any region of output indices that the period maps
into itself: `(k, n) ↦ row k n` is invariant under `+ (L, M)` there. -/
theorem row_shift_mul_nat {L M : ℤ} {P : ℤ → Prop} (hP : ∀ k, P k → P (k + L))
    (h : ∀ k, P k → ∀ n, K.row (k + L) (n + M) = K.row k n) (j : ℕ) {k : ℤ} (hk : P k) (n : ℤ) :
    K.row (k + L * j) (n + M * j) = K.row k n := by
  simpa only [Prod.smul_mk, Prod.mk_add_mk, nsmul_eq_mul, mul_comm] using
    invariant_nsmul (f := fun p : ℤ × ℤ => K.row p.1 p.2) (v := (L, M)) (P := fun p => P p.1)
      (fun p => hP p.1) (fun p hp => h p.1 hp p.2) j (k, n) hk

theorem CovFrom.mul_nat {K : Kernel R} {L M k₀ : ℤ} (h : K.CovFrom L M k₀) (hL : 0 ≤ L) (j : ℕ) :
    K.CovFrom (L * j) (M * j) k₀ :=
  fun _ hk => K.row_shift_mul_nat (P := (k₀ ≤ ·)) (fun _ hk => le_add_of_le_of_nonneg hk hL) h j hk

theorem Cov.mul_nat {K : Kernel R} {L M : ℤ} (h : K.Cov L M) (j : ℕ) : K.Cov (L * j) (M * j) :=
  fun _ => K.row_shift_mul_nat (P := fun _ => True) (fun _ _ => trivial) (fun k _ => h k) j trivial

/-- The system with every coefficient multiplied by `a` (a stage that folds the gain into its coefficient table). -/
noncomputable def smul (a : R) (K : Kernel R) : Kernel R where
  row k := a • K.row k

theorem smul_row_apply (a : R) (k n : ℤ) : (smul a K).row k n = a * K.row k n := rfl

theorem resp_smul (a : R) (x : ℤ → R) (k : ℤ) : (smul a K).resp x k = a * K.resp x k := by
  have hs : ((smul a K).row k).support ⊆ (K.row k).support := Finsupp.support_smul
  rw [resp_eq_sum_of_subset _ hs, resp, Finset.mul_sum]
  simp only [smul_row_apply, mul_assoc]

theorem Cov.smul {K : Kernel R} {L M : ℤ} (h : K.Cov L M) (a : R) : (smul a K).Cov L M := by
  intro k n
  rw [smul_row_apply, smul_row_apply, h k n]

theorem CovFrom.smul {K : Kernel R} {L M k₀ : ℤ} (h : K.CovFrom L M k₀) (a : R) : (smul a K).CovFrom L M k₀ := by
  intro k hk n
  rw [smul_row_apply, smul_row_apply, h k hk n]

/-- `K₁` followed by `K₂` (the output stream of `K₁` is the input stream of `K₂`). -/
noncomputable def comp (K₂ K₁ : Kernel R) : Kernel R where
  row k := ∑ m ∈ (K₂.row k).support, K₂.row k m • K₁.row m

/-- Column `n` of the composition is `K₂`'s response to column `n` of `K₁`. -/
theorem comp_row_apply (K₂ K₁ : Kernel R) (k n : ℤ) : (K₂.comp K₁).row k n = K₂.resp (fun m => K₁.row m n) k :=
  Finsupp.finsetSum_apply _ _ _

theorem resp_comp (K₂ K₁ : Kernel R) (x : ℤ → R) (k : ℤ) :
    (K₂.comp K₁).resp x k = K₂.resp (K₁.resp x) k := by
  -- row `k` of the composition is the `K₂.row k`-weighted sum of the rows `c • K₁.row m`
  show ((K₂.row k).sum fun m c => c • K₁.row m).sum (fun n c => c * x n) = _
  rw [Finsupp.sum_sum_index (fun _ => zero_mul _) fun _ _ _ => add_mul _ _ _]
  exact Finset.sum_congr rfl fun m _ => K₁.resp_smul _ x m

/-- `Q`, `S`, `P`: the shift at the input, between the two stages, at the output.  `K₁` need only carry `Q` to `S` on
the rows that row `k` of `K₂` reads. -/
theorem comp_row_shift (K₂ K₁ : Kernel R) {k n P Q S : ℤ}
    (h₂ : ∀ m, K₂.row (k + P) (m + S) = K₂.row k m)
    (h₁ : ∀ m ∈ (K₂.row k).support, K₁.row (m + S) (n + Q) = K₁.row m n) :
    (K₂.comp K₁).row (k + P) (n + Q) = (K₂.comp K₁).row k n := by
  -- on the rows that `K₂.row (k + P)` reads, column `n + Q` of `K₁` is column `n` delayed by `S`
  rw [comp_row_apply, comp_row_apply, ← K₂.resp_delay_of_row h₂]
  refine K₂.resp_congr fun m hm => ?_
  have hm' : m - S ∈ (K₂.row k).support := by
    rwa [Finsupp.mem_support_iff, ← h₂, sub_add_cancel, ← Finsupp.mem_support_iff]
  simpa only [delay, sub_add_cancel] using h₁ _ hm'

/-- Two covariant stages whose periods are aligned (`K₁`'s output shift `L₁·b` is `K₂`'s input shift `M₂·a`) compose
to a covariant system with period `(L₂·a, M₁·b)`. -/
theorem Cov.comp {K₂ K₁ : Kernel R} {L₁ M₁ L₂ M₂ : ℤ} (h₂ : K₂.Cov L₂ M₂) (h₁ : K₁.Cov L₁ M₁) (a b : ℕ)
    (hab : M₂ * a = L₁ * b) : (K₂.comp K₁).Cov (L₂ * a) (M₁ * b) :=
  fun k n => comp_row_shift K₂ K₁ (h₂.mul_nat a k) fun m _ => hab ▸ h₁.mul_nat b m n

/-- The product period always works: `(L₂·L₁, M₁·M₂)` (for non-negative `L₁`, `M₂`). -/
theorem Cov.comp_prod {K₂ K₁ : Kernel R} {L₁ M₁ L₂ M₂ : ℕ} (h₂ : K₂.Cov L₂ M₂) (h₁ : K₁.Cov L₁ M₁) :
    (K₂.comp K₁).Cov ((L₂ : ℤ) * L₁) ((M₁ : ℤ) * M₂) :=
  h₂.comp h₁ L₁ M₂ (mul_comm _ _)

/-- The same beyond start-up horizons: `K₁` is covariant from its output index `k₁` on, `K₂` from `k₂` on, and the rows
of `K₂` from `k₂` on read `K₁`'s output only at indices `≥ k₁` (the horizon of a pipeline is where every stage has left
the part of its input stream that the previous stage's discarded pre-ringing would have touched). -/
theorem CovFrom.comp {K₂ K₁ : Kernel R} {L₁ M₁ L₂ M₂ k₁ k₂ : ℤ} (h₂ : K₂.CovFrom L₂ M₂ k₂) (h₁ : K₁.CovFrom L₁ M₁ k₁)
    (hL₁ : 0 ≤ L₁) (hL₂ : 0 ≤ L₂) (a b : ℕ) (hab : M₂ * a = L₁ * b)
    (hreads : ∀ k, k₂ ≤ k → ∀ m ∈ (K₂.row k).support, k₁ ≤ m) :
    (K₂.comp K₁).CovFrom (L₂ * a) (M₁ * b) k₂ :=
  fun k hk n => comp_row_shift K₂ K₁ (h₂.mul_nat hL₂ a k hk) fun m hm =>
    hab ▸ h₁.mul_nat hL₁ b m (hreads k hk m hm) n

/-- A gain folded into the second stage is a gain of the whole pipeline … -/
theorem comp_smul_left (a : R) (K₂ K₁ : Kernel R) (x : ℤ → R) (k : ℤ) :
    ((smul a K₂).comp K₁).resp x k = a * (K₂.comp K₁).resp x k := by
  rw [resp_comp, resp_smul, resp_comp]

/-- … and so is a gain folded into the first stage: it does not matter which single stage carries it. -/
theorem comp_smul_right (a : R) (K₂ K₁ : Kernel R) (x : ℤ → R) (k : ℤ) :
    (K₂.comp (smul a K₁)).resp x k = a * (K₂.comp K₁).resp x k := by
  rw [resp_comp, resp_comp, ← resp_mul_left]
  exact K₂.resp_congr fun m _ => K₁.resp_smul a x m

/-- The identity system (an absent stage). -/
noncomputable def one : Kernel R where
  row k := Finsupp.single k 1

theorem resp_one (x : ℤ → R) (k : ℤ) : (one : Kernel R).resp x k = x k := by
  show (Finsupp.single k (1 : R)).sum (fun n c => c * x n) = x k
  rw [Finsupp.sum_single_index (zero_mul _), one_mul]

theorem one_cov (L : ℤ) : (one : Kernel R).Cov L L := fun k n => by
  simp only [one, Finsupp.single_apply, add_left_inj]

/-- A pipeline: the head of the list is the first stage the signal passes through. -/
noncomputable def pipeline : List (Kernel R) → Kernel R
  | [] => one
  | K :: Ks => (pipeline Ks).comp K

/-- The stream after the stages of the list, applied in order. -/
def run : List (Kernel R) → (ℤ → R) → (ℤ → R)
  | [], x => x
  | K :: Ks, x => run Ks (K.resp x)

theorem resp_pipeline (Ks : List (Kernel R)) (x : ℤ → R) : (pipeline Ks).resp x = run Ks x := by
  induction Ks generalizing x with
  | nil => exact funext (resp_one x)
  | cons K Ks ih => exact (funext (resp_comp _ K x)).trans (ih _)

end Kernel

end Soxr.Signal
